/-
C05: the HCM detector on one assessment point equals the FKM guideline procedure; several
proportionally loaded points give every point what it gets alone.
-/
import Proofs.Lemmas.HCMC05
import Proofs.C04Basic

namespace PylifeVerif
open HCM
namespace C05

/-- columns of one point of a recorded hysteresis, without the running strain extremes -/
def proj (k : Nat) (h : Hyst) : List Int × Bool × Bool × Nat :=
  ([h.loadMin.getD k 0, h.loadMax.getD k 0, h.sMin.getD k 0, h.sMax.getD k 0, h.eMin.getD k 0, h.eMax.getD k 0],
   h.closed, h.zeroMean, h.run)

def projLF (k : Nat) (h : Hyst) : Int × Int := (h.eMinLF.getD k 0, h.eMaxLF.getD k 0)

/-- the guideline record of one point, from the model's record -/
def toG (h : Hyst) : Spec.GHyst :=
  { loadMin := rep h.loadMin, loadMax := rep h.loadMax, sMin := rep h.sMin, sMax := rep h.sMax,
    eMin := rep h.eMin, eMax := rep h.eMax, eMinLF := rep h.eMinLF, eMaxLF := rep h.eMaxLF,
    closed := h.closed, run := h.run }

def fedOf (st : State) (run : Nat) : List Int := (st.fed.filter (·.1 = run)).map fun f => rep f.2

theorem filter_ctrue {α : Type} (l : List α) : l.filter (fun _ => true) = l := List.filter_true l

theorem filter_cfalse {α : Type} (l : List α) : l.filter (fun _ => false) = [] := List.filter_false l

theorem fedOf_split (st : State) (ls1 ls2 : List Int)
    (h : st.fed = ls1.map (fun x => (1, [x])) ++ ls2.map (fun x => (2, [x]))) :
    fedOf st 1 = ls1 ∧ fedOf st 2 = ls2 := by
  unfold fedOf
  rw [h]
  constructor <;>
    simp [List.filter_append, List.filter_map, Function.comp_def, rep]

theorem guideline_of_isGuideline (law : Law) (st : State) (h : C05L.IsGuideline law st) :
    st.recs.map toG = (Spec.guideline law (fedOf st 1) (fedOf st 2)).recs ∧
    st.strainValues = (Spec.guideline law (fedOf st 1) (fedOf st 2)).strains := by
  obtain ⟨ls1, ls2, hrecs, hstr, hfed⟩ := h
  obtain ⟨h1, h2⟩ := fedOf_split st ls1 ls2 hfed
  rw [h1, h2]
  exact ⟨hrecs, hstr⟩ -- `hrecs` is about `C05L.toG'`, which unfolds to `toG`

/-- `proj` and `projLF` are columns of `C05L.toGk` -/
theorem proj_of_toGk {k : Nat} {a b : State} (h : a.recs.map (C05L.toGk k) = b.recs.map (C05L.toGk 0)) :
    a.recs.map (proj k) = b.recs.map (proj 0) ∧ a.recs.map (projLF k) = b.recs.map (projLF 0) := by
  have h1 := congrArg (List.map fun p : Spec.GHyst × Bool =>
    ([p.1.loadMin, p.1.loadMax, p.1.sMin, p.1.sMax, p.1.eMin, p.1.eMax], p.1.closed, p.2, p.1.run)) h
  have h2 := congrArg (List.map fun p : Spec.GHyst × Bool => (p.1.eMinLF, p.1.eMaxLF)) h
  rw [List.map_map, List.map_map] at h1 h2
  exact ⟨h1, h2⟩

set_option linter.unusedVariables false in
/-- The detector's records and visited strains equal those of the guideline procedure run on the
reversal sequences that the two passes are fed.  (`SignPreserving` is not needed for one point: the hypothesis
belongs to the statement as posed in `tools/stmts/HCM.lean` and is not used.) -/
theorem hcm_model_eq_guideline (law : Law) (hl : SignPreserving law) (s : List Int) :
    let st := twoPassR law (C04.one s)
    st.recs.map toG = (Spec.guideline law (fedOf st 1) (fedOf st 2)).recs ∧
    st.strainValues = (Spec.guideline law (fedOf st 1) (fedOf st 2)).strains :=
  guideline_of_isGuideline law _ (C05L.twoPass_one law s).1

/-- Points with proportional load histories: every point gets what it gets alone. -/
theorem hcm_batch_eq_single (law : Law) (hl : SignPreserving law) (L : List Int) (cs : List Int)
    (hc : ∀ c ∈ cs, 0 < c) (k : Nat) (hk : k < cs.length) :
    ((twoPassR law (L.map fun l => cs.map (· * l))).recs.map (proj k)) =
      ((twoPassR law (L.map fun l => [cs.getD k 1 * l])).recs.map (proj 0)) :=
  (proj_of_toGk (C05L.twoPass_sim hl (C05L.factors_pos cs hc k hk) hk L).1).1

/-- The running strain extremes (kept per assessment point) of every point of a batch with
proportional load histories are those the point gets alone (repaired variant `twoPassR`). -/
theorem hcm_batch_eq_single_LF (law : Law) (hl : SignPreserving law) (L : List Int) (cs : List Int)
    (hc : ∀ c ∈ cs, 0 < c) (k : Nat) (hk : k < cs.length) :
    ((twoPassR law (L.map fun l => cs.map (· * l))).recs.map (projLF k)) =
      ((twoPassR law (L.map fun l => [cs.getD k 1 * l])).recs.map (projLF 0)) :=
  (proj_of_toGk (C05L.twoPass_sim hl (C05L.factors_pos cs hc k hk) hk L).1).2

/-! ### non-vacuity -/

/-- the linear stub law of the correspondence check is sign preserving (the saturating one is as well, being odd and monotone; only
the linear one is proved here) -/
theorem signPreserving_lawLinear : SignPreserving lawLinear := by
  intro d
  simp only [lawLinear]
  refine ⟨fun h => ⟨by omega, by omega⟩, fun h => ⟨by omega, by omega⟩, fun h => ⟨by omega, by omega⟩⟩

example : ((twoPassR lawLinear ([0, 100, -200, 100, -100, 200].map fun l => [1, 3, 2].map (· * l))).recs.map (proj 1)) =
    ((twoPassR lawLinear ([0, 100, -200, 100, -100, 200].map fun l => [[1, 3, 2].getD 1 1 * l])).recs.map (proj 0)) :=
  hcm_batch_eq_single lawLinear signPreserving_lawLinear _ [1, 3, 2] (by decide) 1 (by decide)

example : (twoPassR lawLinear ([0, 100, -200, 100, -100, 200].map fun l => [1, 3, 2].map (· * l))).recs.length = 5 := by
  decide +kernel

example :
    let st := twoPassR lawLinear (C04.one [0, 100, -200, 100, -100, 200])
    st.recs.map toG = (Spec.guideline lawLinear (fedOf st 1) (fedOf st 2)).recs ∧
    st.strainValues = (Spec.guideline lawLinear (fedOf st 1) (fedOf st 2)).strains :=
  hcm_model_eq_guideline lawLinear signPreserving_lawLinear _

example : (twoPassR lawLinear (C04.one [0, 100, -200, 100, -100, 200])).recs.length = 5 ∧
    fedOf (twoPassR lawLinear (C04.one [0, 100, -200, 100, -100, 200])) 2 = [0, 100, -200, 100, -100, 200] := by
  decide +kernel

end C05
end PylifeVerif
