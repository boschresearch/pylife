/- C03: symmetries. -/
import Proofs.C03Sym
import Proofs.C02Fkm
import Proofs.ThreePoint
import Proofs.RainflowCorollaries
import Proofs.C03Nan
