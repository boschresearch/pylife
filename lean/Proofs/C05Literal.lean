/-
C05 / C04 - a published literal fixes the reading of the FKM-nonlinear HCM procedure.

The FKM guideline's worked example 2.7.1 ("Akademisches Beispiel", table 2.24; also checked by the repository's own test
`tests/stress/rainflow/test_fkm_nonlinear.py::TestHCMExample1`) lists, for the load sequence
100, -200, 100, -250, 200, 0, 200, -200 (in units of the load factor), seven hystereses:
one half-counted (Memory 3) hysteresis (-100, 100), then the closed ones (-200, 100), (0, 200) in the first pass and
(-200, 100), (-200, 100), (-250, 200), (0, 200) in the second.  Which hystereses close, in which order, in which pass and
with which load limits does not depend on the notch law, so the statement is checked (by kernel evaluation) on the model of
the code with the exact linear stub law - for the model of the code as it is and for the repaired variant.
-/
import Model.HCM

namespace PylifeVerif
open HCM
namespace C05

/-- the load sequence of FKM guideline example 2.7.1, one assessment point -/
def example271 : List Vec := [100, -200, 100, -250, 200, 0, 200, -200].map fun x => [x]

/-- (pass, closed?, lower load, upper load) of table 2.24 -/
def table224 : List (Nat × Bool × Vec × Vec) :=
  [(1, false, [-100], [100]), (1, true, [-200], [100]), (1, true, [0], [200]),
   (2, true, [-200], [100]), (2, true, [-200], [100]), (2, true, [-250], [200]), (2, true, [0], [200])]

theorem fkm_guideline_example_2_7_1_code :
    (twoPass lawLinear example271).recs.map (fun h => (h.run, h.closed, h.loadMin, h.loadMax)) = table224 := by
  decide +kernel

theorem fkm_guideline_example_2_7_1 :
    (twoPassR lawLinear example271).recs.map (fun h => (h.run, h.closed, h.loadMin, h.loadMax)) = table224 := by
  decide +kernel

/-- the same with the saturating (non-linear) stub law: the pattern is law-independent -/
example : (twoPass lawSat example271).recs.map (fun h => (h.run, h.closed, h.loadMin, h.loadMax)) = table224 := by
  decide +kernel

end C05
end PylifeVerif
