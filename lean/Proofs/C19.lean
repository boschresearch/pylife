/-
C19 — mesh operators are exact on linear fields and respect mesh connectivity.

Model: `Model/Mesh.lean` (tied to `src/pylife/mesh/{gradient,hotspot,meshmapping,surface}.py` by the
correspondence check of `harness/c19.py`).  Real-number semantics; `np.linalg.inv` = adjugate / determinant,
`np.linalg.lstsq(rcond=None)` = minimum-norm least squares with a relative rank cut-off `rtol` (`lstsq3`).
Here are the property theorems and, for the hot-spot clause, the notions they are stated with (`label`, `value`,
`adjacent`, `IsMax`, `Step`); what they rest on is in `Proofs/Lemmas/Mesh*.lean`.  Where a clause is word for word a lemma
of those files (the element gradients, `gradient3D_*`, the three `lstsq3` cases, the barycentric facts, the surface
block), the theorem here is that lemma under the property's name, and the proof is in the lemma file.
-/
import Proofs.Lemmas.Mesh
import Proofs.Lemmas.MeshHotspot
import Proofs.Lemmas.MeshRank
import Proofs.Lemmas.MeshPipeline
import Proofs.Lemmas.MeshLstsq
import Proofs.Lemmas.MeshG3D
import Proofs.Lemmas.MeshMap
import Proofs.Lemmas.MeshSurface

namespace PylifeVerif.C19
open PylifeVerif.Mesh

/-! ## (a) `gradient_3D`: shape-function gradients -/

/-- Hexahedron: for `f = g·x + c` on the eight corners and an invertible Jacobian at the reference point `xi`
(the real code skips the point when `np.linalg.inv` raises), `Σₐ fₐ ∂φₐ/∂x_k = g_k`.  Holds at every `xi`, in
particular at the eight corners `hexXi` where the code evaluates it. -/
theorem hex_gradient_exact (h : Hex ℝ) (g : V3 ℝ) (c : ℝ)
    (hlin : ∀ q ∈ h.corners, q.f = g.dot q.p + c)
    (xi : V3 ℝ) (hdet : det3 (hexJ h xi) ≠ 0) :
    hexGradAt h xi = g :=
  Mesh.hex_gradient_exact h g c hlin xi hdet

/-- All eight nodal gradients of a hexahedral element equal `g`. -/
theorem hex_gradient_exact_all (h : Hex ℝ) (g : V3 ℝ) (c : ℝ)
    (hlin : ∀ q ∈ h.corners, q.f = g.dot q.p + c)
    (hdet : ∀ xi ∈ (hexXi : List (V3 ℝ)), det3 (hexJ h xi) ≠ 0) :
    ∀ v ∈ hexGrad h, v = g :=
  Mesh.hex_gradient_exact_all h g c hlin hdet

example : hexGradAt (⟨⟨⟨0, 0, 0⟩, 1⟩, ⟨⟨1, 0, 0⟩, 3⟩, ⟨⟨1, 1, 0⟩, 6⟩, ⟨⟨0, 1, 0⟩, 4⟩,
    ⟨⟨0, 0, 1⟩, 0⟩, ⟨⟨1, 0, 1⟩, 2⟩, ⟨⟨1, 1, 1⟩, 5⟩, ⟨⟨0, 1, 1⟩, 3⟩⟩ : Hex ℝ) ⟨1, 0, 1⟩ = ⟨2, 3, -1⟩ := by
  apply hex_gradient_exact _ ⟨2, 3, -1⟩ 1
  · simp [Hex.corners, V3.dot]; norm_num
  · simp [hexJ, hexJ1, hexJ2, hexJ3, det3]

/-- Tetrahedron: for `f = g·x + c` on the four corners and an invertible Jacobian the (constant) element
gradient is `g`. -/
theorem simplex_gradient_exact (t : Tet ℝ) (g : V3 ℝ) (c : ℝ)
    (hlin : ∀ q ∈ t.corners, q.f = g.dot q.p + c)
    (hdet : det3 (tetJ t) ≠ 0) :
    tetGradAt t = g :=
  Mesh.simplex_gradient_exact t g c hlin hdet

example : tetGradAt (⟨⟨⟨0, 0, 0⟩, 1⟩, ⟨⟨2, 0, 0⟩, 5⟩, ⟨⟨0, 1, 0⟩, 4⟩, ⟨⟨0, 0, 1⟩, 0⟩⟩ : Tet ℝ) = ⟨2, 3, -1⟩ := by
  apply simplex_gradient_exact _ ⟨2, 3, -1⟩ 1
  · simp [Tet.corners, V3.dot]; norm_num
  · simp [tetJ, det3]

/-- The Jacobians the code inverts are non-singular on a geometrically non-degenerate hexahedron: at each corner
`det J` is the triple product of the three element edges that meet there (so the `hhex` hypotheses below are facts
about the mesh geometry; `Mesh.hhex_of_triples`, `Mesh.tetJ_det`, `Mesh.htet_of_triple`).  Inside this namespace the bare
name `hexJ_corner_det` is this list equation; `Mesh.hexJ_corner_det` is the same fact written as eight equations. -/
theorem hexJ_corner_det (h : Hex ℝ) :
    (hexXi : List (V3 ℝ)).map (fun xi => det3 (hexJ h xi)) = hexCornerTriples h :=
  Mesh.hexJ_corner_det_list h

example : hexCornerTriples (⟨⟨⟨0, 0, 0⟩, 1⟩, ⟨⟨1, 0, 0⟩, 3⟩, ⟨⟨1, 1, 0⟩, 6⟩, ⟨⟨0, 1, 0⟩, 4⟩,
    ⟨⟨0, 0, 1⟩, 0⟩, ⟨⟨1, 0, 1⟩, 2⟩, ⟨⟨1, 1, 1⟩, 5⟩, ⟨⟨0, 1, 1⟩, 3⟩⟩ : Hex ℝ) = [1, 1, 1, 1, 1, 1, 1, 1] := by
  simp [hexCornerTriples, triple, V3.dot, V3.cross, V3.sub]

/-- PARTIAL (first-order elements).  Full statement of clause (a): on every non-degenerate hexahedral / tetrahedral
mesh the result of `Gradient3D.gradient_of` for `f = g·x + c` is `g` at every node.  Proved here for meshes whose
elements have 8 or 4 rows, for every node / element numbering and every row order of the frame: every row of the
result carries `g`.  An element's local node order is NOT a hypothesis: the rows of an element group, in frame order,
are taken as its local nodes 1 … 8 (1 … 4), as the code does, and `hhex`, `htet` speak about the hexahedron resp.
tetrahedron so formed.  That such a group is the element the mesh means is kept outside the theorem: the harness
generates no fully shuffled rows for `gradient_3D` cases.  On 16/20-node hexahedra and 10-node tetrahedra the full statement is
FALSE for the unchanged code (`gradient3D_midside_zero_witness`; `gradient3D_exact_quadratic` says what holds
instead) - open finding `g3d-midside-zero`. -/
theorem gradient3D_exact_partial (rows : List (MRow ℝ)) (g : V3 ℝ) (c : ℝ)
    (hlin : ∀ r ∈ rows, r.v = g.dot r.p + c)
    (hshape : ∀ grp ∈ elemGroups rows, grp.length = 8 ∨ grp.length = 4)
    (hhex : ∀ grp ∈ elemGroups rows, grp.length = 8 → ∀ xi ∈ (hexXi : List (V3 ℝ)), det3 (hexJ (hexOfGroup grp) xi) ≠ 0)
    (htet : ∀ grp ∈ elemGroups rows, grp.length = 4 → det3 (tetJ (tetOfGroup grp)) ≠ 0) :
    ∀ e ∈ gradient3D rows, e.2 = some g :=
  Mesh.gradient3D_exact rows g c hlin hshape hhex htet

/-- Non-vacuity on a mesh: two distorted hexahedra (element ids 40 and 5) sharing a face, twelve nodes with
non-contiguous unordered ids, rows interleaved; every hypothesis is discharged from the geometry. -/
example : ∀ e ∈ gradient3D mesh2, e.2 = some (⟨2, 3, -1⟩ : V3 ℝ) := mesh2_exact

/-- The result has exactly one row per node id of the mesh (so `gradient3D_exact_partial` is not a statement about
an empty list). -/
theorem gradient3D_nodes (rows : List (MRow ℝ)) :
    ((gradient3D rows).map (·.1)).Nodup ∧
      ∀ id : Int, id ∈ (gradient3D rows).map (·.1) ↔ id ∈ rows.map (·.node) :=
  Mesh.gradient3D_nodes rows

example : ((gradient3D mesh2).map (·.1)).Perm [7, 20, 3, 11, 15, 2, 31, 9, 44, 6, 17, 28] ∧
    (gradient3D mesh2).length = 12 := mesh2_nodes

/-- First- and second-order elements (8/16/20 rows: hexahedra, 4/10 rows: tetrahedra): every result row carries `g`
when the node is a corner in the element that reports it, and exactly `0` when it is a mid-side node there - the
documented behaviour ("the result contains zeros for all following nodes"). -/
theorem gradient3D_exact_quadratic (rows : List (MRow ℝ)) (g : V3 ℝ) (c : ℝ)
    (hlin : ∀ r ∈ rows, r.v = g.dot r.p + c)
    (hshape : ∀ grp ∈ elemGroups rows,
      grp.length = 8 ∨ grp.length = 16 ∨ grp.length = 20 ∨ grp.length = 4 ∨ grp.length = 10)
    (hhex : ∀ grp ∈ elemGroups rows, ncorner grp.length = 8 →
      ∀ xi ∈ (hexXi : List (V3 ℝ)), det3 (hexJ (hexOfGroup grp) xi) ≠ 0)
    (htet : ∀ grp ∈ elemGroups rows, ncorner grp.length = 4 → det3 (tetJ (tetOfGroup grp)) ≠ 0) :
    ∀ e ∈ gradient3D rows, ∃ grp ∈ elemGroups rows, ∃ i, i < grp.length ∧
      (grp.getD i ⟨0, 0, default, 0.0⟩).node = e.1 ∧
      e.2 = some (if i < ncorner grp.length then g else V3.zero) :=
  Mesh.gradient3D_exact_quadratic rows g c hlin hshape hhex htet

/-- Refutation of the full clause (a) on second-order elements: on the 20-node unit cube with
`f = 2x + 3y − z + 1` the mid-side node 9 gets the gradient `0` while corner node 1 gets `(2, 3, −1)`. -/
theorem gradient3D_midside_zero_witness :
    (9, some V3.zero) ∈ gradient3D q20 ∧ (1, some (⟨2, 3, -1⟩ : V3 ℝ)) ∈ gradient3D q20 ∧
      ¬ ∀ e ∈ gradient3D q20, e.2 = some (⟨2, 3, -1⟩ : V3 ℝ) :=
  Mesh.gradient3D_midside_zero_witness

/-! ## (a) `gradient`: least squares -/

/-- Rank 3 above the cut-off: if the right-hand side is `A g` (differences of a linear field), the normal equations
return `g`: `(AᵀA)⁻¹ Aᵀ (A g) = g`.  `h2`, `h3` say that `lstsq3` takes the rank-3 branch. -/
theorem lstsq_exact (rtol : ℝ) (hr : 0 ≤ rtol) (A : List (V3 ℝ)) (g : V3 ℝ)
    (h2 : rtol * ((normalMatrix A).trace * (normalMatrix A).trace) < adjTrace (normalMatrix A))
    (h3 : rtol * (adjTrace (normalMatrix A) * (normalMatrix A).trace) < det3 (normalMatrix A)) :
    lstsq3 rtol (A.map fun a => (a, a.dot g)) = g :=
  lstsq3_rank3 rtol hr A g h2 h3

/-- Full column rank (only the zero vector is orthogonal to every row) makes `AᵀA` invertible … -/
theorem lstsq_full_rank (A : List (V3 ℝ))
    (hrank : ∀ v : V3 ℝ, (∀ a ∈ A, a.dot v = 0) → v = ⟨0, 0, 0⟩) :
    det3 (normalMatrix A) ≠ 0 :=
  det3_normalMatrix_ne_zero A hrank

/-- … and with the cut-off 0 (exact arithmetic) full column rank alone gives exactness. -/
theorem lstsq_exact_full_rank (A : List (V3 ℝ)) (g : V3 ℝ)
    (hrank : ∀ v : V3 ℝ, (∀ a ∈ A, a.dot v = 0) → v = ⟨0, 0, 0⟩) :
    lstsq3 0 (A.map fun a => (a, a.dot g)) = g := by
  have hdet : 0 < det3 (normalMatrix A) :=
    lt_of_le_of_ne (det3_normalMatrix_nonneg A) (Ne.symm (det3_normalMatrix_ne_zero A hrank))
  have he := adjTrace_pos_of_det_pos A hdet
  exact lstsq3_rank3 0 le_rfl A g (by simpa using he) (by simpa using hdet)

/-- Rows in ONE PLANE of any orientation (all rows orthogonal to `n ≠ 0`; planar / shell meshes): the derivative
normal to the plane is not determined by the data; the minimum-norm solution `np.linalg.lstsq` returns is `g` minus
its normal component. -/
theorem lstsq_min_norm_planar (rtol : ℝ) (hr : 0 ≤ rtol) (A : List (V3 ℝ)) (g n : V3 ℝ)
    (hn : n.dot n ≠ 0) (hplane : ∀ a ∈ A, a.dot n = 0)
    (h2 : rtol * ((normalMatrix A).trace * (normalMatrix A).trace) < adjTrace (normalMatrix A)) :
    lstsq3 rtol (A.map fun a => (a, a.dot g)) =
      ⟨g.x - g.dot n / n.dot n * n.x, g.y - g.dot n / n.dot n * n.y, g.z - g.dot n / n.dot n * n.z⟩ :=
  lstsq3_planar rtol hr A g n hn hplane h2

/-- The mesh in a plane `z = const`: `(g_x, g_y, 0)`. -/
theorem lstsq_exact_planar (rtol : ℝ) (hr : 0 ≤ rtol) (A : List (V3 ℝ)) (g : V3 ℝ)
    (hp : ∀ a ∈ A, a.z = 0)
    (h2 : rtol * ((normalMatrix A).trace * (normalMatrix A).trace) < adjTrace (normalMatrix A)) :
    lstsq3 rtol (A.map fun a => (a, a.dot g)) = ⟨g.x, g.y, 0⟩ := by
  rw [lstsq3_planar rtol hr A g ⟨0, 0, 1⟩ (by simp [V3.dot]) (fun a ha => by simp [V3.dot, hp a ha]) h2]
  apply V3.eq_of <;> simp [V3.dot]

/-- Rows on ONE LINE (direction `d ≠ 0`, not all zero): the component of `g` along the line. -/
theorem lstsq_min_norm_line (rtol : ℝ) (hr : 0 ≤ rtol) (A : List (V3 ℝ)) (g d : V3 ℝ) (hd : d.dot d ≠ 0)
    (hline : ∀ a ∈ A, ∃ s : ℝ, a = ⟨s * d.x, s * d.y, s * d.z⟩) (hne : ∃ a ∈ A, a.dot a ≠ 0) :
    lstsq3 rtol (A.map fun a => (a, a.dot g)) =
      ⟨g.dot d / d.dot d * d.x, g.dot d / d.dot d * d.y, g.dot d / d.dot d * d.z⟩ :=
  lstsq3_line rtol hr A g d hline hne

example : lstsq3 (1 / 10 ^ 12) ([⟨1, 0, 0⟩, ⟨0, 1, 0⟩, ⟨0, 0, 1⟩, ⟨1, 1, 1⟩].map fun a => (a, a.dot (⟨2, 3, -1⟩ : V3 ℝ)))
    = ⟨2, 3, -1⟩ := by
  apply lstsq_exact _ (by positivity) <;> simp [normalMatrix, sumMap, det3, adjTrace, M3.trace] <;> norm_num

/-- A TILTED plane (normal `(1, 1, −1)`): the result `(0, 1, 1)` is `g = (2, 3, −1)` minus its normal component `(2, 2, −2)`. -/
example : lstsq3 (1 / 10 ^ 12) ([⟨1, 0, 1⟩, ⟨0, 1, 1⟩, ⟨1, 1, 2⟩].map fun a => (a, a.dot (⟨2, 3, -1⟩ : V3 ℝ))) = ⟨0, 1, 1⟩ := by
  rw [lstsq_min_norm_planar (1 / 10 ^ 12) (by positivity) _ ⟨2, 3, -1⟩ ⟨1, 1, -1⟩ (by norm_num [V3.dot])]
  · apply V3.eq_of <;> norm_num [V3.dot]
  · norm_num [V3.dot]
  · simp [normalMatrix, sumMap, adjTrace, M3.trace]; norm_num

example : lstsq3 0 ([⟨1, 0, 0⟩, ⟨0, 1, 0⟩, ⟨1, 1, 0⟩].map fun a => (a, a.dot (⟨2, 3, 7⟩ : V3 ℝ))) = ⟨2, 3, 0⟩ := by
  apply lstsq_exact_planar 0 le_rfl
  · simp
  · simp [normalMatrix, sumMap, adjTrace, M3.trace]; norm_num

example : lstsq3 0 ([⟨1, 2, -1⟩, ⟨-2, -4, 2⟩].map fun a => (a, a.dot (⟨6, 0, 0⟩ : V3 ℝ))) = ⟨1, 2, -1⟩ := by
  rw [lstsq_min_norm_line 0 le_rfl _ ⟨6, 0, 0⟩ ⟨1, 2, -1⟩ (by norm_num [V3.dot])]
  · apply V3.eq_of <;> norm_num [V3.dot]
  · intro a ha; simp at ha; rcases ha with rfl | rfl
    · exact ⟨1, by simp⟩
    · exact ⟨-2, by norm_num⟩
  · exact ⟨⟨1, 2, -1⟩, by simp, by norm_num [V3.dot]⟩

/-- **`Gradient.gradient_of` is exact on linear fields for every node numbering** (the model addresses node
rows through the id → position map): if a node has one position in all its rows and the field is `g·x + c`, the
output row of node `id` is `g` whenever that node's least-squares system `nbrDiffs rows id` (rows `x_j − x_i` over
the neighbours) has rank 3 above the cut-off. -/
theorem gradientLsq_exact (rtol : ℝ) (hr : 0 ≤ rtol) (rows : List (MRow ℝ)) (g : V3 ℝ) (c : ℝ)
    (hcoord : ∀ r ∈ rows, ∀ r' ∈ rows, r.node = r'.node → r.p = r'.p)
    (hlin : ∀ r ∈ rows, r.v = g.dot r.p + c)
    (id : Int) (gr : V3 ℝ) (hmem : (id, gr) ∈ gradientLsq rtol (fun n => (n : ℝ)) rows)
    (h2 : rtol * ((normalMatrix (nbrDiffs rows id)).trace * (normalMatrix (nbrDiffs rows id)).trace)
      < adjTrace (normalMatrix (nbrDiffs rows id)))
    (h3 : rtol * (adjTrace (normalMatrix (nbrDiffs rows id)) * (normalMatrix (nbrDiffs rows id)).trace)
      < det3 (normalMatrix (nbrDiffs rows id))) :
    gr = g := by
  rw [gradientLsq_eq_lstsq3 rtol rows g c hcoord hlin id gr hmem]
  exact lstsq3_rank3 rtol hr _ g h2 h3

/-- Exact arithmetic (cut-off 0): the node's system having full column rank is enough - e.g. because the node is a
corner of a non-degenerate tetrahedron (`Mesh.nbrDiffs_full_rank_of_tet`). -/
theorem gradientLsq_exact_full_rank (rows : List (MRow ℝ)) (g : V3 ℝ) (c : ℝ)
    (hcoord : ∀ r ∈ rows, ∀ r' ∈ rows, r.node = r'.node → r.p = r'.p)
    (hlin : ∀ r ∈ rows, r.v = g.dot r.p + c)
    (id : Int) (gr : V3 ℝ) (hmem : (id, gr) ∈ gradientLsq 0 (fun n => (n : ℝ)) rows)
    (hrank : ∀ v : V3 ℝ, (∀ a ∈ nbrDiffs rows id, a.dot v = 0) → v = ⟨0, 0, 0⟩) :
    gr = g := by
  rw [gradientLsq_eq_lstsq3 0 rows g c hcoord hlin id gr hmem]
  exact lstsq_exact_full_rank _ g hrank

/-- Planar meshes in ANY plane (every neighbour difference orthogonal to `n ≠ 0`): `g` minus its normal component. -/
theorem gradientLsq_exact_planar (rtol : ℝ) (hr : 0 ≤ rtol) (rows : List (MRow ℝ)) (g n : V3 ℝ) (c : ℝ)
    (hcoord : ∀ r ∈ rows, ∀ r' ∈ rows, r.node = r'.node → r.p = r'.p)
    (hlin : ∀ r ∈ rows, r.v = g.dot r.p + c)
    (id : Int) (gr : V3 ℝ) (hmem : (id, gr) ∈ gradientLsq rtol (fun n => (n : ℝ)) rows)
    (hn : n.dot n ≠ 0) (hp : ∀ a ∈ nbrDiffs rows id, a.dot n = 0)
    (h2 : rtol * ((normalMatrix (nbrDiffs rows id)).trace * (normalMatrix (nbrDiffs rows id)).trace)
      < adjTrace (normalMatrix (nbrDiffs rows id))) :
    gr = ⟨g.x - g.dot n / n.dot n * n.x, g.y - g.dot n / n.dot n * n.y, g.z - g.dot n / n.dot n * n.z⟩ := by
  rw [gradientLsq_eq_lstsq3 rtol rows g c hcoord hlin id gr hmem]
  exact lstsq3_planar rtol hr _ g n hn hp h2

/-- One output row per node id, ascending. -/
theorem gradientLsq_nodes (rtol : ℝ) (rows : List (MRow ℝ)) :
    (gradientLsq rtol (fun n => (n : ℝ)) rows).map (·.1) = sortedUnique (rows.map (·.node)) := by
  simp only [gradientLsq, List.map_map]
  exact (List.map_congr_left fun _ _ => rfl).trans (List.zipIdx_map_fst _ _)

/-- Non-vacuity of the pipeline theorems: one tetrahedron with node ids 7, 20, 3, 11 (not 1..N, not ordered), linear
field `2x + 3y − z + 1`: the result has the four ids in ascending order and every row carries `g`. -/
example : ∀ e ∈ gradientLsq 0 (fun n => (n : ℝ))
    ([⟨7, 1, ⟨0, 0, 0⟩, 1⟩, ⟨20, 1, ⟨1, 0, 0⟩, 3⟩, ⟨3, 1, ⟨0, 1, 0⟩, 4⟩, ⟨11, 1, ⟨0, 0, 1⟩, 0⟩] : List (MRow ℝ)),
    e.1 ∈ [3, 7, 11, 20] ∧ (e.1 = 7 → e.2 = ⟨2, 3, -1⟩) := by
  intro e he
  have hids := (gradientLsq_nodes 0 ([⟨7, 1, ⟨0, 0, 0⟩, 1⟩, ⟨20, 1, ⟨1, 0, 0⟩, 3⟩, ⟨3, 1, ⟨0, 1, 0⟩, 4⟩,
    ⟨11, 1, ⟨0, 0, 1⟩, 0⟩] : List (MRow ℝ))).trans (by decide : sortedUnique _ = [3, 7, 11, 20])
  refine ⟨hids ▸ List.mem_map_of_mem he, fun h7 => ?_⟩
  obtain ⟨i, gr⟩ := e
  subst h7
  refine gradientLsq_exact_full_rank _ ⟨2, 3, -1⟩ 1 (coords_consistent_of_nodup _ (by decide)) ?_ 7 gr he ?_
  · intro r hr
    simp only [List.mem_cons, List.not_mem_nil, or_false] at hr
    rcases hr with rfl | rfl | rfl | rfl <;> norm_num [V3.dot]
  · exact tet1_full_rank

/-! ## (b), (c) mesh mapping: `griddata(method='linear')` -/

/-- Interpolation inside a non-degenerate tetrahedron reproduces `f = g·x + c`. -/
theorem barycentric_reproduces_linear (p0 p1 p2 p3 p g : V3 ℝ) (c : ℝ)
    (hdet : det3 (edgeMatrix p0 p1 p2 p3) ≠ 0) :
    baryInterp3 p0 p1 p2 p3 (g.dot p0 + c) (g.dot p1 + c) (g.dot p2 + c) (g.dot p3 + c) p = g.dot p + c :=
  baryInterp3_linear p0 p1 p2 p3 p g c hdet

/-- Triangle (2-D meshes). -/
theorem barycentric_reproduces_linear_2d (x0 y0 x1 y1 x2 y2 px py gx gy c : ℝ)
    (hdet : det2 (x1 - x0) (x2 - x0) (y1 - y0) (y2 - y0) ≠ 0) :
    baryInterp2 x0 y0 x1 y1 x2 y2 (gx * x0 + gy * y0 + c) (gx * x1 + gy * y1 + c) (gx * x2 + gy * y2 + c) px py
      = gx * px + gy * py + c :=
  baryInterp2_linear x0 y0 x1 y1 x2 y2 px py gx gy c hdet

/-- At a vertex of a non-degenerate tetrahedron the interpolated value is that vertex' value (any nodal values). -/
theorem barycentric_at_vertex (p0 p1 p2 p3 : V3 ℝ) (f0 f1 f2 f3 : ℝ)
    (hdet : det3 (edgeMatrix p0 p1 p2 p3) ≠ 0) :
    baryInterp3 p0 p1 p2 p3 f0 f1 f2 f3 p0 = f0 ∧ baryInterp3 p0 p1 p2 p3 f0 f1 f2 f3 p1 = f1 ∧
    baryInterp3 p0 p1 p2 p3 f0 f1 f2 f3 p2 = f2 ∧ baryInterp3 p0 p1 p2 p3 f0 f1 f2 f3 p3 = f3 :=
  baryInterp3_vertices p0 p1 p2 p3 f0 f1 f2 f3 hdet

/-- … and of a non-degenerate triangle. -/
theorem barycentric_at_vertex_2d (t : Tri ℝ) (hdet : t.det ≠ 0) (q : ℝ × ℝ × ℝ) (hq : q ∈ t.corners) :
    inTri 0 t q.1 q.2.1 = true ∧ triInterp t q.1 q.2.1 = q.2.2 :=
  inTri_vertex 0 le_rfl t hdet q hq

example : baryInterp3 (⟨0, 0, 0⟩ : V3 ℝ) ⟨1, 0, 0⟩ ⟨0, 1, 0⟩ ⟨0, 0, 1⟩ 1 3 4 0 ⟨0.25, 0.25, 0.25⟩ = 2 := by
  have h := barycentric_reproduces_linear (⟨0, 0, 0⟩ : V3 ℝ) ⟨1, 0, 0⟩ ⟨0, 1, 0⟩ ⟨0, 0, 1⟩ ⟨0.25, 0.25, 0.25⟩ ⟨2, 3, -1⟩ 1
    (by simp [edgeMatrix, V3.sub, det3])
  simp only [V3.dot] at h
  norm_num at h ⊢
  exact h

/-! ### the whole mapping on a triangulation (`mapMesh3` / `mapMesh2`: what `Meshmapper.process` computes once Qhull
has delivered the simplices) -/

/-- Clause (c): a point inside some simplex of a triangulation of non-degenerate simplices that carries a linear
field gets the linear value (whichever simplex the point location picks). -/
theorem mapMesh_linear_interior (tol : ℝ) (htol : 0 ≤ tol) (tets : List (Tet ℝ)) (g p : V3 ℝ) (c : ℝ)
    (hnd : ∀ t ∈ tets, t.det ≠ 0) (hlin : ∀ t ∈ tets, ∀ q ∈ t.corners, q.f = g.dot q.p + c)
    (hin : ∃ t ∈ tets, inTet 0 t p = true) :
    mapMesh3 tol tets p = some (g.dot p + c) := by
  obtain ⟨t, ht, hp⟩ := hin
  exact find?_map_eq_some _ _ _ _ ⟨t, ht, inTet_mono 0 tol htol t p hp⟩
    fun t' ht' _ => tetInterp_linear t' g p c (hnd t' ht') (hlin t' ht')

/-- Clause (b): mapping onto a source point returns the source value, for ANY nodal field `f`, when the
triangulation is conforming at that point (every simplex that contains it has it as a vertex). -/
theorem mapMesh_same_point (tol : ℝ) (htol : 0 ≤ tol) (tets : List (Tet ℝ)) (f : V3 ℝ → ℝ) (p : V3 ℝ)
    (hnd : ∀ t ∈ tets, t.det ≠ 0) (hval : ∀ t ∈ tets, ∀ q ∈ t.corners, q.f = f q.p)
    (hvert : ∃ t ∈ tets, ∃ q ∈ t.corners, q.p = p)
    (hconf : ∀ t ∈ tets, inTet tol t p = true → ∃ q ∈ t.corners, q.p = p) :
    mapMesh3 tol tets p = some (f p) := by
  obtain ⟨t, ht, q, hq, rfl⟩ := hvert
  refine find?_map_eq_some _ _ _ _ ⟨t, ht, (inTet_vertex tol htol t (hnd t ht) q hq).1⟩ fun t' ht' hin => ?_
  obtain ⟨q', hq', hpq⟩ := hconf t' ht' hin
  rw [← hpq, (inTet_vertex tol htol t' (hnd t' ht') q' hq').2, hval t' ht' q' hq']

/-- NaN exactly for points outside every simplex. -/
theorem mapMesh_outside_iff (tol : ℝ) (tets : List (Tet ℝ)) (p : V3 ℝ) :
    mapMesh3 tol tets p = none ↔ ∀ t ∈ tets, inTet tol t p = false := by
  simp [mapMesh3, List.find?_eq_none]

/-- 2-D meshes. -/
theorem mapMesh_linear_interior_2d (tol : ℝ) (htol : 0 ≤ tol) (tris : List (Tri ℝ)) (gx gy c px py : ℝ)
    (hnd : ∀ t ∈ tris, t.det ≠ 0) (hlin : ∀ t ∈ tris, ∀ q ∈ t.corners, q.2.2 = gx * q.1 + gy * q.2.1 + c)
    (hin : ∃ t ∈ tris, inTri 0 t px py = true) :
    mapMesh2 tol tris px py = some (gx * px + gy * py + c) := by
  obtain ⟨t, ht, hp⟩ := hin
  exact find?_map_eq_some _ _ _ _ ⟨t, ht, inTri_mono 0 tol htol t px py hp⟩
    fun t' ht' _ => triInterp_linear t' gx gy c px py (hnd t' ht') (hlin t' ht')

theorem mapMesh_same_point_2d (tol : ℝ) (htol : 0 ≤ tol) (tris : List (Tri ℝ)) (f : ℝ → ℝ → ℝ) (px py : ℝ)
    (hnd : ∀ t ∈ tris, t.det ≠ 0) (hval : ∀ t ∈ tris, ∀ q ∈ t.corners, q.2.2 = f q.1 q.2.1)
    (hvert : ∃ t ∈ tris, ∃ q ∈ t.corners, q.1 = px ∧ q.2.1 = py)
    (hconf : ∀ t ∈ tris, inTri tol t px py = true → ∃ q ∈ t.corners, q.1 = px ∧ q.2.1 = py) :
    mapMesh2 tol tris px py = some (f px py) := by
  obtain ⟨t, ht, q, hq, rfl, rfl⟩ := hvert
  refine find?_map_eq_some _ _ _ _ ⟨t, ht, (inTri_vertex tol htol t (hnd t ht) q hq).1⟩ fun t' ht' hin => ?_
  obtain ⟨q', hq', hx, hy⟩ := hconf t' ht' hin
  rw [← hx, ← hy, (inTri_vertex tol htol t' (hnd t' ht') q' hq').2, hval t' ht' q' hq']

theorem mapMesh_outside_iff_2d (tol : ℝ) (tris : List (Tri ℝ)) (px py : ℝ) :
    mapMesh2 tol tris px py = none ↔ ∀ t ∈ tris, inTri tol t px py = false := by
  simp [mapMesh2, List.find?_eq_none]

/-- Non-vacuity: the unit square split into two triangles, `f = 2x + 3y + 1`; the centre of the square lies on the
common edge (in both triangles) and gets `3.5`; the corner `(1, 1)` belongs to the second triangle only. -/
example : mapMesh2 (1 / 10 ^ 9) ([⟨0, 0, 1, 0, 0, 1, 1, 3, 4⟩, ⟨1, 0, 1, 1, 0, 1, 3, 6, 4⟩] : List (Tri ℝ)) (1 / 2) (1 / 2)
    = some (2 * (1 / 2) + 3 * (1 / 2) + 1) := by
  apply mapMesh_linear_interior_2d _ (by positivity)
  · intro t ht; simp at ht; rcases ht with rfl | rfl <;> norm_num [Tri.det, det2]
  · intro t ht q hq; simp at ht
    rcases ht with rfl | rfl <;> simp [Tri.corners] at hq <;> rcases hq with rfl | rfl | rfl <;> norm_num
  · refine ⟨⟨0, 0, 1, 0, 0, 1, 1, 3, 4⟩, by simp, ?_⟩
    norm_num [inTri, baryWeights2, det2]

/-! ## (e), (f), (g) hot spots -/

section HotSpot

variable {α : Type} [LinearOrder α] [Mul α] [Inhabited α]

/-- Label of row `i` (frame order) in the result of `HotSpot.calc`. -/
def label (rows : List (HRow α)) (frac : α) (cap : Option α) (i : Nat) : Nat :=
  (hotspot rows frac cap).getD i 0

def value (rows : List (HRow α)) (i : Nat) : α := ((rows.map (·.v)).toArray).getD i default

/-- Rows `i` and `j` carry the same node id or the same element id. -/
def adjacent (rows : List (HRow α)) (i j : Nat) : Bool :=
  rowAdj ((rows.map (·.node)).toArray) ((rows.map (·.elem)).toArray) i j

/-- The maximum the threshold refers to: over all rows, or over the rows below `artefact_threshold`. -/
def IsMax (rows : List (HRow α)) (cap : Option α) (m : α) : Prop :=
  maxOf ((candidates rows.length (value rows) cap).map (value rows)) = some m

/-- One step between adjacent rows that are both at or above the threshold. -/
def Step (rows : List (HRow α)) (thr : α) (i j : Nat) : Prop :=
  HotStep rows.length (adjacent rows) (value rows) thr i j

theorem label_eq (rows : List (HRow α)) (frac : α) (cap : Option α) (i : Nat) :
    label rows frac cap i = labelAt rows.length (adjacent rows) (value rows) frac cap i := rfl

omit [Mul α] in
/-- `m` really is the maximum of the candidate values. -/
theorem isMax_spec (rows : List (HRow α)) (cap : Option α) (m : α) (h : IsMax rows cap m) :
    (∃ i ∈ candidates rows.length (value rows) cap, value rows i = m) ∧
    ∀ i ∈ candidates rows.length (value rows) cap, value rows i ≤ m := by
  obtain ⟨hmem, hle⟩ := maxOf_spec _ _ h
  rw [List.mem_map] at hmem
  exact ⟨hmem, fun i hi => hle _ (List.mem_map_of_mem hi)⟩

theorem hotspot_length (rows : List (HRow α)) (frac : α) (cap : Option α) :
    (hotspot rows frac cap).length = rows.length :=
  hotspotCore_length _ _ _ _ _

/-- A row belongs to some hot spot (label ≥ 1) exactly when its value reaches `frac` times the maximum. -/
theorem hotspot_label_pos_iff (rows : List (HRow α)) (frac : α) (cap : Option α) (m : α) (hm : IsMax rows cap m)
    (i : Nat) (hi : i < rows.length) :
    1 ≤ label rows frac cap i ↔ frac * m ≤ value rows i :=
  labelAt_pos_iff _ _ _ _ _ m hm i hi

/-- Each label class is closed under adjacency within the thresholded rows: adjacent thresholded rows carry
the same label. -/
theorem hotspot_class_closed (rows : List (HRow α)) (frac : α) (cap : Option α) (m : α) (hm : IsMax rows cap m)
    (i j : Nat) (h : Step rows (frac * m) i j) :
    label rows frac cap i = label rows frac cap j :=
  labelAt_adj _ _ (fun a b => rowAdj_symm _ _ a b) _ _ _ m hm i j h

/-- Each label class is connected: rows with the same positive label are joined by a chain of adjacent
thresholded rows.  Together with `hotspot_class_closed`: the classes are exactly the connected components. -/
theorem hotspot_class_connected (rows : List (HRow α)) (frac : α) (cap : Option α) (m : α) (hm : IsMax rows cap m)
    (i j : Nat) (hi : i < rows.length) (hj : j < rows.length) (hpos : 1 ≤ label rows frac cap i)
    (h : label rows frac cap i = label rows frac cap j) :
    Relation.ReflTransGen (Step rows (frac * m)) i j :=
  labelAt_connected _ _ (fun a b => rowAdj_symm _ _ a b) _ _ _ m hm i j hpos h

/-- Labels are numbered by descending peak: every class contains a row whose value is at least the value of
every row with the same or a larger label. -/
theorem hotspot_labels_descending_peak (rows : List (HRow α)) (frac : α) (cap : Option α)
    (i : Nat) (hi : i < rows.length) (hpos : 1 ≤ label rows frac cap i) :
    ∃ k, k < rows.length ∧ label rows frac cap k = label rows frac cap i ∧
      ∀ j, j < rows.length → label rows frac cap i ≤ label rows frac cap j → value rows j ≤ value rows k :=
  (labelAt_descending_peak _ _ _ _ _ i hpos).imp fun _ h => ⟨h.1, h.2.1, fun j _ => h.2.2 j⟩

/-- Labels are used without gaps. -/
theorem hotspot_labels_contiguous (rows : List (HRow α)) (frac : α) (cap : Option α)
    (j : Nat) (hj : j < rows.length) (l : Nat) (hl : 1 ≤ l) (hlj : l ≤ label rows frac cap j) :
    ∃ k, k < rows.length ∧ label rows frac cap k = l :=
  labelAt_contiguous _ _ _ _ _ j l hl hlj

/-- Non-vacuity: threshold = max = 5; rows 0 and 4 reach it, they share neither node nor element → two hot
spots, the first row with the peak value gets label 1. -/
example : hotspot ([⟨1, 10, 5⟩, ⟨2, 10, 4⟩, ⟨2, 20, 4⟩, ⟨3, 20, 1⟩, ⟨4, 30, 5⟩, ⟨5, 30, 0⟩] : List (HRow Int)) 1 none
    = [1, 0, 0, 0, 2, 0] := by decide

example : IsMax ([⟨1, 10, 5⟩, ⟨2, 10, 4⟩, ⟨2, 20, 4⟩, ⟨3, 20, 1⟩, ⟨4, 30, 5⟩, ⟨5, 30, 0⟩] : List (HRow Int)) none 5 := by
  unfold IsMax; decide

example : Step ([⟨1, 10, 5⟩, ⟨2, 10, 4⟩, ⟨2, 20, 4⟩, ⟨3, 20, 1⟩] : List (HRow Int)) 4 0 1 := by
  unfold Step HotStep; decide

end HotSpot

/-! ## (d) surface of a hexahedral block -/

/-- PARTIAL.  Full statement of the property: `Surface3D.is_at_surface` flags a node of a (perturbed) hexahedral
block iff it lies on the boundary.  Proved here is the combinatorial half the model carries: a grid node
`(i,j,k)` of an `nx × ny × nz` block is interior iff exactly 8 elements meet there (the model's `surfaceFlags`
flags nodes with fewer than 8 incident elements).  Missing: that the code's sum of maximal solid angles is
`< 4π − 1e-5` exactly at the nodes with fewer than 8 elements — floating-point geometry, decided by the
correspondence check and the oracle on perturbed blocks. -/
theorem surface_block_interior_iff_partial (nx ny nz i j k : Nat) :
    incidentCount nx ny nz i j k = 8 ↔ (0 < i ∧ i < nx) ∧ (0 < j ∧ j < ny) ∧ (0 < k ∧ k < nz) :=
  incidentCount_eq_eight_iff nx ny nz i j k

example : incidentCount 2 2 2 1 1 1 = 8 ∧ incidentCount 2 2 2 0 1 1 = 4 ∧ incidentCount 3 2 2 3 2 0 = 1 := by decide

/-- The function the driver runs: `surfaceFlags` (a node is flagged iff fewer than 8 distinct element ids occur in its
rows) on the rows of an `nx × ny × nz` hexahedral block under ANY injective node / element numbering and ANY row order
flags the node at grid position `(i, j, k)` iff it is not interior.  PARTIAL in the same sense as above: this is the
model's statement; that the code's solid-angle sum is `< 4π − 1e-5` exactly at those nodes is decided by
correspondence + oracle. -/
theorem surfaceFlags_block_partial (nx ny nz : Nat) (nid eid : Nat → Int)
    (hn : Function.Injective nid) (he : Function.Injective eid)
    (rows : List (Int × Int)) (hperm : rows.Perm (blockRows nx ny nz nid eid))
    (i j k : Nat) (hi : i ≤ nx) (hj : j ≤ ny) (hk : k ≤ nz) (b : Bool)
    (hmem : (nid (gridNode nx ny i j k), b) ∈ surfaceFlags rows) :
    b = true ↔ ¬ ((0 < i ∧ i < nx) ∧ (0 < j ∧ j < ny) ∧ (0 < k ∧ k < nz)) :=
  surfaceFlags_block nx ny nz nid eid hn he rows hperm i j k hi hj b hmem

/-- … and every grid node has a row in the result (so the statement above is not about an empty list). -/
theorem surfaceFlags_block_covers (nx ny nz : Nat) (nid eid : Nat → Int)
    (rows : List (Int × Int)) (hperm : rows.Perm (blockRows nx ny nz nid eid))
    (hx : 0 < nx) (hy : 0 < ny) (hz : 0 < nz)
    (i j k : Nat) (hi : i ≤ nx) (hj : j ≤ ny) (hk : k ≤ nz) :
    ∃ b, (nid (gridNode nx ny i j k), b) ∈ surfaceFlags rows :=
  Mesh.surfaceFlags_block_covers nx ny nz nid eid rows hperm hx hy hz i j k hi hj hk

/-- Non-vacuity: the 2×2×2 block with node ids `3n + 7` and descending element ids `100 − e`: 27 rows, exactly the
centre node (grid number 13, id 46) is not flagged. -/
example : (surfaceFlags (blockRows 2 2 2 (fun n => 3 * (n : Int) + 7) (fun e => 100 - (e : Int)))).filter (fun r => !r.2)
    = [(46, false)] := by decide +kernel

end PylifeVerif.C19
