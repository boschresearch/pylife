/-
C18 — Wöhler test-data analysis: equivariance under load / cycle scaling, permutation invariance, zone partition,
exact recovery of a Basquin line, maximum likelihood not worse than its start.
Theorems about `Model/WoehlerAnalysis.lean` at ℝ; the proofs are in the five `Proofs/Lemmas/Woehler{Basics,Zones,Elementary,Probit,MaxLike}.lean`
imported below.
A theorem here whose name also occurs there has the same statement word for word and is that theorem applied - except
`zones_partition` (two more clauses here) and `maxLikeInf_cycle_scale` (here the guards stand inside the conjunction, in
front of the clauses that need them); this file is where the property's theorems stand together.

`Q` (scipy's `norm.ppf`) and `Φ` (`norm.cdf`) are ARBITRARY functions ℝ → ℝ here: nothing about them is needed.
`opt` (scipy's `optimize.fmin`) is an ARBITRARY function in the maximum-likelihood pipelines: for `maxLikeInf` a function
of the objective alone (the start is always `(1, 1)`), for `maxLikeFull` a function of the objective AND of the start vector
(`fullStart`: 1 per parameter, 0 where the elementary start value is 0 - /repo d747c6e, scaling `relScale`).  Their
equivariance holds for every optimiser, because the objective the code hands over (in parameters relative to the start
values) and the start vector are the same for the transformed data set.  `ml_not_worse_than_start_partial` assumes one
contract per pipeline: `NeverWorseThanStart (1, 1)` and `NeverWorseThanItsStart`.
Admissible data: positive loads / cycles; `c > 0`.
-/
import Proofs.Lemmas.WoehlerBasics
import Proofs.Lemmas.WoehlerZones
import Proofs.Lemmas.WoehlerElementary
import Proofs.Lemmas.WoehlerProbit
import Proofs.Lemmas.WoehlerMaxLike

namespace PylifeVerif.C18
open PylifeVerif.WoehlerAnalysis

/-- `ols` models `scipy.stats.linregress`: shifting abscissae by `a` and ordinates by `b` keeps the slope and moves the
intercept to `i + b − s·a` -/
theorem ols_shift_equivariant (pts : List (ℝ × ℝ)) (h : pts ≠ []) (a b : ℝ) :
    ols (pts.map fun p => (p.1 + a, p.2 + b)) = ((ols pts).1, (ols pts).2 + b - (ols pts).1 * a) :=
  WoehlerBasics.ols_shift_equivariant pts h a b

/-- scaling the ordinates by `s` scales slope and intercept; scaling the abscissae by `c ≠ 0` divides the slope -/
theorem ols_scale_equivariant (pts : List (ℝ × ℝ)) (s : ℝ) {c : ℝ} (hc : c ≠ 0) :
    ols (pts.map fun p => (p.1, s * p.2)) = (s * (ols pts).1, s * (ols pts).2) ∧
    ols (pts.map fun p => (c * p.1, p.2)) = ((ols pts).1 / c, (ols pts).2) :=
  ⟨by simpa only [one_mul, div_one] using WoehlerBasics.ols_scale pts s one_ne_zero,
    by simpa only [one_mul] using WoehlerBasics.ols_scale pts 1 hc⟩

theorem ols_perm_invariant {p₁ p₂ : List (ℝ × ℝ)} (h : p₁.Perm p₂) : ols p₁ = ols p₂ :=
  WoehlerBasics.ols_perm_invariant h

example : ols [((1:ℝ), (3:ℝ)), (2, 5), (4, 9)] = (2, 1) :=
  WoehlerBasics.ols_three_points

/-- At the automatic transition every test lies in exactly one zone (the two zones together are a permutation of
the data set, and no test is in both), the side of the reported transition decides which, and the finite zone
holds fractures only. -/
theorem zones_partition (d : List (Test ℝ)) (hpos : ∀ t ∈ d, 0 < t.load) (hf : finiteZone d ≠ []) :
    (finiteZone d ++ infiniteZone d).Perm d ∧
    (∀ t, t ∈ finiteZone d → t ∈ infiniteZone d → False) ∧
    (∀ t ∈ d, (t ∈ finiteZone d ↔ transition d < t.load) ∧ (t ∈ infiniteZone d ↔ t.load < transition d)) ∧
    (runouts d ≠ [] → ∀ t ∈ finiteZone d, t.fracture = true) :=
  ⟨WoehlerZones.zones_perm d, WoehlerZones.zones_disjoint d, (WoehlerZones.zones_partition d hpos hf).2,
    fun _ => WoehlerZones.finiteZone_fracture d⟩

example : (∀ t ∈ WoehlerZones.exampleData, 0 < t.load) ∧ finiteZone WoehlerZones.exampleData ≠ [] :=
  ⟨fun t ht => (WoehlerZones.exampleData_spec.1 t ht).1, WoehlerZones.exampleData_spec.2.2.1⟩

/-- Series topped by a run-out level (no fracture above the highest run-out: the finite zone is empty and the code
guesses the transition from the two highest load levels, `_guess_from_second_highest_runout`): every test is in the
infinite zone and lies strictly below the reported transition. -/
theorem zones_partition_runout_topped (d : List (Test ℝ)) (hr : runouts d ≠ []) (hf : finiteZone d = [])
    (h2 : ∃ t ∈ d, ∃ u ∈ d, t.load ≠ u.load) :
    infiniteZone d = d ∧ ∀ t ∈ d, t.load < transition d :=
  WoehlerMaxLike.zones_partition_runout_topped d hr hf h2

example : let d : List (Test ℝ) := [⟨1, 100, false⟩, ⟨2, 10, true⟩, ⟨2, 100, false⟩]
    runouts d ≠ [] ∧ finiteZone d = [] ∧ ∃ t ∈ d, ∃ u ∈ d, t.load ≠ u.load :=
  WoehlerMaxLike.runoutTopped_spec

/-- All loads multiplied by `c > 0`: the endurance limit scales by `c`; slope and both scatters are unchanged; the knee
cycle number is unchanged whenever the reported endurance limit is not 0 (with no run-out the code reports `SD = 0`
and evaluates `ND` at the fixed load 0.1). -/
theorem elementary_load_scale (Q : ℝ → ℝ) {c : ℝ} (hc : 0 < c) (d : List (Test ℝ)) (hpos : ∀ t ∈ d, 0 < t.load) :
    (elementary Q (scaleLoad c d)).k1 = (elementary Q d).k1 ∧
    (elementary Q (scaleLoad c d)).SD = c * (elementary Q d).SD ∧
    (elementary Q (scaleLoad c d)).TN = (elementary Q d).TN ∧
    (elementary Q (scaleLoad c d)).TS = (elementary Q d).TS ∧
    ((elementary Q d).SD ≠ 0 → (elementary Q (scaleLoad c d)).ND = (elementary Q d).ND) :=
  WoehlerElementary.elementary_load_scale Q hc d hpos

/-- All cycle numbers multiplied by `c > 0`: the knee cycle number scales by `c`, the rest is unchanged.
Guards (forced by the proof, refuted without them in `Proofs/Lemmas/WoehlerElementary.lean`): positive loads (the code
returns NaN for a non-positive load) and at least one fracture in the finite zone (the analyzer rejects the rest).  Slope and
endurance limit need neither: `WoehlerElementary.elementary_cycle_scale_k1_SD`. -/
theorem elementary_cycle_scale (Q : ℝ → ℝ) {c : ℝ} (hc : 0 < c) (d : List (Test ℝ)) (hpos : ∀ t ∈ d, 0 < t.cycles)
    (hload : ∀ t ∈ d, 0 < t.load)
    (hne : (finiteZone (irrelevantRunoutsDropped d)).filter (·.fracture) ≠ []) :
    (elementary Q (scaleCycles c d)).k1 = (elementary Q d).k1 ∧
    (elementary Q (scaleCycles c d)).ND = c * (elementary Q d).ND ∧
    (elementary Q (scaleCycles c d)).SD = (elementary Q d).SD ∧
    (elementary Q (scaleCycles c d)).TN = (elementary Q d).TN ∧
    (elementary Q (scaleCycles c d)).TS = (elementary Q d).TS :=
  WoehlerElementary.elementary_cycle_scale Q hc d hpos hload hne

theorem elementary_perm_invariant (Q : ℝ → ℝ) {d₁ d₂ : List (Test ℝ)} (h : d₁.Perm d₂) :
    elementary Q d₁ = elementary Q d₂ :=
  WoehlerElementary.elementary_perm_invariant Q h

/-- Load scaling for Probit.  Guard `hps`: where the probit regression is used (≥ 2 levels in the infinite zone) its
slope is not 0 — with slope 0 the code returns inf / NaN and the totalised model returns `SD = 1` on both sides
(`WoehlerProbit.probit_load_scale_counterexample`). -/
theorem probit_load_scale (Q : ℝ → ℝ) {c : ℝ} (hc : 0 < c) (d : List (Test ℝ)) (hpos : ∀ t ∈ d, 0 < t.load)
    (hps : 2 ≤ (levels (infiniteZone (irrelevantRunoutsDropped d))).length →
      (ols (probitPoints Q (infiniteZone (irrelevantRunoutsDropped d)))).1 ≠ 0) :
    (probit Q (scaleLoad c d)).k1 = (probit Q d).k1 ∧ (probit Q (scaleLoad c d)).SD = c * (probit Q d).SD ∧
    (probit Q (scaleLoad c d)).TN = (probit Q d).TN ∧ (probit Q (scaleLoad c d)).TS = (probit Q d).TS ∧
    ((probit Q d).SD ≠ 0 → (probit Q (scaleLoad c d)).ND = (probit Q d).ND) :=
  WoehlerProbit.probit_load_scale Q hc d hpos hps

theorem probit_cycle_scale (Q : ℝ → ℝ) {c : ℝ} (hc : 0 < c) (d : List (Test ℝ)) (hpos : ∀ t ∈ d, 0 < t.cycles)
    (hload : ∀ t ∈ d, 0 < t.load)
    (hff : (finiteZone (irrelevantRunoutsDropped d)).filter (fun t => t.fracture) ≠ []) :
    (probit Q (scaleCycles c d)).k1 = (probit Q d).k1 ∧ (probit Q (scaleCycles c d)).ND = c * (probit Q d).ND ∧
    (probit Q (scaleCycles c d)).SD = (probit Q d).SD ∧ (probit Q (scaleCycles c d)).TN = (probit Q d).TN ∧
    (probit Q (scaleCycles c d)).TS = (probit Q d).TS :=
  WoehlerProbit.probit_cycle_scale Q hc d hpos hload hff

theorem probit_perm_invariant (Q : ℝ → ℝ) {d₁ d₂ : List (Test ℝ)} (h : d₁.Perm d₂) : probit Q d₁ = probit Q d₂ :=
  WoehlerProbit.probit_perm_invariant Q h

/-- non-vacuity of the guard `hps`: a data set with two levels in the infinite zone whose probit regression has a
non-zero slope (`Q = id`) -/
example : 2 ≤ (levels (infiniteZone (irrelevantRunoutsDropped WoehlerProbit.sample))).length ∧
    (ols (probitPoints id (infiniteZone (irrelevantRunoutsDropped WoehlerProbit.sample)))).1 ≠ 0 := by
  rw [WoehlerProbit.sample_ird, WoehlerProbit.sample_inf, WoehlerProbit.sample_levels]
  exact ⟨le_refl 2, WoehlerProbit.sample_slope⟩

/-- `MaxLikeInf`: all loads multiplied by `c > 0`, whatever the optimiser does. -/
theorem maxLikeInf_load_scale (Q Φ : ℝ → ℝ) (opt : (ℝ × ℝ → Option ℝ) → ℝ × ℝ) {c : ℝ} (hc : 0 < c)
    (d : List (Test ℝ)) (hpos : ∀ t ∈ d, 0 < t.load) :
    (maxLikeInf Q Φ opt (scaleLoad c d)).SD = c * (maxLikeInf Q Φ opt d).SD ∧
    (maxLikeInf Q Φ opt (scaleLoad c d)).TS = (maxLikeInf Q Φ opt d).TS ∧
    (maxLikeInf Q Φ opt (scaleLoad c d)).k1 = (maxLikeInf Q Φ opt d).k1 ∧
    (maxLikeInf Q Φ opt (scaleLoad c d)).TN = (maxLikeInf Q Φ opt d).TN ∧
    ((maxLikeInf Q Φ opt d).SD ≠ 0 → (maxLikeInf Q Φ opt (scaleLoad c d)).ND = (maxLikeInf Q Φ opt d).ND) :=
  WoehlerMaxLike.maxLikeInf_load_scale Q Φ opt hc d hpos

/-- `MaxLikeInf`: all cycle numbers multiplied by `c > 0` (guards as for Elementary); `SD` and `TS` need no guard at all
(also for run-out-topped staircase data, where the elementary part of the result is NaN in the code). -/
theorem maxLikeInf_cycle_scale (Q Φ : ℝ → ℝ) (opt : (ℝ × ℝ → Option ℝ) → ℝ × ℝ) {c : ℝ} (hc : 0 < c)
    (d : List (Test ℝ)) :
    ((∀ t ∈ d, 0 < t.cycles) → (∀ t ∈ d, 0 < t.load) →
      (finiteZone (irrelevantRunoutsDropped d)).filter (·.fracture) ≠ [] →
      (maxLikeInf Q Φ opt (scaleCycles c d)).k1 = (maxLikeInf Q Φ opt d).k1 ∧
      (maxLikeInf Q Φ opt (scaleCycles c d)).ND = c * (maxLikeInf Q Φ opt d).ND ∧
      (maxLikeInf Q Φ opt (scaleCycles c d)).TN = (maxLikeInf Q Φ opt d).TN) ∧
    (maxLikeInf Q Φ opt (scaleCycles c d)).SD = (maxLikeInf Q Φ opt d).SD ∧
    (maxLikeInf Q Φ opt (scaleCycles c d)).TS = (maxLikeInf Q Φ opt d).TS :=
  ⟨fun hpos hload hne =>
    have h := WoehlerMaxLike.maxLikeInf_cycle_scale Q Φ opt hc d hpos hload hne
    ⟨h.1, h.2.1, h.2.2.2.1⟩,
   WoehlerMaxLike.maxLikeInf_cycle_scale_SD_TS Q Φ opt c d⟩

theorem maxLikeInf_perm_invariant (Q Φ : ℝ → ℝ) (opt : (ℝ × ℝ → Option ℝ) → ℝ × ℝ) {d₁ d₂ : List (Test ℝ)}
    (h : d₁.Perm d₂) : maxLikeInf Q Φ opt d₁ = maxLikeInf Q Φ opt d₂ := by
  have hp := WoehlerZones.irrelevantRunoutsDropped_perm h
  rw [WoehlerMaxLike.maxLikeInf_eq, WoehlerMaxLike.maxLikeInf_eq, WoehlerMaxLike.maxLikeInfObjective_perm Φ hp,
    WoehlerZones.transition_perm hp, WoehlerElementary.kneeCurve_perm Q hp]

/-- `MaxLikeFull` (no user-fixed parameters; optimisation variables = parameters in units of their start value, or of 1 where
the start value is 0 (`relScale`), started at `fullStart`; the code's own fixed parameters included: `SD = 0`, `TS = 1` without run-outs,
`TS` of the pearl chain with fewer than two mixed levels): all loads multiplied by `c > 0`, whatever the optimiser does.
`ND`: without run-outs the code reports `SD = 0` and evaluates the start `ND` at the fixed load 0.1, so it is claimed for
data with run-outs only. -/
theorem maxLikeFull_load_scale (Q Φ : ℝ → ℝ) (opt : (Curve ℝ → Option ℝ) → Curve ℝ → Curve ℝ) {c : ℝ} (hc : 0 < c)
    (d : List (Test ℝ)) (hpos : ∀ t ∈ d, 0 < t.load) :
    (maxLikeFull Q Φ opt (scaleLoad c d)).SD = c * (maxLikeFull Q Φ opt d).SD ∧
    (maxLikeFull Q Φ opt (scaleLoad c d)).TS = (maxLikeFull Q Φ opt d).TS ∧
    (maxLikeFull Q Φ opt (scaleLoad c d)).k1 = (maxLikeFull Q Φ opt d).k1 ∧
    (maxLikeFull Q Φ opt (scaleLoad c d)).TN = (maxLikeFull Q Φ opt d).TN ∧
    (runouts d ≠ [] → (maxLikeFull Q Φ opt (scaleLoad c d)).ND = (maxLikeFull Q Φ opt d).ND) :=
  WoehlerMaxLike.maxLikeFull_load_scale Q Φ opt hc d hpos

theorem maxLikeFull_cycle_scale (Q Φ : ℝ → ℝ) (opt : (Curve ℝ → Option ℝ) → Curve ℝ → Curve ℝ) {c : ℝ} (hc : 0 < c)
    (d : List (Test ℝ)) (hpos : ∀ t ∈ d, 0 < t.cycles) (hload : ∀ t ∈ d, 0 < t.load)
    (hne : (finiteZone (irrelevantRunoutsDropped d)).filter (·.fracture) ≠ []) :
    (maxLikeFull Q Φ opt (scaleCycles c d)).k1 = (maxLikeFull Q Φ opt d).k1 ∧
    (maxLikeFull Q Φ opt (scaleCycles c d)).ND = c * (maxLikeFull Q Φ opt d).ND ∧
    (maxLikeFull Q Φ opt (scaleCycles c d)).SD = (maxLikeFull Q Φ opt d).SD ∧
    (maxLikeFull Q Φ opt (scaleCycles c d)).TN = (maxLikeFull Q Φ opt d).TN ∧
    (maxLikeFull Q Φ opt (scaleCycles c d)).TS = (maxLikeFull Q Φ opt d).TS :=
  WoehlerMaxLike.maxLikeFull_cycle_scale Q Φ opt hc d hpos hload hne

theorem maxLikeFull_perm_invariant (Q Φ : ℝ → ℝ) (opt : (Curve ℝ → Option ℝ) → Curve ℝ → Curve ℝ) {d₁ d₂ : List (Test ℝ)}
    (h : d₁.Perm d₂) : maxLikeFull Q Φ opt d₁ = maxLikeFull Q Φ opt d₂ := by
  have hp := WoehlerZones.irrelevantRunoutsDropped_perm h
  rw [WoehlerMaxLike.maxLikeFull_eq, WoehlerMaxLike.maxLikeFull_eq, WoehlerElementary.elementaryCore_perm_invariant Q hp,
    WoehlerMaxLike.maxLikeFullObjective_perm Φ hp, WoehlerMaxLike.fullParams_perm hp]

/-- Without run-outs the objective of `MaxLikeFull` is the constant `-inf` (the code fixes `SD = 0`, for which
`likelihood_finite` returns `-inf`): no optimiser can move; the result is decided by what the optimiser returns on a
constant function (Nelder–Mead: the start, i.e. the elementary estimate with `TS = 1`). -/
theorem maxLikeFull_no_runouts_objective_constant (Φ : ℝ → ℝ) (d : List (Test ℝ)) (wc rel : Curve ℝ)
    (h : runouts d = []) : maxLikeFullObjective Φ d wc rel = none :=
  WoehlerMaxLike.maxLikeFullObjective_no_runouts Φ d wc rel h

/-- non-vacuity: a data set with run-outs, two mixed levels, a non-empty finite zone, positive loads and cycles, on which
nothing is dropped (the hypotheses of the ML theorems above and of `ml_not_worse_than_start_partial` below) -/
example : irrelevantRunoutsDropped WoehlerMaxLike.exampleData = WoehlerMaxLike.exampleData ∧
    runouts WoehlerMaxLike.exampleData ≠ [] ∧ fewMixedLevels WoehlerMaxLike.exampleData = false ∧
    (finiteZone WoehlerMaxLike.exampleData).filter (·.fracture) ≠ [] ∧
    (∀ t ∈ WoehlerMaxLike.exampleData, 0 < t.load ∧ 0 < t.cycles) :=
  WoehlerMaxLike.exampleData_spec

/-- Data exactly on `N = ND₀ (L/SD₀)^(−k)` (finite-zone fractures, at least two load levels): the slope is recovered. -/
theorem exact_basquin_slope (Q : ℝ → ℝ) (d : List (Test ℝ)) {k SD₀ ND₀ : ℝ} (hSD : 0 < SD₀) (hND : 0 < ND₀)
    (hline : ∀ t ∈ (finiteZone (irrelevantRunoutsDropped d)).filter (·.fracture),
      0 < t.load ∧ t.cycles = ND₀ * (t.load / SD₀) ^ (-k))
    (hlev : ∃ t ∈ (finiteZone (irrelevantRunoutsDropped d)).filter (·.fracture),
      ∃ u ∈ (finiteZone (irrelevantRunoutsDropped d)).filter (·.fracture), t.load ≠ u.load) :
    (elementary Q d).k1 = k :=
  WoehlerElementary.exact_basquin_slope Q d hSD hND hline hlev

/-- Probit and MaxLikeInf (whatever the optimiser returns) keep the slope of Elementary: exact Basquin data are returned
with that slope by them too.  (MaxLikeFull optimises the slope itself: its `k_1` is `|rel·k|` with the optimiser's `rel`.) -/
theorem exact_basquin_slope_probit_maxLikeInf (Q Φ : ℝ → ℝ) (opt : (ℝ × ℝ → Option ℝ) → ℝ × ℝ) (d : List (Test ℝ))
    {k SD₀ ND₀ : ℝ} (hSD : 0 < SD₀) (hND : 0 < ND₀)
    (hline : ∀ t ∈ (finiteZone (irrelevantRunoutsDropped d)).filter (·.fracture),
      0 < t.load ∧ t.cycles = ND₀ * (t.load / SD₀) ^ (-k))
    (hlev : ∃ t ∈ (finiteZone (irrelevantRunoutsDropped d)).filter (·.fracture),
      ∃ u ∈ (finiteZone (irrelevantRunoutsDropped d)).filter (·.fracture), t.load ≠ u.load) :
    (probit Q d).k1 = k ∧ (maxLikeInf Q Φ opt d).k1 = k := by
  rw [WoehlerProbit.probit_k1, WoehlerMaxLike.maxLikeInf_k1]
  exact ⟨exact_basquin_slope Q d hSD hND hline hlev, exact_basquin_slope Q d hSD hND hline hlev⟩

/- FULL STATEMENT (false as mathematics for the estimator the code uses): "… and TN = TS = 1".
PROVED: all shifted (pearl chain) cycles coincide, hence the probability-net regression whose slope yields TN has
Sxx = 0 — the code's `slope = Sxy / Sxx` is 0/0 (`Sxx = 0` itself: `WoehlerElementary.exact_basquin_pearl_chain_sxx_zero`).  (Over ℝ with x/0 = 0 the model value would be TN = 10^0 = 1 — true
for the wrong reason, therefore NOT stated.)  The real code returns NaN / inf / arbitrary values: known finding
`exact-basquin-scatter`. -/
theorem exact_basquin_no_scatter_partial (Q : ℝ → ℝ) (d : List (Test ℝ)) {k SD₀ ND₀ : ℝ} (hSD : 0 < SD₀) (hND : 0 < ND₀)
    (hline : ∀ t ∈ (finiteZone (irrelevantRunoutsDropped d)).filter (·.fracture),
      0 < t.load ∧ t.cycles = ND₀ * (t.load / SD₀) ^ (-k))
    (hlev : ∃ t ∈ (finiteZone (irrelevantRunoutsDropped d)).filter (·.fracture),
      ∃ u ∈ (finiteZone (irrelevantRunoutsDropped d)).filter (·.fracture), t.load ≠ u.load) :
    ∃ N₀, ∀ n ∈ normedCycles ((finiteZone (irrelevantRunoutsDropped d)).filter (·.fracture))
      (fitSlope (irrelevantRunoutsDropped d)).1, n = N₀ :=
  WoehlerElementary.exact_basquin_pearl_chain_degenerate d hSD hND hline hlev

/-- non-vacuity: two tests on `N = 100 L^(−2)` satisfy the hypotheses; the recovered slope is 2 and the pearl chain
collapses to a single value -/
example : (elementary (fun x => x) WoehlerElementary.exampleData).k1 = 2 ∧
    ∃ N₀, ∀ n ∈ normedCycles ((finiteZone (irrelevantRunoutsDropped WoehlerElementary.exampleData)).filter (·.fracture))
      (fitSlope (irrelevantRunoutsDropped WoehlerElementary.exampleData)).1, n = N₀ :=
  ⟨exact_basquin_slope _ _ one_pos (by norm_num) WoehlerElementary.exampleData_line WoehlerElementary.exampleData_levels,
    exact_basquin_no_scatter_partial (fun x => x) _ one_pos (by norm_num) WoehlerElementary.exampleData_line
      WoehlerElementary.exampleData_levels⟩

/-- The likelihood functions are invariant when data and parameters are scaled together (loads with `SD`, cycles
with `ND`) and under permutation of the rows: the maximum-likelihood objective of the scaled problem is the original
objective in scaled parameters. -/
theorem likelihood_invariant_under_scaling (Φ : ℝ → ℝ) {c : ℝ} (hc : 0 < c) (d : List (Test ℝ)) (cv : Curve ℝ)
    (hSD : 0 < cv.SD) (hND : 0 < cv.ND) (hd : ∀ t ∈ d, 0 < t.load ∧ 0 < t.cycles) :
    likTotal Φ (scaleLoad c d) { cv with SD := c * cv.SD } = likTotal Φ d cv ∧
    likTotal Φ (scaleCycles c d) { cv with ND := c * cv.ND } = likTotal Φ d cv ∧
    likInfinite Φ (scaleLoad c d) (c * cv.SD) cv.TS = likInfinite Φ d cv.SD cv.TS ∧
    likInfinite Φ (scaleCycles c d) cv.SD cv.TS = likInfinite Φ d cv.SD cv.TS ∧
    (∀ d₂, d.Perm d₂ → likTotal Φ d cv = likTotal Φ d₂ cv ∧ likInfinite Φ d cv.SD cv.TS = likInfinite Φ d₂ cv.SD cv.TS) :=
  ⟨WoehlerZones.likTotal_scaleLoad Φ hc d cv, WoehlerZones.likTotal_scaleCycles Φ hc d cv hND hd,
    WoehlerZones.likInfinite_scaleLoad Φ hc d cv.TS, WoehlerZones.likInfinite_scaleCycles Φ c d cv.SD cv.TS,
    fun _ h => ⟨WoehlerZones.likTotal_perm Φ h cv, WoehlerZones.likInfinite_perm Φ h cv.SD cv.TS⟩⟩

/-- order on log-likelihood values with `none` = −∞ (the code's `-np.inf`) -/
abbrev LeLik := WoehlerMaxLike.LeLik

/-- The contract ASSUMED of `scipy.optimize.fmin` (Nelder–Mead): the returned point is never worse than the start `x₀`
(the start is a vertex of the initial simplex and the best vertex is kept).  `opt f` maximises `f` from `x₀`. -/
abbrev NeverWorseThanStart {X : Type} (x₀ : X) (opt : (X → Option ℝ) → X) : Prop := WoehlerMaxLike.NeverWorseThan x₀ opt

/-- the same contract for an optimiser that is handed its start point (`MaxLikeFull`: the start vector depends on the data -
1 for a parameter scaled by its start value, 0 for a parameter whose start value is 0) -/
abbrev NeverWorseThanItsStart {X : Type} (opt : (X → Option ℝ) → X → X) : Prop := WoehlerMaxLike.NeverWorseThanFrom opt

/- FULL STATEMENT (not provable here): `MaxLikeInf(df).analyze()` / `MaxLikeFull(df).analyze()` return parameters whose
likelihood is ≥ the likelihood of the estimate the search starts from.
PROVED, about the model PIPELINES `maxLikeInf` / `maxLikeFull` (reduced data, start point, objective incl. the code's fixed
parameters and `np.abs`, scaling of the optimisation variables, post-processing - each tied to maxlike.py by the
correspondence), for every optimiser honouring the contract:
 (1) MaxLikeInf: the infinite-zone likelihood of the RESULT is ≥ that of its start `(finite_infinite_transition, 1.2)`;
 (2) MaxLikeFull: the total likelihood of the RESULT is ≥ the objective at the start vector `fullStart`;
 (3) when nothing is fixed (run-outs, two mixed levels) and the elementary curve has non-negative entries and `ND > 0`,
     the objective at the start vector IS the total likelihood of the elementary estimate (also when some of its entries
     are 0): the result of MaxLikeFull is not worse than the elementary estimate it starts from.
MISSING: that scipy's `fmin` honours the contract (external code; measured per run by the oracle).  Without run-outs (3)
does not apply and (2) holds as `-inf ≤ -inf` (`maxLikeFull_no_runouts_objective_constant`). -/
theorem ml_not_worse_than_start_partial (Q Φ : ℝ → ℝ) (d : List (Test ℝ))
    (opt₂ : (ℝ × ℝ → Option ℝ) → ℝ × ℝ) (h₂ : NeverWorseThanStart ((1 : ℝ), (1 : ℝ)) opt₂)
    (opt₅ : (Curve ℝ → Option ℝ) → Curve ℝ → Curve ℝ) (h₅ : NeverWorseThanItsStart opt₅) :
    LeLik (likInfinite Φ (irrelevantRunoutsDropped d) (transition (irrelevantRunoutsDropped d)) 1.2)
      (likInfinite Φ (irrelevantRunoutsDropped d) (maxLikeInf Q Φ opt₂ d).SD (maxLikeInf Q Φ opt₂ d).TS) ∧
    LeLik (maxLikeFullObjective Φ (irrelevantRunoutsDropped d) (elementaryCore Q (irrelevantRunoutsDropped d))
        (fullStart (elementaryCore Q (irrelevantRunoutsDropped d))))
      (likTotal Φ (irrelevantRunoutsDropped d) (maxLikeFull Q Φ opt₅ d)) ∧
    (runouts (irrelevantRunoutsDropped d) ≠ [] → fewMixedLevels (irrelevantRunoutsDropped d) = false →
      (0 ≤ (elementary Q d).k1 ∧ 0 < (elementary Q d).ND ∧ 0 ≤ (elementary Q d).SD ∧ 0 ≤ (elementary Q d).TN ∧
        0 ≤ (elementary Q d).TS) →
      LeLik (likTotal Φ (irrelevantRunoutsDropped d) (elementary Q d))
        (likTotal Φ (irrelevantRunoutsDropped d) (maxLikeFull Q Φ opt₅ d))) :=
  ⟨WoehlerMaxLike.maxLikeInf_not_worse Q Φ opt₂ h₂ d, WoehlerMaxLike.maxLikeFull_not_worse Q Φ opt₅ h₅ d,
    fun hr hm hw => WoehlerMaxLike.maxLikeFull_not_worse_than_elementary Q Φ opt₅ h₅ d hr hm hw⟩

/-- non-vacuity: the optimiser that returns its start honours both contracts -/
example {X : Type} (x₀ : X) : NeverWorseThanStart x₀ (fun _ => x₀) ∧ NeverWorseThanItsStart (fun (_ : X → Option ℝ) x₀ => x₀) :=
  WoehlerMaxLike.neverWorse_start x₀

end PylifeVerif.C18
