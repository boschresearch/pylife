/-
C02, four-point part: the scan `findTurns` finds exactly the declarative reversals, and the
four-point detector model is the textbook four-point rule on the turning-point sequence; cycles and
residual partition the turning points; all reported indices are valid.  All of it is proved of the
canonical state `fpCanon s` that the detector reaches on every chunking of `s` (`fpRun_canon`).
-/
import Proofs.Lemmas.FourPointSpec
import Proofs.C01Core

namespace PylifeVerif.C02
open PylifeVerif.Rainflow

theorem findTurns_eq_reversals (s : List Int) : findTurns s = Spec.reversals s := by
  rw [findTurns_eq_revList, reversals_eq_revList]

/-- **The canonical state is the four-point rule on the turning points**, for every signal (the
first and the last sample are turning points of their own, also when they coincide). -/
theorem fpCanon_eq_spec (s : List Int) (ch : List Nat) :
    ((fpCanon s ch).cycles, residualPts (fpCanon s ch)) = Spec.fourPoint (Spec.turningPoints s) := by
  cases s with
  | nil => rfl
  | cons s0 tl =>
    simp only [Spec.turningPoints, ← findTurns_eq_reversals]
    rw [List.cons_append, fourPoint_spec_eq, Common.fpFeed_append, Common.fpFeed_cons]
    simp only [residualPts, fpCanon_cons, canonTs, fpFeedClose, Common.fpFeed_nil, List.append_nil, List.reverse_cons]

theorem fpCanon_partition (s : List Int) (ch : List Nat) :
    (((fpCanon s ch).cycles.flatMap fun c => [c.1, c.2]) ++ residualPts (fpCanon s ch)).Perm
      (Spec.turningPoints s) := by
  have h3 := fpCanon_eq_spec s ch
  have hc : (fpCanon s ch).cycles = (Spec.fourPoint (Spec.turningPoints s)).1 := congrArg Prod.fst h3
  have hr : residualPts (fpCanon s ch) = (Spec.fourPoint (Spec.turningPoints s)).2 := congrArg Prod.snd h3
  rw [hc, hr]
  cases s with
  | nil => exact List.Perm.refl _
  | cons s0 tl =>
    simp only [Spec.turningPoints]
    rw [List.cons_append, fourPoint_spec_eq]
    exact fpFeed_perm _ [_]

theorem turningPoints_index_valid (s : List Int) :
    ∀ p ∈ Spec.turningPoints s, s[p.1]? = some p.2 := by
  match s with
  | [] => simp [Spec.turningPoints]
  | s0 :: tl =>
    intro p hp
    simp only [Spec.turningPoints, List.mem_cons, List.mem_append, List.not_mem_nil, or_false] at hp
    rcases hp with (rfl | hp) | rfl
    · simp
    · exact reversals_index_valid _ p hp
    · simp [List.getLast!_eq_getLast?_getD, List.getLast?_eq_getElem?]

/-! For every chunking (empty chunks included), without a lower bound on the length: -/

theorem fpRun_eq_spec (cs : List (List Int)) :
    ((fpRun cs).cycles, residualPts (fpRun cs)) = Spec.fourPoint (Spec.turningPoints cs.flatten) := by
  rw [fpRun_canon]
  exact fpCanon_eq_spec _ _

theorem fpRun_partition (cs : List (List Int)) :
    (((fpRun cs).cycles.flatMap fun c => [c.1, c.2]) ++ residualPts (fpRun cs)).Perm
      (Spec.turningPoints cs.flatten) := by
  rw [fpRun_canon]
  exact fpCanon_partition _ _

theorem fpRun_index_valid (cs : List (List Int)) :
    ∀ p ∈ ((fpRun cs).cycles.flatMap fun c => [c.1, c.2]) ++ residualPts (fpRun cs),
      cs.flatten[p.1]? = some p.2 :=
  fun p hp => turningPoints_index_valid _ p ((fpRun_partition cs).mem_iff.mp hp)

/-! One chunk (the hypothesis `2 ≤ s.length` of the property text is kept; the general theorems do without it): -/

theorem fourPoint_eq_spec (s : List Int) (h : 2 ≤ s.length) :
    ((fpRun [s]).cycles, residualPts (fpRun [s])) = Spec.fourPoint (Spec.turningPoints s) := by
  have := fpRun_eq_spec [s]
  rwa [List.flatten_singleton] at this

theorem fourPoint_partition (s : List Int) (h : 2 ≤ s.length) :
    (((fpRun [s]).cycles.flatMap fun c => [c.1, c.2]) ++ residualPts (fpRun [s])).Perm (Spec.turningPoints s) := by
  have := fpRun_partition [s]
  rwa [List.flatten_singleton] at this

theorem fourPoint_index_valid (s : List Int) (h : 2 ≤ s.length) :
    ∀ p ∈ ((fpRun [s]).cycles.flatMap fun c => [c.1, c.2]) ++ residualPts (fpRun [s]), s[p.1]? = some p.2 := by
  have := fpRun_index_valid [s]
  rwa [List.flatten_singleton] at this

/-! Non-vacuity / sanity examples -/

example : findTurns [0, 3, 3, 1, 1, 4, 2, 2] = [(1, 3), (3, 1), (5, 4)] := by decide
example : Spec.turningPoints [0, 3, 3, 1, 1, 4, 2, 2] = [(0, 0), (1, 3), (3, 1), (5, 4), (7, 2)] := by
  decide
example : (fpRun [[0, 5, 2, 4, 1, 6, 0]]).cycles = [((2, 2), (3, 4)), ((1, 5), (4, 1))] := by
  simp [fpRun, fpProcess, newTurns, findTurns, findTurnsAux, fpFeed, fpPush, fpClose, sgn, absDiff]

/-- the hypothesis `2 ≤ s.length` is satisfiable on a signal with plateaus and nested cycles -/
example : 2 ≤ ([0, 5, 5, 2, 4, 4, 1, 6, 6, 0] : List Int).length := by decide
example := fourPoint_eq_spec [0, 5, 5, 2, 4, 4, 1, 6, 6, 0] (by decide)
example := fourPoint_partition [0, 5, 5, 2, 4, 4, 1, 6, 6, 0] (by decide)
example := fourPoint_index_valid [0, 5, 5, 2, 4, 4, 1, 6, 6, 0] (by decide)

end PylifeVerif.C02

section AxiomCheck
open PylifeVerif.C02
#print axioms findTurns_eq_reversals
#print axioms fourPoint_eq_spec
#print axioms fourPoint_partition
#print axioms fourPoint_index_valid
end AxiomCheck
