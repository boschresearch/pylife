/-
C04 for the CODE model `twoPass` (first-run flush flag from `findTurns (reps ++ reps)`), as
opposed to the repaired variant `twoPassR` about which `C04Basic`, `C04Pass2` speak.
-/
import Proofs.C04Basic
import Proofs.C04Pass2

namespace PylifeVerif
open HCM Rainflow
namespace C04

/-- the code's first run flushes, i.e. is fed the last sample of the trimmed sequence -/
def FirstRunFlushes (s : List Vec) : Prop := (adjustFirstRun (dropTrailingNonReversals s)).2 = true

instance (s : List Vec) : Decidable (FirstRunFlushes s) := by
  unfold FirstRunFlushes; infer_instance

/-- When the code's first run flushes, the code and the repaired variant coincide. -/
theorem twoPass_eq_twoPassR (law : Law) (s : List Vec) (h2 : TwoDistinct (s.map rep))
    (hf : FirstRunFlushes s) : twoPass law s = twoPassR law s := by
  have hR := flush_of_twoDistinct s h2
  unfold FirstRunFlushes at hf
  rw [(Insert.twoPass_eq law s).1, (Insert.twoPass_eq law s).2, ← Insert.adjust_snd, ← Insert.adjustR_snd, hf, hR]

/-- Half-counted (Memory 3) hystereses are symmetric about zero and carry the zero-mean flag;
closed ones do not (code model). -/
theorem memory3_symmetric_code (law : Law) (s : List Vec) :
    ∀ h ∈ (twoPass law s).recs,
      (h.closed = false → h.zeroMean = true ∧ h.loadMin = vneg h.loadMax ∧ h.sMin = vneg h.sMax ∧ h.eMin = vneg h.eMax) ∧
      (h.closed = true → h.zeroMean = false) := by
  rw [(Insert.twoPass_eq law s).2]
  exact twoProcess_recOK law _ _ _

/-- Memory 3 occurs only in the first pass: every hysteresis of pass 2 is a full one (code model,
whether or not the first run flushes). -/
theorem pass2_all_closed_code (law : Law) (s : List Vec) (h2 : TwoDistinct (s.map rep)) :
    ∀ h ∈ (twoPass law s).recs, h.run = 2 → h.closed = true := by
  have hR := flush_of_twoDistinct s h2
  rw [(Insert.twoPass_eq law s).2]
  generalize hs' : dropTrailingNonReversals s = s' at hR ⊢
  generalize hz : List.replicate (s'.headD []).length (0 : Int) = z
  have hz0 : rep z = 0 := by rw [← hz]; exact rep_replicate_zero _
  apply pass2_closed_of_dom
  cases hC : Insert.flushC (s'.map rep) with
  | true => exact pass1_dominates s' z hz0
  | false =>
    intro x hx
    simp only [List.map_cons, hz0] at hx
    obtain ⟨p, hp, hle⟩ := Insert.code_noflush_dominated _ (Insert.adjustR_snd s' ▸ hR) hC x hx
    have hl := procLoads_init (z :: s') (List.cons_ne_nil _ _) false
    simp only [List.map_cons, hz0, Bool.false_eq_true, if_false, List.append_nil] at hl
    have : p.2 ∈ (procLoads {} (z :: s') false).map rep := by
      rw [hl]; exact List.mem_map.mpr ⟨p, hp, rfl⟩
    obtain ⟨load, hload, hr⟩ := List.mem_map.mp this
    exact ⟨load, hload, by rw [hr]; exact hle⟩

/-- The hystereses of the second pass are exactly the closed cycles of the endlessly repeated
sequence, each once - for the code model under the hypothesis that its first run flushes. -/
theorem pass2_eq_periodicRainflow_partial (law : Law) (s : List Int) (h2 : TwoDistinct s)
    (hf : FirstRunFlushes (one s)) :
    (pass2Ranges (twoPass law (one s))).Perm (Spec.periodicRainflow s) := by
  have h2' : TwoDistinct ((one s).map rep) := by
    rw [one_rep]; exact h2
  rw [twoPass_eq_twoPassR law (one s) h2' hf]
  exact pass2_eq_periodicRainflow law s h2

/-- Without the hypothesis the statement is false for the code: the deferred last sample produces an
extra closed hysteresis in pass 2 (open finding `first-run-defers-last-sample`). -/
theorem pass2_eq_periodicRainflow_fails_at_witness :
    ¬ (pass2Ranges (twoPass lawLinear (one [500,200,400,100]))).Perm
        (Spec.periodicRainflow [500,200,400,100]) := by decide +kernel

/-- `FirstRunFlushes` holds on a non-trivial sequence and fails at the witness -/
example : FirstRunFlushes (one [100, -200, 0, 200, -100, 100]) ∧
    ¬ FirstRunFlushes (one [500, 200, 400, 100]) := by decide +kernel

/-- the unguarded theorems apply at the non-flushing witness (two distinct values, flag false) -/
example : ∀ h ∈ (twoPass lawLinear (one [500, 200, 400, 100])).recs, h.run = 2 → h.closed = true :=
  pass2_all_closed_code lawLinear _ ⟨500, by decide, 200, by decide, by decide⟩

end C04
end PylifeVerif
