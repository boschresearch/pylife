/-
Bridge for the WHOLE constants table of `src/pylife/strength/fkm_nonlinear/constants.py`: the generated copy
(Generated/FkmConstants.lean, regenerated from the current source) equals the hand model `FkmNl.consts` entry by entry, and
no key of the source is left out.  C09 uses only `Bridge.constants_eq_c09` (the keys C09 reads); the remaining keys are read
by the assessment model (`Model/Assessment.lean`, property C10), whose check builds this module.
-/
import Proofs.BridgeC09

namespace PylifeVerif.Bridge
open PylifeVerif PylifeVerif.FkmNl

/-- the generated copy of `all_constants` (what `constants.py` says now) is the hand model's table, entry by entry -/
theorem constants_eq (g : Group) :
    constKeys.map (entry Generated.all_constants (groupName g)) = (consts g : Consts ℝ).toList := by
  cases g <;>
    simp only [constKeys, groupName, entry, Generated.all_constants, consts, Consts.toList, List.lookup, List.map,
      String.reduceBEq, Option.bind] <;>
    norm_num

/-- … and every key of the source table is one of these keys (no entry of the source is left out of the comparison) -/
theorem constants_keys_complete (g : Group) :
    ((Generated.all_constants (α := ℝ)).lookup (groupName g)).map
      (fun rows => (rows.map Prod.fst).all (fun k => constKeys.contains k)) = some true := by
  cases g <;> decide

end PylifeVerif.Bridge
