/-
C04 for THE CODE (`twoPass`, first-run flush flag decided on the zero-prefixed sequence doubled WITH
the zero): non-reversal samples do not change what the FKM-nonlinear HCM detector records.
The same instances of `passes_insert_interior` / `passes_append` as in `Proofs/C04Insert.lean` (which
is about the repaired variant `twoPassR`), with the code's flag `flushC` (`flag_ins [0]`).
-/
import Proofs.Lemmas.HCMPasses

namespace PylifeVerif
open HCM Rainflow
namespace C04
open HCM.Insert

/-- A sample lying (weakly) between its neighbours changes nothing that is recorded. -/
theorem hcm_insert_nonreversal_interior_code (law : Law) (pre post : List Int) (x y v : Int)
    (hv : (x ≤ v ∧ v ≤ y) ∨ (y ≤ v ∧ v ≤ x)) :
    (twoPass law (one (pre ++ x :: v :: y :: post))).recs = (twoPass law (one (pre ++ x :: y :: post))).recs := by
  rw [(twoPass_one_eq law _ (by simp)).2, (twoPass_one_eq law _ (by simp)).2]
  exact passes_insert_interior law flushC (flag_ins [0]) pre post x y v hv

/-- A sample appended at the end that lies between the last and the first sample (a non-reversal
at the junction of the passes; a repetition of the first sample would itself be the reversal) changes
nothing that is recorded. -/
theorem hcm_append_nonreversal_code (law : Law) (s : List Int) (a z v : Int) (hs : s.head? = some a) (hz : s.getLast? = some z)
    (hv : (a ≤ v ∧ v ≤ z) ∨ (z ≤ v ∧ v ≤ a)) (hne : v ≠ a ∨ v = z) :
    (twoPass law (one (s ++ [v]))).recs = (twoPass law (one s)).recs := by
  have hne' : s ≠ [] := List.ne_nil_of_mem (List.mem_of_getLast? hz)
  rw [(twoPass_one_eq law _ (by simp)).2, (twoPass_one_eq law s hne').2]
  exact passes_append law flushC s a z v hs hz hv hne

end C04

/-! ### non-vacuity / sanity instances -/

example : (twoPass lawSat (C04.one ([0, 100] ++ 300 :: 200 :: 100 :: [-200, 50]))).recs =
    (twoPass lawSat (C04.one ([0, 100] ++ 300 :: 100 :: [-200, 50]))).recs :=
  C04.hcm_insert_nonreversal_interior_code lawSat [0, 100] [-200, 50] 300 100 200 (by decide)
example : (twoPass lawLinear (C04.one ([0, 100] ++ 300 :: 200 :: 100 :: [-200, 50]))).recs ≠ [] := by
  decide +kernel
example : (twoPass lawSat (C04.one ([200, -100, 300, 50] ++ [100]))).recs =
    (twoPass lawSat (C04.one [200, -100, 300, 50])).recs :=
  C04.hcm_append_nonreversal_code lawSat [200, -100, 300, 50] 200 50 100 rfl rfl (by decide) (by decide)
example : (twoPass lawLinear (C04.one ([200, -100, 300, 50] ++ [100]))).recs ≠ [] := by decide +kernel
-- a sequence on which the code's flag and the repaired flag differ (the code defers the last sample)
example : HCM.Insert.flushC [200, 100] = false ∧ HCM.Insert.flushI [200, 100] = true := by decide

end PylifeVerif

#print axioms PylifeVerif.C04.hcm_insert_nonreversal_interior_code
#print axioms PylifeVerif.C04.hcm_append_nonreversal_code
