/-
C05, negation mirror: negating all loads mirrors what the detector records, for an odd law (`hcm_neg_mirror` for the
repaired variant `twoPassR`, `hcm_neg_mirror_code` for the code model `twoPass`: two instances of `twoPasses_neg`).
The state of the run on the negated input is `negSt` of the state of the run on the input, step by step
(`placeSample_neg`: the verdict is mapped, `verdict_neg`; `turnStep_neg`, `process_neg`) - except that `updateLF`
breaks a tie `previousLoad = load` the same way in both runs, so the running strain extremes are mirrored only as
long as consecutive fed loads differ (`ChainNe`, from `fed_chains`); a tie can occur only at the very last turning
point of pass 2, where nothing is recorded any more (`turnStep_neg_weak`).
-/
import Proofs.Lemmas.HCMFed

namespace PylifeVerif
open HCM Rainflow

namespace C05

def OddLaw (law : Law) : Prop :=
  (∀ l, law.sigma (-l) = -law.sigma l) ∧ (∀ s l, law.eps (-s) (-l) = -law.eps s l) ∧
  (∀ d, law.dsigma (-d) = -law.dsigma d) ∧ (∀ s d, law.deps (-s) (-d) = -law.deps s d)

/-- negating the loads mirrors all stresses and strains (odd law) -/
def mirror (h : Hyst) : Hyst :=
  { h with loadMin := vneg h.loadMax, loadMax := vneg h.loadMin, sMin := vneg h.sMax, sMax := vneg h.sMin,
           eMin := vneg h.eMax, eMax := vneg h.eMin, eMinLF := vneg h.eMaxLF, eMaxLF := vneg h.eMinLF }

def negP (p : HPoint) : HPoint := { load := vneg p.load, stress := vneg p.stress, strain := vneg p.strain }

/-- The state of the run on the negated loads: loads, stresses and strains negated, the records mirrored, the two
running extremes negated and swapped.  `loadMax` is an absolute value, `iz`, `ir`, `run`, `nFirst`, `started` count or
flag, and the turn bookkeeping keeps its indices. -/
def negSt (st : State) : State :=
  { ts := { tail := st.ts.tail.map (- ·), head := st.ts.head },
    res := st.res.map negP, iz := st.iz, ir := st.ir, loadMax := st.loadMax, run := st.run,
    eMinLF := vneg st.eMaxLF, eMaxLF := vneg st.eMinLF, started := st.started,
    lastSample := vneg st.lastSample, prevLoad := - st.prevLoad,
    strainValues := st.strainValues.map (- ·), nFirst := st.nFirst,
    recs := st.recs.map mirror, fed := st.fed.map fun f => (f.1, vneg f.2) }

theorem primary_neg {law : Law} (ho : OddLaw law) (load : Vec) :
    primary law (vneg load) = negP (primary law load) := by
  simp only [primary, negP, map_vneg _ ho.1, vzip_vneg2 _ _ ho.2.1]

theorem secondary_neg {law : Law} (ho : OddLaw law) (prev : HPoint) (load : Vec) :
    secondary law (negP prev) (vneg load) = negP (secondary law prev load) := by
  simp only [secondary, negP, vzip_vneg2 (· - ·) (· - ·) (fun a b => by omega),
    vzip_vneg2 (· + ·) (· + ·) (fun a b => by omega), map_vneg _ ho.2.2.1, vzip_vneg2 _ _ ho.2.2.2]

theorem noteStrain_neg (st : State) (p : HPoint) :
    noteStrain (negSt st) (negP p) = negSt (noteStrain st p) := by
  simp [noteStrain, negSt, negP, rep_vneg]
  rfl

theorem pick_lt (a b x y : Vec) :
    (if rep (vneg a) < rep (vneg b) then vneg x else vneg y) = vneg (if rep a > rep b then x else y) := by
  rw [rep_vneg, rep_vneg]; split_ifs <;> first | rfl | omega

theorem closedHyst_neg (st : State) (p0 p1 : HPoint) :
    closedHyst (negSt st) (negP p0) (negP p1) = mirror (closedHyst st p0 p1) := by
  simp only [closedHyst, mirror, negP, negSt, if_true, Bool.false_eq_true, if_false]
  congr 1 <;> exact pick_lt _ _ _ _

theorem halfHyst_neg (st : State) (prev : HPoint) :
    halfHyst (negSt st) (negP prev) = mirror (halfHyst st prev) := by
  simp only [halfHyst, mirror, negP, negSt, vabs_vneg, vneg_vneg]

/-- carrying out a verdict commutes with `negSt` -/
theorem negSt_place (st : State) (new : List Hyst) (rest : List HPoint) (ir' : Nat) :
    ({ negSt st with recs := (negSt st).recs ++ new.map mirror, res := rest.map negP,
                     iz := (rest.map negP).length, ir := ir' } : State) =
      negSt { st with recs := st.recs ++ new, res := rest, iz := rest.length, ir := ir' } := by
  simp only [negSt, List.map_append, List.length_map]

theorem negSt_addFed (st : State) (load : Vec) :
    ({ negSt st with fed := (negSt st).fed ++ [((negSt st).run, vneg load)] } : State) =
      negSt { st with fed := st.fed ++ [(st.run, load)] } := by
  simp only [negSt, List.map_append, List.map_cons, List.map_nil]

theorem newRecs_neg (st : State) (v : Verdict HPoint) :
    newRecs (negSt st) (v.map negP) = (newRecs st v).map mirror := by
  obtain ⟨cl, rest, _ | top | top⟩ := v <;>
    simp [newRecs, Verdict.map, Outcome.map, Function.comp_def, closedHyst_neg, halfHyst_neg]

theorem newPoint_neg {law : Law} (ho : OddLaw law) (load : Vec) (o : Outcome HPoint) :
    newPoint law (vneg load) (o.map negP) = negP (newPoint law load o) := by
  cases o
  · exact primary_neg ho load
  · exact primary_neg ho load
  · exact secondary_neg ho _ load

theorem place_neg {law : Law} (ho : OddLaw law) (load : Vec) (st : State) (v : Verdict HPoint) :
    place law (vneg load) (negSt st) (v.map negP) =
      (negSt (place law load st v).1, negP (place law load st v).2) := by
  unfold place
  rw [newRecs_neg, show (v.map negP).out = v.out.map negP from rfl, newPoint_neg ho, Verdict.ir_map]
  exact Prod.ext ((congrArg (noteStrain · _) (negSt_place st _ _ _)).trans (noteStrain_neg _ _)) rfl

theorem natAbs_sub_vneg (a b : Vec) : (rep (vneg a) - rep (vneg b)).natAbs = (rep a - rep b).natAbs := by
  rw [rep_vneg, rep_vneg, ← Int.natAbs_neg]; congr 1; omega

/-- The loop on the negated input comes to the mirrored verdict: all decisions compare absolute values of
loads and of load ranges. -/
theorem verdict_neg (load : Vec) (st : State) :
    (negSt st).verdict (vneg load) = (st.verdict load).map negP :=
  verdict_map _ _ _ _ negP _ _ _ _ (fun p1 _ p0 _ => by simp only [negP, natAbs_sub_vneg])
    (by rw [rep_vneg, Int.natAbs_neg]; rfl)

theorem inv_negSt {st : State} (h : Inv st) : Inv (negSt st) :=
  ⟨h.1.trans (List.length_map _).symm, h.2⟩

theorem placeSample_neg {law : Law} (ho : OddLaw law) (st : State) (load : Vec) (h : Inv st) :
    placeSample law (negSt st) (vneg load) =
      (negSt (placeSample law st load).1, negP (placeSample law st load).2) := by
  rw [placeSample_eq law st load h, placeSample_eq law (negSt st) (vneg load) (inv_negSt h), negSt_addFed,
    verdict_neg, place_neg ho]

theorem afterSample_neg (st : State) (load : Vec) (p : HPoint) :
    afterSample (negSt st) (vneg load) (negP p) = negSt (afterSample st load p) := by
  unfold afterSample
  rw [rep_vneg, Int.natAbs_neg, show (negSt st).loadMax = st.loadMax from rfl]
  split_ifs <;> rfl

/-- with a tie `a = b` both runs take the `else` branch of `updateLF` -/
theorem updateLF_neg (st : State) (a b : Int) (p : HPoint) (hne : a ≠ b) :
    updateLF (negSt st) (-a) (-b) (negP p) = negSt (updateLF st a b p) := by
  unfold updateLF
  by_cases h : a < b
  · rw [if_pos h, if_neg (by omega)]
    simp only [negSt, negP]
    congr 1
    exact vzip_vneg2 min max (fun a b => by omega) _ _
  · rw [if_neg h, if_pos (by omega)]
    simp only [negSt, negP]
    congr 1
    exact vzip_vneg2 max min (fun a b => by omega) _ _

/-- `turnStep` on the negated input, up to its last stage `updateLF` -/
theorem turnStep_neg_eq {law : Law} (ho : OddLaw law) (st : State) (prev : Int) (load : Vec) (hi : Inv st) :
    turnStep law (negSt st, -prev) (vneg load) =
      (updateLF (negSt (afterSample (placeSample law st load).1 load (placeSample law st load).2))
        (-prev) (-rep load) (negP (placeSample law st load).2), -rep load) := by
  rw [turnStep_stages, placeSample_neg ho st load hi, afterSample_neg, rep_vneg]

theorem turnStep_neg {law : Law} (ho : OddLaw law) (st : State) (prev : Int) (load : Vec) (hi : Inv st)
    (hne : prev ≠ rep load) :
    turnStep law (negSt st, -prev) (vneg load) =
      (negSt (turnStep law (st, prev) load).1, - (turnStep law (st, prev) load).2) := by
  rw [turnStep_neg_eq ho st prev load hi, updateLF_neg _ _ _ _ hne, turnStep_stages]

/-- consecutive loads (starting from the previous load) have distinct first-node values -/
def ChainNe : Int → List Vec → Prop
  | _, [] => True
  | prev, l :: ls => prev ≠ rep l ∧ ChainNe (rep l) ls

instance : ∀ (prev : Int) (ls : List Vec), Decidable (ChainNe prev ls)
  | _, [] => isTrue trivial
  | prev, l :: ls =>
    have := instDecidableChainNe (rep l) ls
    inferInstanceAs (Decidable (prev ≠ rep l ∧ ChainNe (rep l) ls))

theorem foldl_turnStep_neg {law : Law} (ho : OddLaw law) (loads : List Vec) :
    ∀ (st : State) (prev : Int), Inv st → ChainNe prev loads →
    (loads.map vneg).foldl (turnStep law) (negSt st, -prev) =
      (negSt (loads.foldl (turnStep law) (st, prev)).1, - (loads.foldl (turnStep law) (st, prev)).2) := by
  induction loads with
  | nil => intro st prev _ _; rfl
  | cons l ls ih =>
    intro st prev hi hc
    simp only [List.map_cons, List.foldl_cons]
    rw [turnStep_neg ho st prev l hi hc.1]
    exact ih (turnStep law (st, prev) l).1 (rep l) (turnStep_inv law st prev l hi) hc.2

theorem getElem!_map_vneg (samples : List Vec) (i : Nat) :
    (samples.map vneg).toArray[i]! = vneg (samples.toArray[i]!) := by
  simp only [List.getElem!_toArray, List.getElem!_eq_getElem?_getD, List.getElem?_map]
  cases samples[i]? <;> rfl

theorem rep_map_vneg (samples : List Vec) :
    (samples.map vneg).map rep = (samples.map rep).map (- ·) := by
  simp [List.map_map, Function.comp_def, rep_vneg]

theorem procLoads_neg (st : State) (samples : List Vec) (flush : Bool) :
    procLoads (negSt st) (samples.map vneg) flush = (procLoads st samples flush).map vneg := by
  unfold procLoads
  rw [rep_map_vneg]
  have : (negSt st).ts = { tail := st.ts.tail.map (- ·), head := st.ts.head } := rfl
  rw [this, Sym.newTurns_neg]
  simp only [List.map_map]
  apply List.map_congr_left
  intro p _
  simp only [Function.comp_def, getElem!_map_vneg, show (negSt st).lastSample = vneg st.lastSample from rfl]
  split_ifs <;> rfl

theorem procInit_neg (st : State) (samples : List Vec) (flush : Bool) :
    procInit (negSt st) (samples.map vneg) flush = negSt (procInit st samples flush) := by
  unfold procInit prep
  have hl : ((samples.map vneg).headD []).length = (samples.headD []).length := by
    cases samples <;> simp [length_vneg]
  have hg : (samples.map vneg).getLastD (vneg st.lastSample) = vneg (samples.getLastD st.lastSample) := by
    simp only [List.getLastD_eq_getLast?, List.getLast?_map]
    cases samples.getLast? <;> rfl
  rw [rep_map_vneg, hl]
  generalize samples.map rep = xs
  have hn := Sym.newTurns_neg st.ts xs flush
  by_cases h : st.started
  · simp [h, negSt, hn]
  · simp [h, negSt, hn, vneg_replicate_zero]

theorem process_neg {law : Law} (ho : OddLaw law) (st : State) (samples : List Vec) (flush : Bool) (hi : Inv st)
    (hc : ChainNe st.prevLoad (procLoads st samples flush)) :
    process law (negSt st) (samples.map vneg) flush = negSt (process law st samples flush) := by
  rw [process_eq, process_eq, procLoads_neg, procInit_neg,
    show (negSt st).prevLoad = - st.prevLoad from rfl,
    foldl_turnStep_neg ho _ _ _ (procInit_inv st samples flush hi) hc]
  simp [negSt]

theorem dropTrailing_neg (s : List Vec) :
    dropTrailingNonReversals (s.map vneg) = (dropTrailingNonReversals s).map vneg := by
  rw [Insert.dropTrailing_eq, Insert.dropTrailing_eq, rep_map_vneg, Insert.cutI_map _ Sym.findTurns_neg_idx,
    List.map_take]

theorem oddLaw_linear : OddLaw lawLinear := by
  refine ⟨?_, ?_, ?_, ?_⟩ <;> intros <;> simp only [lawLinear] <;> omega

theorem chainNe_iff (loads : List Vec) : ∀ prev : Int, ChainNe prev loads ↔ C04.AdjNe (prev :: loads.map rep) := by
  induction loads with
  | nil => intro prev; simp [ChainNe]
  | cons l ls ih => intro prev; simp only [ChainNe, List.map_cons, List.isChain_cons_cons, ih]

/-- without the no-tie hypothesis the records and strain values are still mirrored: `updateLF` does
not touch them -/
theorem turnStep_neg_weak {law : Law} (ho : OddLaw law) (st : State) (prev : Int) (load : Vec) (hi : Inv st) :
    (turnStep law (negSt st, -prev) (vneg load)).1.recs =
      (negSt (turnStep law (st, prev) load).1).recs ∧
    (turnStep law (negSt st, -prev) (vneg load)).1.strainValues =
      (negSt (turnStep law (st, prev) load).1).strainValues := by
  rw [turnStep_neg_eq ho st prev load hi, turnStep_stages]
  unfold updateLF
  split <;> split <;> exact ⟨rfl, rfl⟩

theorem process_neg_weak {law : Law} (ho : OddLaw law) (st : State) (samples : List Vec) (flush : Bool)
    (hi : Inv st) (hc : ChainNe st.prevLoad (procLoads st samples flush).dropLast) :
    (process law (negSt st) (samples.map vneg) flush).recs =
      (process law st samples flush).recs.map mirror ∧
    (process law (negSt st) (samples.map vneg) flush).strainValues =
      (process law st samples flush).strainValues.map (- ·) := by
  rw [process_eq, process_eq, procLoads_neg, procInit_neg,
    show (negSt st).prevLoad = - st.prevLoad from rfl]
  by_cases hl : procLoads st samples flush = []
  · rw [hl]; exact ⟨rfl, rfl⟩
  · rw [← List.dropLast_append_getLast hl] at hc ⊢
    generalize (procLoads st samples flush).dropLast = init at hc ⊢
    generalize (procLoads st samples flush).getLast hl = l
    rw [List.dropLast_concat] at hc
    simp only [List.map_append, List.map_cons, List.map_nil, List.foldl_append, List.foldl_cons,
      List.foldl_nil]
    rw [foldl_turnStep_neg ho init _ _ (procInit_inv st samples flush hi) hc]
    exact turnStep_neg_weak ho _ _ l (foldl_turnStep_inv law init _ (procInit_inv st samples flush hi))

/-- Two passes from the fresh state, the first over the zero-prefixed sequence; `hstep`: if it flushes, its last
step is not flat.  Then consecutive fed loads differ (`fed_chains`), the very last turning point of the second pass
apart, where a tie is harmless. -/
theorem twoProcess_neg {law : Law} (ho : OddLaw law) (s1 s' : List Vec) (f : Bool)
    (hs1 : s1.map rep = 0 :: s'.map rep)
    (hstep : f = true → ∃ w0 a l, a ≠ l ∧ (0 :: s'.map rep) = w0 ++ [a, l]) :
    (process law (process law {} (s1.map vneg) f) (s'.map vneg) true).recs =
      (process law (process law {} s1 f) s' true).recs.map mirror ∧
    (process law (process law {} (s1.map vneg) f) (s'.map vneg) true).strainValues =
      (process law (process law {} s1 f) s' true).strainValues.map (- ·) := by
  have hc := fed_chains law s1 s' hs1 f hstep
  rw [← List.map_dropLast, ← chainNe_iff, ← chainNe_iff] at hc
  have h : process law {} (s1.map vneg) f = negSt (process law {} s1 f) := process_neg ho {} s1 f Inv.init hc.1
  rw [h]
  exact process_neg_weak ho _ _ true (process_inv law {} s1 f Inv.init) hc.2

theorem zero_cons_map_vneg (s : List Vec) :
    List.replicate ((s.map vneg).headD []).length (0 : Int) :: s.map vneg =
      (List.replicate (s.headD []).length (0 : Int) :: s).map vneg := by
  cases s <;> simp [length_vneg, vneg_replicate_zero, vneg_nil]

/-- The two passes on the trimmed sequence `s'` with the first-run flag left to a policy on the first-node loads
(`Insert.twoPass_eq`: both drivers are of this form): the mirror holds for every policy that does not see the sign and
flushes only behind a step. -/
theorem twoPasses_neg {law : Law} (ho : OddLaw law) (fl : List Int → Bool) (hneg : ∀ t, fl (t.map (- ·)) = fl t)
    (hstep : ∀ t, fl t = true → ∃ w0 a l, a ≠ l ∧ (0 :: t) = w0 ++ [a, l]) (s' : List Vec) :
    (process law (process law {} (List.replicate ((s'.map vneg).headD []).length 0 :: s'.map vneg)
        (fl ((s'.map vneg).map rep))) (s'.map vneg) true).recs =
      (process law (process law {} (List.replicate (s'.headD []).length 0 :: s') (fl (s'.map rep))) s' true).recs.map
        mirror ∧
    (process law (process law {} (List.replicate ((s'.map vneg).headD []).length 0 :: s'.map vneg)
        (fl ((s'.map vneg).map rep))) (s'.map vneg) true).strainValues =
      (process law (process law {} (List.replicate (s'.headD []).length 0 :: s') (fl (s'.map rep))) s'
        true).strainValues.map (- ·) := by
  rw [zero_cons_map_vneg, rep_map_vneg, hneg]
  exact twoProcess_neg ho _ _ _ (by rw [List.map_cons, rep_replicate_zero]) (hstep _)

/-- **C05, negation mirror** (full statement).  Ties (`previousLoad = load` in `updateLF`, where both
runs take the same branch) occur only at the very last turning point of pass 2 (constant sequences);
there the running strain extremes may differ from the mirror image but nothing is recorded any more. -/
theorem hcm_neg_mirror (law : Law) (ho : OddLaw law) (s : List Vec) :
    (twoPassR law (s.map vneg)).recs = (twoPassR law s).recs.map mirror ∧
    (twoPassR law (s.map vneg)).strainValues = (twoPassR law s).strainValues.map (- ·) := by
  rw [(Insert.twoPass_eq law _).1, (Insert.twoPass_eq law _).1, dropTrailing_neg]
  exact twoPasses_neg ho Insert.flushI (fun t => Insert.flushZ_map _ Sym.findTurns_neg_idx [] t rfl rfl)
    (Insert.flushZ_step []) _

/-- **C05, negation mirror, code model** (unguarded).  In both passes consecutive fed turning points
have different first-node loads, whether or not the first run flushes; only the very last turning
point of pass 2 may tie with its predecessor, which is harmless (`process_neg_weak`). -/
theorem hcm_neg_mirror_code (law : Law) (ho : OddLaw law) (s : List Vec) :
    (twoPass law (s.map vneg)).recs = (twoPass law s).recs.map mirror ∧
    (twoPass law (s.map vneg)).strainValues = (twoPass law s).strainValues.map (- ·) := by
  rw [(Insert.twoPass_eq law _).2, (Insert.twoPass_eq law _).2, dropTrailing_neg]
  exact twoPasses_neg ho Insert.flushC (fun t => Insert.flushZ_map _ Sym.findTurns_neg_idx [0] t rfl rfl)
    (Insert.flushZ_step [0]) _

/-! `hcm_neg_mirror_partial` states the mirror under the decidable no-tie hypothesis `NoTie`, which `hcm_neg_mirror`
does without. -/

/-- No two consecutive turning points handed to the HCM loop have the same first-node load (the
very first one is compared with the initial previous load `0`). -/
def NoTie (law : Law) (s : List Vec) : Prop :=
  ChainNe 0 (procLoads {} (adjustFirstRunR (dropTrailingNonReversals s)).1
      (adjustFirstRunR (dropTrailingNonReversals s)).2) ∧
  ChainNe (process law {} (adjustFirstRunR (dropTrailingNonReversals s)).1
        (adjustFirstRunR (dropTrailingNonReversals s)).2).prevLoad
    (procLoads (process law {} (adjustFirstRunR (dropTrailingNonReversals s)).1
        (adjustFirstRunR (dropTrailingNonReversals s)).2) (dropTrailingNonReversals s) true)

instance (law : Law) (s : List Vec) : Decidable (NoTie law s) := by
  unfold NoTie; infer_instance

example : NoTie lawLinear [[100], [-200], [0], [200], [-100], [100]] := by decide +kernel

set_option linter.unusedVariables false in
/-- `ht` is not used. -/
theorem hcm_neg_mirror_partial (law : Law) (ho : OddLaw law) (s : List Vec) (ht : NoTie law s) :
    (twoPassR law (s.map vneg)).recs = (twoPassR law s).recs.map mirror ∧
    (twoPassR law (s.map vneg)).strainValues = (twoPassR law s).strainValues.map (- ·) :=
  hcm_neg_mirror law ho s

/-- the theorem applies to the linear stub law (and to all-zero sequences, where `NoTie` fails) -/
example (s : List Vec) :
    (twoPassR lawLinear (s.map vneg)).recs = (twoPassR lawLinear s).recs.map mirror :=
  (hcm_neg_mirror lawLinear oddLaw_linear s).1

end C05
end PylifeVerif
