/-
C12 — mean stress transformation follows the iso-damage lines of the Haigh diagram.
Property theorems about the model `Model/Meanstress.lean` (carrier ℝ); helper lemmas in `Proofs/Lemmas/Meanstress*.lean`.

Admissible R values (`ValidR`): a real number ≠ 1, or -∞ (what `load_collective.R` produces for a cycle of
positive amplitude; targets `1` and `+∞` are outside the domain of the code).
`TransformGuard D g c` is the property's restriction "the exact iso-damage amplitude stays positive",
spelled out along the run the code makes: a finite conjunction of comparisons of real numbers.
For the FKM-Goodman diagram with `0 ≤ M2`, `0 ≤ M < 1` it holds for every cycle and every admissible target
(`goodman_guard`), so the FKM-Goodman theorems below carry no guard hypothesis.
-/
import Proofs.Lemmas.MeanstressGoodman
import Proofs.Lemmas.MeanstressRebin

namespace PylifeVerif.C12
open PylifeVerif.Meanstress ExtR

/-! ### Specification, written independently of the code: textbook FKM-Goodman -/

/-- Equivalent amplitude at R = -1 of the cycle (amplitude `a`, mean `m`): regions R > 1, -∞ ≤ R ≤ 0, 0 < R < 1. -/
noncomputable def eqAmp (M M2 a m : ℝ) : ℝ :=
  if m < -a then a * (1 - M) else if m ≤ a then a + M * m else (1 + M) * (a + M2 * m) / (1 + M2)

/-- Amplitude at the ray `g` of the iso-damage line through amplitude 1 at R = -1, inverted. -/
noncomputable def backFactor (M M2 : ℝ) : ExtR ℝ → ℝ
  | fin q => if 1 < q then 1 - M else if q ≤ 0 then 1 + M * ((1 + q) / (1 - q))
             else (1 + M) / (1 + M2) * (1 + M2 * ((1 + q) / (1 - q)))
  | _ => 1 - M

/-- The closed-form FKM-Goodman transformation. -/
noncomputable def goodmanClosed (M M2 a m : ℝ) (g : ExtR ℝ) : ℝ := eqAmp M M2 a m / backFactor M M2 g

/-! ### The code on the FKM-Goodman diagram equals the specification -/

theorem hG_goal (M M2 : ℝ) (hM2 : 0 ≤ M2) (g : ExtR ℝ) (hg : ValidR g) : hG M M2 (pos g) = backFactor M M2 g := by
  rcases g with q | _ | _ | _
  · simp only [ValidR] at hg
    simp only [backFactor]
    split_ifs with h1 h0
    · exact hG_seg0 _ _ (px_lt_m1 h1).le
    · exact hG_seg1 _ _ (px_gt_m1 (by linarith)).le (px_le_one h0)
    · have : q < 1 := lt_of_le_of_ne (not_lt.1 h1) hg
      exact hG_seg2 _ _ (by linarith) (one_le_px (le_of_lt (not_le.1 h0)) this)
  · exact absurd hg (by simp [ValidR])
  · exact hG_seg0 _ _ (by simp [pos])
  · exact absurd hg (by simp [ValidR])

theorem hG_cycle (M M2 a : ℝ) (hM2 : 0 ≤ M2) (ha : 0 < a) (x : ℝ) :
    a * hG M M2 x = eqAmp M M2 a (a * x) := by
  unfold eqAmp
  have e1 : (a * x < -a) ↔ x < -1 := by rw [← mul_neg_one a, mul_lt_mul_iff_right₀ ha]
  have e2 : (a * x ≤ a) ↔ x ≤ 1 := by rw [mul_le_iff_le_one_right ha]
  simp only [e1, e2]
  split_ifs with h1 h2
  · rw [hG_seg0 _ _ h1.le]
  · rw [hG_seg1 _ _ (not_lt.1 h1) h2]; ring
  · rw [hG_seg2 _ _ (by linarith) (le_of_lt (not_le.1 h2))]
    have : (1 + M2) ≠ 0 := by linarith
    field_simp

/-- For ANY diagram `D` (any list of segments, any order) and any function `h` that restricted to each
segment is an iso-damage line `k·(1 + M·x)` (`Compat`), `HaighDiagram.transform` conserves
`amplitude · h(mean/amplitude)`: each cycle is moved along the iso-damage lines. -/
theorem transform_conserves_potential (h : ℝ → ℝ) (D : List (Seg ℝ)) (g : ExtR ℝ) (c : Cyc ℝ)
    (hc : Compat h D g) (hg : TransformGuard D g c) :
    (transform D g c).amp * h (pos (transform D g c).R) = c.amp * h (pos c.R) :=
  transform_potential h D g c hc hg

/-- The transformed cycle lies on the target ray (every admissible target incl. `-∞` and `R > 1`). -/
theorem goodman_arrives_at_target (M M2 : ℝ) (g : ExtR ℝ) (c : Cyc ℝ) (hg : ValidR g) (hR : ValidR c.R) :
    (transform (goodman M M2) g c).R = g :=
  (goodman_fires M M2).arrives c hg hR

theorem goodman_amp (M M2 : ℝ) (h0 : 0 ≤ M2) (h1 : 0 ≤ M) (h2 : M < 1) (g : ExtR ℝ) (c : Cyc ℝ)
    (hg : ValidR g) (hR : ValidR c.R) :
    (transform (goodman M M2) g c).amp = c.amp * hG M M2 (pos c.R) / hG M M2 (pos g) :=
  transform_amp_of_goodPot (goodman_goodPot (by linarith) (by linarith) h2) (goodman_fires M M2) hg hR
    (goodman_guard M M2 h0 h1 h2 g c hg hR)

/-- The code's result equals the closed-form FKM-Goodman formula, for every cycle and every target. -/
theorem goodman_eq_closed_form (M M2 : ℝ) (h0 : 0 ≤ M2) (h1 : 0 ≤ M) (h2 : M < 1) (g : ExtR ℝ) (c : Cyc ℝ)
    (ha : 0 < c.amp) (hg : ValidR g) (hR : ValidR c.R) :
    (transform (goodman M M2) g c).amp = goodmanClosed M M2 c.amp (c.amp * pos c.R) g := by
  rw [goodman_amp M M2 h0 h1 h2 g c hg hR, hG_goal M M2 h0 g hg, hG_cycle M M2 c.amp h0 ha]
  rfl

/-- A cycle that already is at the target R is unchanged. -/
theorem goodman_fixes_target_R (M M2 : ℝ) (h0 : 0 ≤ M2) (h1 : 0 ≤ M) (h2 : M < 1) (c : Cyc ℝ)
    (hR : ValidR c.R) :
    transform (goodman M M2) c.R c = c :=
  transform_fixes_of_goodPot (goodman_goodPot (by linarith) (by linarith) h2) (goodman_fires M M2) hR
    (goodman_guard M M2 h0 h1 h2 c.R c hR hR)

/-- Path independence: to `g₁` and then to `g₂` equals to `g₂` directly. -/
theorem goodman_path_independent (M M2 : ℝ) (h0 : 0 ≤ M2) (h1 : 0 ≤ M) (h2 : M < 1) (g₁ g₂ : ExtR ℝ) (c : Cyc ℝ)
    (hg1 : ValidR g₁) (hg2 : ValidR g₂) (hR : ValidR c.R) :
    transform (goodman M M2) g₂ (transform (goodman M M2) g₁ c) = transform (goodman M M2) g₂ c :=
  transform_path_of_goodPot (goodman_goodPot (by linarith) (by linarith) h2) (goodman_fires M M2) hg1 hg2 hR
    (goodman_guard M M2 h0 h1 h2 g₁ c hg1 hR) (goodman_guard M M2 h0 h1 h2 g₂ c hg2 hR)

/-- Transforming twice to the same R changes nothing. -/
theorem goodman_idempotent (M M2 : ℝ) (h0 : 0 ≤ M2) (h1 : 0 ≤ M) (h2 : M < 1) (g : ExtR ℝ) (c : Cyc ℝ)
    (hg : ValidR g) (hR : ValidR c.R) :
    transform (goodman M M2) g (transform (goodman M M2) g c) = transform (goodman M M2) g c :=
  goodman_path_independent M M2 h0 h1 h2 g g c hg hg hR

/-- On a fixed ray the result is linear in the amplitude with a positive factor (hence continuous and
strictly increasing in the amplitude). -/
theorem goodman_monotone_in_amplitude_fixed_R (M M2 : ℝ) (h0 : 0 ≤ M2) (h1 : 0 ≤ M) (h2 : M < 1) (g R : ExtR ℝ)
    (a₁ a₂ : ℝ) (hg : ValidR g) (hR : ValidR R) (h12 : a₁ ≤ a₂) :
    (transform (goodman M M2) g ⟨a₁, R⟩).amp ≤ (transform (goodman M M2) g ⟨a₂, R⟩).amp ∧
    (transform (goodman M M2) g ⟨a₂, R⟩).amp - (transform (goodman M M2) g ⟨a₁, R⟩).amp
      = (a₂ - a₁) * (hG M M2 (pos R) / hG M M2 (pos g)) :=
  transform_ray_of_goodPot (goodman_goodPot (by linarith) (by linarith) h2) (goodman_fires M M2) hg hR h12
    (goodman_guard M M2 h0 h1 h2 g _ hg hR)

/-- `Meanstress.goodman_guard`: the guard holds for every cycle and target, which is why the FKM-Goodman theorems above carry
no guard hypothesis. -/
theorem goodman_guard_holds (M M2 : ℝ) (h0 : 0 ≤ M2) (h1 : 0 ≤ M) (h2 : M < 1) (g : ExtR ℝ) (c : Cyc ℝ)
    (hg : ValidR g) (hR : ValidR c.R) : TransformGuard (goodman M M2) g c :=
  goodman_guard M M2 h0 h1 h2 g c hg hR

/-- The default diagram is the FKM-Goodman diagram with `M2 = M/3` (the literal `3.0` is `3`). -/
theorem goodmanDefault_eq (M : ℝ) : goodmanDefault M = goodman M (M / 3) := by
  unfold goodmanDefault; norm_num

theorem goodmanDefault_eq_closed_form (M : ℝ) (h1 : 0 ≤ M) (h2 : M < 1) (g : ExtR ℝ) (c : Cyc ℝ) (ha : 0 < c.amp)
    (hg : ValidR g) (hR : ValidR c.R) :
    (transform (goodmanDefault M) g c).amp = goodmanClosed M (M / 3) c.amp (c.amp * pos c.R) g := by
  rw [goodmanDefault_eq]
  exact goodman_eq_closed_form M (M / 3) (div_nonneg h1 (by norm_num)) h1 h2 g c ha hg hR

/-! ### The closed form at a fixed mean stress -/

/-- Non-negative increments of at most `L·Δa`.  (`Meanstress.PerspMono h L` is this for `a ↦ a·h(m/a)` on `a > 0`, every `m`;
the closed form below also takes `a = 0`.) -/
def MonoLip (F : ℝ → ℝ) (L : ℝ) : Prop := ∀ a b, a ≤ b → F a ≤ F b ∧ F b - F a ≤ L * (b - a)

theorem monoLip_linear {p q L : ℝ} (h0 : 0 ≤ p) (hL : p ≤ L) : MonoLip (fun a => p * a + q) L := by
  intro a b hab
  have := mul_le_mul_of_nonneg_left hab h0
  have := mul_le_mul_of_nonneg_right hL (sub_nonneg.2 hab)
  constructor <;> simp only <;> linarith

/-- Two such pieces that agree at the break `s`: increments across the break go through `s`. -/
theorem monoLip_glue {f g : ℝ → ℝ} {s L : ℝ} (Hf : MonoLip f L) (Hg : MonoLip g L) (hs : f s = g s) :
    MonoLip (fun a => if a < s then f a else g a) L := by
  intro a b hab
  simp only
  split_ifs with ha hb hb
  · exact Hf a b hab
  · obtain ⟨f1, f2⟩ := Hf a s ha.le
    obtain ⟨g1, g2⟩ := Hg s b (not_lt.1 hb)
    constructor <;> linarith
  · exact absurd (lt_of_le_of_lt hab hb) ha
  · exact Hg a b hab

/-- At a fixed mean stress `m` the closed form is continuous and non-decreasing in the amplitude:
`eqAmp` (and with it `goodmanClosed`, which divides by a positive constant) is monotone and Lipschitz,
`eqAmp a₂ - eqAmp a₁ ≤ (1 + M)·(a₂ - a₁)`. -/
theorem goodman_closed_form_monotone_continuous (M M2 : ℝ) (h0 : 0 ≤ M2) (h21 : M2 ≤ M) (h2 : M < 1) (m a₁ a₂ : ℝ)
    (ha : 0 ≤ a₁) (h12 : a₁ ≤ a₂) :
    eqAmp M M2 a₁ m ≤ eqAmp M M2 a₂ m ∧ eqAmp M M2 a₂ m - eqAmp M M2 a₁ m ≤ (1 + M) * (a₂ - a₁) := by
  -- on `a ≥ 0` the closed form has two linear pieces, slopes `1 - M`, `1`, `(1+M)/(1+M2)` in `[0, 1 + M]`,
  -- with the break at `-m` (`m ≤ 0`) resp. `m` (`m > 0`)
  have hM : 0 ≤ M := h0.trans h21
  have hd : 0 < 1 + M2 := by linarith
  have l1 : MonoLip (fun a => (1 - M) * a + 0) (1 + M) := monoLip_linear (by linarith) (by linarith)
  have l2 : MonoLip (fun a => 1 * a + M * m) (1 + M) := monoLip_linear zero_le_one (by linarith)
  have l3 : MonoLip (fun a => (1 + M) / (1 + M2) * a + (1 + M) / (1 + M2) * (M2 * m)) (1 + M) :=
    monoLip_linear (by positivity) (div_le_self (by linarith) (by linarith))
  rcases le_or_gt m 0 with hm | hm
  · have e : ∀ a, 0 ≤ a → eqAmp M M2 a m = if a < -m then (1 - M) * a + 0 else 1 * a + M * m := by
      intro a h
      by_cases c : a < -m
      · rw [if_pos c, eqAmp, if_pos (lt_neg.1 c)]; ring
      · rw [if_neg c, eqAmp, if_neg (fun c' => c (lt_neg.1 c')), if_pos (hm.trans h)]; ring
    rw [e a₁ ha, e a₂ (ha.trans h12)]
    exact monoLip_glue l1 l2 (by ring) a₁ a₂ h12
  · have e : ∀ a, 0 ≤ a → eqAmp M M2 a m
        = if a < m then (1 + M) / (1 + M2) * a + (1 + M) / (1 + M2) * (M2 * m) else 1 * a + M * m := by
      intro a h
      by_cases c : a < m
      · rw [if_pos c, eqAmp, if_neg (by linarith), if_neg (not_le.2 c)]; ring
      · rw [if_neg c, eqAmp, if_neg (by linarith), if_pos (not_lt.1 c)]; ring
    rw [e a₁ ha, e a₂ (ha.trans h12)]
    exact monoLip_glue l3 l2 (by field_simp) a₁ a₂ h12

/-! ### Arbitrary segment lists: potential and arrival as hypotheses -/

/-- Path independence for an arbitrary segment list under two extra hypotheses: an iso-damage potential `h` of `D`
exists (`Compat`) and is positive, and the runs arrive at their target R (`arrive`).  For every gap-free diagram with
exactly one segment `(1, ∞]` beyond R = 1 both hold (`stdDiagram_has_potential`, `transform_arrives` in
Proofs/C12General.lean); `transform_path_independent` there needs no positivity: the guard gives it at the target. -/
theorem transform_path_independent_partial (h : ℝ → ℝ) (D : List (Seg ℝ)) (g₁ g₂ : ExtR ℝ) (c : Cyc ℝ)
    (hc1 : Compat h D g₁) (hc2 : Compat h D g₂) (hpos : ∀ x, 0 < h x)
    (arrive : ∀ g c', (g = g₁ ∨ g = g₂) → (transform D g c').R = g)
    (hGa : TransformGuard D g₁ c) (hGb : TransformGuard D g₂ (transform D g₁ c)) (hGc : TransformGuard D g₂ c) :
    transform D g₂ (transform D g₁ c) = transform D g₂ c :=
  transform_path_of_compat hc1 hc2 (hpos _).ne' (arrive g₂ _ (Or.inr rfl)) (arrive g₂ c (Or.inr rfl)) hGa hGb hGc

/-- "A cycle at the target is unchanged" for an arbitrary segment list, same extra hypotheses; without them for diagrams in
standard form: `transform_fixes_target` / `transform_idempotent` in Proofs/C12General.lean. -/
theorem transform_fixes_target_partial (h : ℝ → ℝ) (D : List (Seg ℝ)) (c : Cyc ℝ)
    (hc : Compat h D c.R) (hpos : ∀ x, 0 < h x) (arrive : (transform D c.R c).R = c.R)
    (hG' : TransformGuard D c.R c) : transform D c.R c = c :=
  transform_fixes_of_compat hc hG' arrive (hpos _).ne'

/-! ### Re-binning of the transformed ranges -/

/-- With the class breaks `np.linspace(0, max range, n+1)` (`n ≥ 1`, `max range > 0`) every transformed range
`0 ≤ r ≤ max range` lies in exactly one of the classes `[0,e₁], (e₁,e₂], …` and the class sums add up to the
total number of cycles. -/
theorem rebin_conserves_cycles (mx : ℝ) (n : ℕ) (hmx : 0 < mx) (hn : 1 ≤ n) (items : List (ℝ × ℝ))
    (hr : ∀ it ∈ items, 0 ≤ it.1 ∧ it.1 ≤ mx) :
    (rebin (linspace0 mx n) items).sum = (items.map Prod.snd).sum ∧
    ∀ x, 0 ≤ x → x ≤ mx → (rebin (linspace0 mx n) [(x, 1)]).sum = 1 := by
  obtain ⟨rest, hne, he, hs, hl⟩ := linspace0_breaks mx n hmx hn
  rw [he]
  exact ⟨rebin_conserves rest items hne hs (fun it hit => by rw [hl]; exact hr it hit),
    fun x h0 h1 => rebin_exactly_one rest x hne hs ⟨h0, by rw [hl]; exact h1⟩⟩

/-! ### Known finding `split-beyond-R1` (open): diagrams with more than one segment beyond R = 1 -/

/-- Kernel-checked on the model: diagram `{(1,2]: 1/10, (2,∞]: 1/5, (-∞,0]: 3/10, (0,1]: 1/10}`, cycle of amplitude 1
at R = 5/3 (mean -4), target R = -1.  The code uses the slope of `(1,2]` all the way to R = -∞ and returns 7/15;
moving along the iso-damage lines gives (6/10)/(7/10) · (4/10)/(8/10) · (7/10) = 3/10.  The theorems above
therefore speak about diagrams whose only segment beyond R = 1 is `(1, ∞]` (FKM-Goodman, five-segment). -/
theorem split_beyond_R1_fails_at_witness :
    (transform [⟨fin 1, fin 2, 1/10⟩, ⟨fin 2, pinf, 1/5⟩, ⟨ninf, fin 0, 3/10⟩, ⟨fin 0, fin 1, 1/10⟩]
      (fin (-1)) (⟨1, fin (5/3)⟩ : Cyc ℝ)).amp = 7/15 := by
  -- the processing order first (sort keys `-5, -∞, -1, 3`, target key `0`), then the three segment shifts that fire
  have hL : segsLeft [⟨fin 1, fin 2, 1/10⟩, ⟨fin 2, pinf, 1/5⟩, ⟨ninf, fin 0, 3/10⟩, ⟨fin 0, fin 1, (1/10 : ℝ)⟩] (fin (-1))
      = [⟨fin 2, pinf, 1/5⟩, ⟨fin 1, fin 2, 1/10⟩, ⟨ninf, fin 0, 3/10⟩] := by
    norm_num [segsLeft, segKey, mid, fake, goalKey, List.filter, insertAsc, ExtR.lt]
  have hR : segsRight [⟨fin 1, fin 2, 1/10⟩, ⟨fin 2, pinf, 1/5⟩, ⟨ninf, fin 0, 3/10⟩, ⟨fin 0, fin 1, (1/10 : ℝ)⟩] (fin (-1))
      = [⟨fin 0, fin 1, 1/10⟩] := by
    norm_num [segsRight, segKey, mid, fake, goalKey, List.filter, insertDesc, ExtR.lt]
  have hC : segsContaining [⟨fin 1, fin 2, 1/10⟩, ⟨fin 2, pinf, 1/5⟩, ⟨ninf, fin 0, 3/10⟩, ⟨fin 0, fin 1, (1/10 : ℝ)⟩] (fin (-1))
      = [⟨ninf, fin 0, 3/10⟩] := by
    norm_num [segsContaining, List.filter, ExtR.lt, ExtR.le]
  rw [transform, hL, hR, hC]
  norm_num [step, push, leftBoundary, ExtR.isOne, List.foldl, transAmp, fillna0, ExtR.lt, ExtR.le]

/-! ### Non-vacuity: the hypotheses are satisfiable on cycles that cross segment borders -/

/-- A concrete instance of the guard: M = 1/2, M2 = 1/6, cycle amplitude 1 at R = 1/2 (mean 3), target R = -∞ (crosses
R = 0). -/
theorem guard_example : TransformGuard (goodman (1/2) (1/6)) ninf ⟨1, fin (1/2)⟩ :=
  goodman_guard (1/2) (1/6) (by norm_num) (by norm_num) (by norm_num) _ _ trivial (by norm_num [ValidR])

example : (transform (goodman (1/2) (1/6)) ninf ⟨1, fin (1/2)⟩).amp
    = goodmanClosed (1/2) (1/6) 1 (1 * pos (fin (1/2))) ninf :=
  goodman_eq_closed_form (1/2) (1/6) (by norm_num) (by norm_num) (by norm_num) ninf ⟨1, fin (1/2)⟩
    (by norm_num) (by simp [ValidR]) (by simp [ValidR])

/-- … and the closed form gives (1 + 1/2)·(1 + 3/6)/(1 + 1/6) / (1 - 1/2) = 27/7 for it. -/
example : goodmanClosed (1/2) (1/6) 1 (1 * pos (fin (1/2))) ninf = 27/7 := by
  norm_num [goodmanClosed, eqAmp, backFactor, pos]

/-- A cycle in compression beyond R = 1 (amplitude 1, R = 3, mean -2) moved to R = 1/2 crosses all three segments. -/
example : (transform (goodman (1/2) (1/6)) (fin (1/2)) ⟨1, fin 3⟩).amp
    = goodmanClosed (1/2) (1/6) 1 (1 * pos (fin 3)) (fin (1/2)) :=
  goodman_eq_closed_form (1/2) (1/6) (by norm_num) (by norm_num) (by norm_num) (fin (1/2)) ⟨1, fin 3⟩
    (by norm_num) (by norm_num [ValidR]) (by norm_num [ValidR])

example : goodmanClosed (1/2) (1/6) 1 (1 * pos (fin 3)) (fin (1/2)) = 7/27 := by
  norm_num [goodmanClosed, eqAmp, backFactor, pos]

example : transform (goodman (1/2 : ℝ) (1/6)) (fin (1/2)) ⟨1, fin (1/2)⟩ = ⟨1, fin (1/2)⟩ :=
  goodman_fixes_target_R (1/2) (1/6) (by norm_num) (by norm_num) (by norm_num) ⟨1, fin (1/2)⟩ (by norm_num [ValidR])

example : transform (goodman (1/2 : ℝ) (1/6)) (fin (-1)) (transform (goodman (1/2 : ℝ) (1/6)) (fin (-1)) ⟨1, fin 3⟩)
    = transform (goodman (1/2 : ℝ) (1/6)) (fin (-1)) ⟨1, fin 3⟩ :=
  goodman_idempotent (1/2) (1/6) (by norm_num) (by norm_num) (by norm_num) (fin (-1)) ⟨1, fin 3⟩
    (by norm_num [ValidR]) (by norm_num [ValidR])

example : transform (goodman (1/2 : ℝ) (1/6)) (fin (-1)) (transform (goodman (1/2 : ℝ) (1/6)) ninf ⟨1, fin (1/2)⟩)
    = transform (goodman (1/2 : ℝ) (1/6)) (fin (-1)) ⟨1, fin (1/2)⟩ :=
  goodman_path_independent (1/2) (1/6) (by norm_num) (by norm_num) (by norm_num) ninf (fin (-1)) ⟨1, fin (1/2)⟩
    (by simp [ValidR]) (by norm_num [ValidR]) (by norm_num [ValidR])

example : (transform (goodman (1/2 : ℝ) (1/6)) (fin (-1)) ⟨1, fin (1/2)⟩).amp
    ≤ (transform (goodman (1/2 : ℝ) (1/6)) (fin (-1)) ⟨2, fin (1/2)⟩).amp :=
  (goodman_monotone_in_amplitude_fixed_R (1/2) (1/6) (by norm_num) (by norm_num) (by norm_num) (fin (-1)) (fin (1/2)) 1 2
    (by norm_num [ValidR]) (by norm_num [ValidR]) (by norm_num)).1

/-- default `M2 = M/3` with M = 3/10: cycle of amplitude 1 at R = 1/2 to R = -1. -/
example : (transform (goodmanDefault (3/10)) (fin (-1)) ⟨1, fin (1/2)⟩).amp
    = goodmanClosed (3/10) ((3/10) / 3) 1 (1 * pos (fin (1/2))) (fin (-1)) :=
  goodmanDefault_eq_closed_form (3/10) (by norm_num) (by norm_num) (fin (-1)) ⟨1, fin (1/2)⟩ (by norm_num)
    (by norm_num [ValidR]) (by norm_num [ValidR])

example : goodmanClosed (3/10) ((3/10) / 3) 1 (1 * pos (fin (1/2))) (fin (-1)) = 169/110 := by
  norm_num [goodmanClosed, eqAmp, backFactor, pos]

example : (transform (goodman (1/2 : ℝ) (1/6)) ninf ⟨1, fin (1/2)⟩).R = ninf :=
  goodman_arrives_at_target (1/2) (1/6) ninf ⟨1, fin (1/2)⟩ (by simp [ValidR]) (by simp [ValidR])

example : Compat (hG (1/2) (1/6)) (goodman (1/2) (1/6)) (fin 2) :=
  goodman_compat _ _ (by norm_num) (by norm_num) (by norm_num) _ (by simp [ValidR])

example : ∀ x : ℝ, 0 ≤ x → x ≤ 10 → (rebin (linspace0 10 4) [(x, 1)]).sum = 1 :=
  (rebin_conserves_cycles 10 4 (by norm_num) (by norm_num) [] (by simp)).2

example : eqAmp (1/2) (1/6) 1 3 ≤ eqAmp (1/2) (1/6) 4 3 :=
  (goodman_closed_form_monotone_continuous (1/2) (1/6) (by norm_num) (by norm_num) (by norm_num) 3 1 4
    (by norm_num) (by norm_num)).1

end PylifeVerif.C12
