/-
`Transc ℝ`: the real-number semantics of the generic model functions, the equations that unfold them (`transc_*`, `@[simp]`),
and the facts about the decadic logarithm that the Wöhler, Wöhler-analysis and P_RAJ files share.
-/
import Model.Num
import Proofs.Literals
import Mathlib.Analysis.SpecialFunctions.Pow.Real
import Mathlib.Analysis.SpecialFunctions.Trigonometric.Basic

namespace PylifeVerif

noncomputable instance instTranscReal : Transc ℝ where
  sqrt := Real.sqrt
  exp := Real.exp
  log := Real.log
  log10 := fun x => Real.log x / Real.log 10
  pow := fun x y => x ^ y
  abs := fun x => |x|
  sign := fun x => if 0 < x then 1 else if x < 0 then -1 else 0
  cos := Real.cos
  isFinite := fun _ => true

@[simp] theorem transc_sqrt (x : ℝ) : Transc.sqrt x = Real.sqrt x := rfl
@[simp] theorem transc_exp (x : ℝ) : Transc.exp x = Real.exp x := rfl
@[simp] theorem transc_log (x : ℝ) : Transc.log x = Real.log x := rfl
@[simp] theorem transc_log10 (x : ℝ) : Transc.log10 x = Real.log x / Real.log 10 := rfl
@[simp] theorem transc_pow (x y : ℝ) : Transc.pow x y = x ^ y := rfl
@[simp] theorem transc_abs (x : ℝ) : Transc.abs x = |x| := rfl
@[simp] theorem transc_sign (x : ℝ) : Transc.sign x = if 0 < x then 1 else if x < 0 then -1 else 0 := rfl
@[simp] theorem transc_cos (x : ℝ) : Transc.cos x = Real.cos x := rfl
@[simp] theorem transc_isFinite (x : ℝ) : Transc.isFinite x = true := rfl

theorem log_ten_pos : 0 < Real.log 10 := Real.log_pos (by norm_num)

theorem log_ten_ne_zero : Real.log 10 ≠ 0 := log_ten_pos.ne'

theorem log10_mul {c x : ℝ} (hc : c ≠ 0) (hx : x ≠ 0) :
    (Transc.log10 (c * x) : ℝ) = Transc.log10 x + Transc.log10 c := by
  simp only [transc_log10, Real.log_mul hc hx]; ring

theorem log10_lt {a b : ℝ} (ha : 0 < a) (hab : a < b) : (Transc.log10 a : ℝ) < Transc.log10 b :=
  div_lt_div_of_pos_right (Real.log_lt_log ha hab) log_ten_pos

theorem log10_injOn_pos {x y : ℝ} (hx : 0 < x) (hy : 0 < y) (h : (Transc.log10 x : ℝ) = Transc.log10 y) : x = y :=
  Real.log_injOn_pos (Set.mem_Ioi.2 hx) (Set.mem_Ioi.2 hy) ((div_left_inj' log_ten_ne_zero).1 h)

theorem log10_two_pos : 0 < (Transc.log10 (2 : ℝ) : ℝ) :=
  div_pos (Real.log_pos one_lt_two) log_ten_pos

theorem log10_four : (Transc.log10 (4 : ℝ) : ℝ) = 2 * Transc.log10 2 := by
  rw [show (4 : ℝ) = 2 * 2 by norm_num, log10_mul two_ne_zero two_ne_zero]; ring

/-- `10 ^ (a · log₁₀ T) = T ^ a`; this and the next one are stated with `Transc.log10` unfolded, the form their users reach
after `transc_log10` -/
theorem ten_rpow_mul_log10 {T : ℝ} (hT : 0 < T) (a : ℝ) : (10 : ℝ) ^ (a * (Real.log T / Real.log 10)) = T ^ a := by
  rw [Real.rpow_def_of_pos (by norm_num), Real.rpow_def_of_pos hT, mul_left_comm,
    mul_div_cancel₀ _ log_ten_ne_zero, mul_comm]

theorem ten_rpow_log10 {x : ℝ} (hx : 0 < x) : (10 : ℝ) ^ (Real.log x / Real.log 10) = x := by
  rw [← one_mul (Real.log x / Real.log 10), ten_rpow_mul_log10 hx, Real.rpow_one]

end PylifeVerif
