/-
C14 — load collectives and histograms account for every cycle exactly once.
Property theorems about `Model/Collective.lean` over ℝ.  An `example` directly after a theorem instantiates it at
concrete data: its hypotheses (so they can be met together), or its conclusion evaluated.
-/
import Proofs.Lemmas.CollectiveCount

namespace PylifeVerif.C14
open PylifeVerif.Collective

attribute [local simp] lit_zero lit_one lit_two lit_half

/-! ## 1. `LoadCollective`: consistency of the derived quantities, round trips range/mean ↔ from/to, scale and shift -/

/-- upper − lower = 2·amplitude, (upper + lower)/2 = mean, R = lower/upper (whenever the quotient exists;
`0/0` is filled with 0 by the code: `R_fillna`). -/
theorem collective_consistency (r : Row ℝ) :
    upper r - lower r = 2 * amplitude r ∧ (upper r + lower r) / 2 = meanstress r ∧
    (upper r ≠ 0 → rvalue r = lower r / upper r) := by
  refine ⟨?_, ?_, fun _ => rvalue_eq r⟩
  · rw [upper_eq, lower_eq]; ring
  · rw [upper_eq, lower_eq]; ring

example : upper (⟨3, -1, 2⟩ : Row ℝ) ≠ 0 := by unfold upper; norm_num

/-- `fillna(0.0)`: a loop `0 → 0` gets R = 0. -/
theorem R_fillna (r : Row ℝ) (hu : upper r = 0) (hl : lower r = 0) : rvalue r = 0 := by
  rw [rvalue_eq, hu, hl, div_zero]

example : upper (⟨0, 0, 1⟩ : Row ℝ) = 0 ∧ lower (⟨0, 0, 1⟩ : Row ℝ) = 0 := by unfold upper lower; norm_num

theorem rangemean_roundtrip (rng mean cyc : ℝ) (h : 0 ≤ rng) :
    rangeOf (fromRangeMean rng mean cyc) = rng ∧ meanstress (fromRangeMean rng mean cyc) = mean ∧
    (fromRangeMean rng mean cyc).cyc = cyc := by
  refine ⟨?_, ?_, rfl⟩
  · rw [rangeOf_eq, amplitude_eq]
    simp only [fromRangeMean, lit_two]
    rw [abs_of_nonpos (by linarith)]; ring
  · rw [meanstress_eq]
    simp only [fromRangeMean, lit_two]; ring

example : (0:ℝ) ≤ 4 := by norm_num

/-- from/to → range/mean → from/to gives the same loop with its lower value first
(`from`/`to` themselves when `from ≤ to`), cycles kept. -/
theorem fromto_roundtrip (r : Row ℝ) :
    (fromRangeMean (rangeOf r) (meanstress r) r.cyc).fr = lower r ∧
    (fromRangeMean (rangeOf r) (meanstress r) r.cyc).to = upper r ∧
    (fromRangeMean (rangeOf r) (meanstress r) r.cyc).cyc = r.cyc := by
  refine ⟨?_, ?_, rfl⟩
  · rw [lower_eq, rangeOf_eq]
    simp only [fromRangeMean, lit_two]; ring
  · rw [upper_eq, rangeOf_eq]
    simp only [fromRangeMean, lit_two]; ring

theorem fromto_roundtrip_id (r : Row ℝ) (h : r.fr ≤ r.to) :
    fromRangeMean (rangeOf r) (meanstress r) r.cyc = r := by
  obtain ⟨h1, h2, _⟩ := fromto_roundtrip r
  rw [lower_eq_min, min_eq_left h] at h1
  rw [upper_eq_max, max_eq_right h] at h2
  cases r
  rw [fromRangeMean, Row.mk.injEq]
  exact ⟨h1, h2, rfl⟩

example : (⟨1, 3, 1⟩ : Row ℝ).fr ≤ (⟨1, 3, 1⟩ : Row ℝ).to := by norm_num

theorem scale_equivariant (f : ℝ) (r : Row ℝ) :
    amplitude (scale f r) = |f| * amplitude r ∧ meanstress (scale f r) = f * meanstress r ∧
    (0 ≤ f → upper (scale f r) = f * upper r ∧ lower (scale f r) = f * lower r) ∧
    (f ≤ 0 → upper (scale f r) = f * lower r ∧ lower (scale f r) = f * upper r) ∧
    (scale f r).cyc = r.cyc := by
  simp only [upper_eq_max, lower_eq_min, amplitude_eq, meanstress_eq, scale, mul_comm f]
  refine ⟨?_, ?_, ?_, ?_, trivial⟩
  · rw [← sub_mul, abs_mul]; ring
  · ring
  · exact fun hf => ⟨(max_mul_of_nonneg _ _ hf).symm, (min_mul_of_nonneg _ _ hf).symm⟩
  · -- multiplication by `f ≤ 0` reverses the order
    exact fun hf => ⟨((antitone_mul_right hf).map_min).symm, ((antitone_mul_right hf).map_max).symm⟩

example : (0:ℝ) ≤ 2.5 ∧ (-1:ℝ) ≤ 0 := by norm_num

theorem shift_equivariant (d : ℝ) (r : Row ℝ) :
    amplitude (shift d r) = amplitude r ∧ meanstress (shift d r) = meanstress r + d ∧
    upper (shift d r) = upper r + d ∧ lower (shift d r) = lower r + d ∧ (shift d r).cyc = r.cyc := by
  simp only [upper_eq_max, lower_eq_min, amplitude_eq, meanstress_eq, shift]
  refine ⟨?_, ?_, max_add_add_right .., min_add_add_right .., trivial⟩
  · rw [add_sub_add_right_eq_sub]
  · ring

/-! ## 2. `LoadHistogram` (quantities from the class mids): the same identities, scale and shift -/

/-- range/mean matrix: upper − lower = 2·amplitude, (upper + lower)/2 = mean; scaling by any factor `f` scales
amplitude and mean (the statement has no hypothesis on the sign of `f`; in the code only `f ≥ 0` is reachable, pandas
rejects a negative factor because the interval bounds would be inverted), shifting moves only the mean. -/
theorem histogram_rm_consistency (c : RMClass ℝ) (f d : ℝ) :
    rmUpper c - rmLower c = 2 * rmAmplitude c ∧ (rmUpper c + rmLower c) / 2 = rmMean c ∧
    rmAmplitude (rmScale f c) = f * rmAmplitude c ∧ rmMean (rmScale f c) = f * rmMean c ∧
    rmAmplitude (rmShift d c) = rmAmplitude c ∧ rmMean (rmShift d c) = rmMean c + d := by
  simp only [rmUpper, rmLower, rmAmplitude, rmMean, rmScale, rmShift, mid_mul, mid_add, lit_two]
  exact ⟨by ring, by ring, by ring, by ring, trivial, trivial⟩

theorem histogram_ft_consistency (c : FTClass ℝ) (f d : ℝ) :
    ftUpper c - ftLower c = 2 * ftAmplitude c ∧ (ftUpper c + ftLower c) / 2 = ftMean c ∧
    ftAmplitude (ftScale f c) = |f| * ftAmplitude c ∧ ftMean (ftScale f c) = f * ftMean c ∧
    ftAmplitude (ftShift d c) = ftAmplitude c ∧ ftMean (ftShift d c) = ftMean c + d := by
  simp only [ftUpper, ftLower, ftAmplitude, ftMean, ftScale, ftShift, mid_mul, mid_add, lit_two, transc_abs]
  refine ⟨by ring, by ring, ?_, by ring, ?_, by ring⟩
  · rw [← sub_mul, abs_mul]; ring
  · rw [add_sub_add_right_eq_sub]

/-! ## 3. Histograms: every cycle inside the covered range is in exactly one class -/

/-- numpy's bin rule over weakly increasing edges `e₀ ≤ … ≤ eₙ` (n ≥ 1): a value in `[e₀, eₙ]` lies in exactly
one class, a value outside in none. -/
theorem histogram_exactly_one_class (e0 : ℝ) (rest : List ℝ) (v : ℝ) (hne : rest ≠ []) (hm : Mono (e0 :: rest)) :
    (classes (e0 :: rest)).countP (fun c => inBin c.1 c.2.1 c.2.2 v) =
      if e0 ≤ v ∧ v ≤ (e0 :: rest).getLast (List.cons_ne_nil _ _) then 1 else 0 :=
  classes_count e0 rest v hne hm

example : ([1, 1, 2] : List ℝ) ≠ [] ∧ Mono ([0, 1, 1, 2] : List ℝ) := by
  refine ⟨by simp, ?_⟩; norm_num

/-- Partition: the class contents sum to the cycles of the rows whose range lies in `[e₀, eₙ]`
(`range_histogram`; weights = the cycles column, 1 per row without one). -/
theorem histogram_partition (e0 : ℝ) (rest : List ℝ) (rows : List (Row ℝ)) (hne : rest ≠ []) (hm : Mono (e0 :: rest)) :
    total (rangeHistogram (e0 :: rest) rows) =
      ((rows.filter fun r => decide (e0 ≤ rangeOf r) &&
          decide (rangeOf r ≤ (e0 :: rest).getLast (List.cons_ne_nil _ _))).map (·.cyc)).sum := by
  unfold rangeHistogram
  rw [hist_total e0 rest _ hne hm, List.filter_map, List.map_map]
  rfl

example : ([2, 5] : List ℝ) ≠ [] ∧ Mono ([0, 2, 5] : List ℝ) ∧
    total (rangeHistogram [0, 2, 5] ([⟨0, 2, 3⟩, ⟨1, -5, 1⟩, ⟨4, 1, 2⟩] : List (Row ℝ))) = 5 := by
  refine ⟨by simp, by norm_num, ?_⟩
  rw [histogram_partition 0 [2, 5] _ (by simp) (by norm_num)]
  simp [rangeOf, amplitude, List.filter_cons]
  norm_num [abs_of_nonneg, abs_of_nonpos]

/-- Two-dimensional partition (`histogram`, and the recorder's from/to histogram): the contents of all classes sum to the
cycles of the points whose both coordinates are covered. -/
theorem histogram2d_partition (x0 y0 : ℝ) (xr yr : List ℝ) (pts : List (ℝ × ℝ × ℝ))
    (hx : xr ≠ []) (hy : yr ≠ []) (hmx : Mono (x0 :: xr)) (hmy : Mono (y0 :: yr)) :
    total ((hist2d (x0 :: xr) (y0 :: yr) pts).map total) =
      ((pts.filter fun p =>
          (decide (x0 ≤ p.1) && decide (p.1 ≤ (x0 :: xr).getLast (List.cons_ne_nil _ _))) &&
          (decide (y0 ≤ p.2.1) && decide (p.2.1 ≤ (y0 :: yr).getLast (List.cons_ne_nil _ _)))).map (·.2.2)).sum := by
  rw [hist2d_rows_total _ y0 yr pts hy hmy, hist_total x0 xr _ hx hmx, List.filter_map, List.map_map,
    List.filter_filter]
  rfl

/-- When every mean lies in the covered mean range, the range histogram is the marginal (row sums) of the
range/mean histogram. -/
theorem range_hist_is_marginal (er : List ℝ) (m0 : ℝ) (mr : List ℝ) (rows : List (Row ℝ)) (hne : mr ≠ [])
    (hm : Mono (m0 :: mr))
    (hcov : ∀ r ∈ rows, m0 ≤ meanstress r ∧ meanstress r ≤ (m0 :: mr).getLast (List.cons_ne_nil _ _)) :
    (rangeMeanHistogram er (m0 :: mr) rows).map total = rangeHistogram er rows := by
  unfold rangeMeanHistogram rangeHistogram
  rw [hist2d_rows_total er m0 mr _ hne hm]
  congr 1
  rw [List.filter_map, List.filter_eq_self.mpr, List.map_map]
  · rfl
  · intro r hr
    simp [hcov r hr]

example : ∀ r ∈ ([⟨0, 2, 1⟩, ⟨1, 2, 3⟩] : List (Row ℝ)),
    (0:ℝ) ≤ meanstress r ∧ meanstress r ≤ ([0, 1, 2] : List ℝ).getLast (List.cons_ne_nil _ _) := by
  intro r hr
  simp at hr
  rcases hr with rfl | rfl <;> norm_num [meanstress_eq]

/-! ## 3b. Bin specification "count": numpy's automatic edges -/

/-- `range_histogram(n)` with an integer class count `n ≥ 1` (numpy rejects `n = 0`): the automatic edges
`linspace(min, max, n + 1)` (`min = max` widened by ±0.5) cover every range, so every cycle is in a class:
the class contents sum to ALL cycles. -/
theorem count_histogram_partition (rows : List (Row ℝ)) (n : Nat) (hn : 0 < n) :
    total (rangeHistogram (autoEdges (rows.map rangeOf) n) rows) = (rows.map (·.cyc)).sum := by
  obtain ⟨e0, rest, he, hne, hm, hcov⟩ := autoEdges_spec (rows.map rangeOf) n hn
  rw [he, histogram_partition e0 rest rows hne hm, List.filter_eq_self.mpr]
  intro r hr
  simp [hcov _ (List.mem_map_of_mem hr)]

example : autoEdges ([1, 3] : List ℝ) 2 = [1, 2, 3] ∧ 0 < 2 := by
  refine ⟨?_, by norm_num⟩
  simp [autoEdges, minL, maxL, linspace, natTo, List.range, List.range.loop]
  norm_num

/-- The same for `histogram(n)` (range × mean, automatic edges per axis). -/
theorem count_histogram2d_partition (rows : List (Row ℝ)) (n : Nat) (hn : 0 < n) :
    total ((rangeMeanHistogram (autoEdges (rows.map rangeOf) n) (autoEdges (rows.map meanstress) n) rows).map total) =
      (rows.map (·.cyc)).sum := by
  simpa only [rangeMeanHistogram, List.map_map, Function.comp_def] using
    count_hist2d_total (rows.map fun r => (rangeOf r, meanstress r, r.cyc)) n n hn hn

/-- `count_histogram2d_partition` for the recorder's `histogram([nx, ny])` (from × to, one bin count per axis). -/
theorem count_fromto_histogram_partition (rows : List (Row ℝ)) (nx ny : Nat) (hx : 0 < nx) (hy : 0 < ny) :
    total ((fromToHistogram (autoEdges (rows.map (·.fr)) nx) (autoEdges (rows.map (·.to)) ny) rows).map total) =
      (rows.map (·.cyc)).sum := by
  simpa only [fromToHistogram, List.map_map, Function.comp_def] using
    count_hist2d_total (rows.map fun r => (r.fr, r.to, r.cyc)) nx ny hx hy

example : (0 : Nat) < 3 ∧ (0 : Nat) < 1 := by decide

/-! ## 4. Re-binning -/

/-- Re-binning to a gap-free binning (weakly increasing breaks `b₀ … bₙ`, n ≥ 1) that covers every source class
conserves the total - source classes of zero width included (a zero-width class is a point mass at its right
bound and goes, undivided, to the one target class that numpy's bin rule puts the point in).
Guard `s.l ≤ s.r`: pandas' `IntervalIndex` rejects `left > right`.  Guard `rest ≠ []`: a binning needs one class. -/
theorem rebin_conserves_total (src : List (Bin ℝ)) (b0 : ℝ) (rest : List ℝ) (hne : rest ≠ []) (hm : Mono (b0 :: rest))
    (hval : ∀ s ∈ src, s.l ≤ s.r)
    (hcov : ∀ s ∈ src, b0 ≤ s.l ∧ s.r ≤ (b0 :: rest).getLast (List.cons_ne_nil _ _)) :
    total (rebin src (b0 :: rest)) = binTotal src := by
  rw [total_rebin, binTotal_eq_sum]
  refine congrArg List.sum (List.map_congr_left fun s hs => ?_)
  rw [kapC_sum s.l s.r b0 rest hne hm (hval s hs) (hcov s hs).1 (hcov s hs).2, mul_one]

example : ([1.5, 4] : List ℝ) ≠ [] ∧ Mono ([0, 1.5, 4] : List ℝ) ∧
    (∀ s ∈ ([⟨0, 1, 10⟩, ⟨1, 1, 2⟩, ⟨1, 4, 5⟩] : List (Bin ℝ)), s.l ≤ s.r) ∧
    (∀ s ∈ ([⟨0, 1, 10⟩, ⟨1, 1, 2⟩, ⟨1, 4, 5⟩] : List (Bin ℝ)),
      (0:ℝ) ≤ s.l ∧ s.r ≤ ([0, 1.5, 4] : List ℝ).getLast (List.cons_ne_nil _ _)) := by
  refine ⟨by simp, ?_, ?_, ?_⟩
  · norm_num
  · intro s hs; simp at hs; rcases hs with rfl | rfl | rfl <;> norm_num
  · intro s hs; simp at hs; rcases hs with rfl | rfl | rfl <;> norm_num

/-- `rebin_histogram(src, n)` with an integer class count `n ≥ 1`: the binning `linspace(min left, max right, n + 1)` is
gap-free and covers every source class, so the total is conserved (zero-width source classes included). -/
theorem rebinN_conserves_total (src : List (Bin ℝ)) (n : Nat) (hn : 0 < n) (hne : src ≠ [])
    (hval : ∀ s ∈ src, s.l ≤ s.r) :
    total (rebinN src n) = binTotal src := by
  have hL : ∀ s ∈ src, minL (src.map (·.l)) ≤ s.l := fun s hs => minL_le _ s.l (List.mem_map_of_mem hs)
  have hR : ∀ s ∈ src, s.r ≤ maxL (src.map (·.r)) := fun s hs => le_maxL _ s.r (List.mem_map_of_mem hs)
  obtain ⟨s0, hs0⟩ := List.exists_mem_of_ne_nil src hne
  obtain ⟨rest, hb, hrest, hm, hlast⟩ := linspace_spec _ _ n hn ((hL s0 hs0).trans ((hval s0 hs0).trans (hR s0 hs0)))
  rw [rebinN, hb]
  exact rebin_conserves_total src _ rest hrest hm hval fun s hs => ⟨hL s hs, hlast ▸ hR s hs⟩

example : (0 : Nat) < 2 ∧ ([⟨0, 1, 1⟩, ⟨1, 1, 2⟩] : List (Bin ℝ)) ≠ [] ∧
    ∀ s ∈ ([⟨0, 1, 1⟩, ⟨1, 1, 2⟩] : List (Bin ℝ)), s.l ≤ s.r := by
  refine ⟨by decide, by simp, ?_⟩
  intro s hs; simp at hs; rcases hs with rfl | rfl <;> norm_num

/-- The zero-width branch, explicitly: no quotient is formed; the class gives everything to the target class that
holds its point (and nothing to every other class). -/
theorem rebin_zero_width_class (c : ℝ × ℝ × Bool) (s : Bin ℝ) (h : s.l = s.r) :
    shareC c s = if inBin c.1 c.2.1 c.2.2 s.r = true then s.v else 0 := by
  unfold shareC
  rw [if_neg (by rw [h]; exact lt_irrefl _), lit_zero]

example : (⟨1, 1, 5⟩ : Bin ℝ).l = (⟨1, 1, 5⟩ : Bin ℝ).r ∧ shareC (0, 2, true) (⟨1, 1, 5⟩ : Bin ℝ) = 5 := by
  refine ⟨rfl, ?_⟩
  rw [rebin_zero_width_class _ _ rfl]
  simp [inBin]

theorem rebin_same_binning_id (breaks vals : List ℝ) (hs : SMono breaks) (hlen : vals.length = (pairs breaks).length) :
    rebin (binsOf breaks vals) breaks = vals :=
  rebin_self breaks vals hs.mono (fun _ hc => Or.inl (pairs_strict _ hs _ (mem_pairs_of_mem_classes hc))) hlen

example : SMono ([0, 1, 3] : List ℝ) ∧ ([10, 20] : List ℝ).length = (pairs ([0, 1, 3] : List ℝ)).length := by
  exact ⟨by norm_num, rfl⟩

/-- The identity on the own binning holds also for the shape numpy produces when the last edge is repeated: a zero-width
LAST class `(bₙ, bₙ]` holding `v`. -/
theorem rebin_same_binning_id_point_last (breaks vals : List ℝ) (v : ℝ) (hs : SMono breaks) (hne : breaks ≠ [])
    (hlen : vals.length = (pairs breaks).length) :
    rebin (binsOf (breaks ++ [breaks.getLast hne]) (vals ++ [v])) (breaks ++ [breaks.getLast hne]) = vals ++ [v] := by
  refine rebin_self _ _ ?_ ?_ (by rw [pairs_append_singleton _ hne, List.length_append, List.length_append, hlen]; rfl)
  · rw [mono_iff_pairwise, List.pairwise_append]
    exact ⟨mono_iff_pairwise.mp hs.mono, List.pairwise_singleton _ _, fun x hx y hy =>
      List.mem_singleton.mp hy ▸ (mono_iff_pairwise.mp hs.mono).rel_getLast hx⟩
  · -- the classes of `breaks`, then the point class
    rw [classes_append_singleton _ hne]
    intro c hc
    rcases List.mem_append.mp hc with hc | hc
    · obtain ⟨p, hp, rfl⟩ := List.mem_map.mp hc
      exact Or.inl (pairs_strict _ hs p hp)
    · exact Or.inr (List.mem_singleton.mp hc ▸ ⟨rfl, rfl⟩)

example : rebin (binsOf ([0, 1] ++ [([0, 1] : List ℝ).getLast (by simp)]) ([1] ++ [2])) ([0, 1] ++ [([0, 1] : List ℝ).getLast (by simp)])
    = ([1] ++ [2] : List ℝ) :=
  rebin_same_binning_id_point_last [0, 1] [1] 2 (by norm_num) (by simp) rfl

/-- `range_histogram([0, 1, 1])` of three cycles - the classes `(0,1]:1` and `(1,1]:2` - re-binned to one class, to two
classes and to its own binning: the content of the zero-width class is kept. -/
theorem rebin_zero_width_class_kept :
    rebin ([⟨0, 1, 1⟩, ⟨1, 1, 2⟩] : List (Bin ℝ)) [0, 2] = [3] ∧
    rebin ([⟨0, 1, 1⟩, ⟨1, 1, 2⟩] : List (Bin ℝ)) [0, 1, 2] = [1, 2] ∧
    rebin ([⟨0, 1, 1⟩, ⟨1, 1, 2⟩] : List (Bin ℝ)) [0, 1, 1] = [1, 2] := by
  -- the third binning is the histogram's own: a zero-width last class
  refine ⟨?_, ?_, rebin_same_binning_id_point_last [0, 1] [1] 2 (by norm_num) (by simp) rfl⟩ <;>
    (simp [rebin, classes, aggregate, shareC, share, inBin, total, minA, maxA]; try norm_num)

/-- The literal reading "A→B→C = A→C for every intermediate binning B" is false:
A = (0,1]:10, (1,2]:0;  B = (0,2];  C = A's binning.  A→B→C = [5, 5], A→C = [10, 0]. -/
theorem rebin_compose_literal_false :
    rebin (rebinBins ([⟨0, 1, 10⟩, ⟨1, 2, 0⟩] : List (Bin ℝ)) [0, 2]) [0, 1, 2] = [5, 5] ∧
    rebin ([⟨0, 1, 10⟩, ⟨1, 2, 0⟩] : List (Bin ℝ)) [0, 1, 2] = [10, 0] := by
  -- C is A's own binning
  refine ⟨?_, rebin_same_binning_id [0, 1, 2] [10, 0] (by norm_num) rfl⟩
  norm_num [rebin, rebinBins, classes, aggregate, shareC, share, total, minA, maxA]

/-- Composition conserves the total: A→B→C has A's total when B covers A and C covers B
(B strictly increasing so that its classes have positive width; A may contain zero-width classes). -/
theorem rebin_compose_conserves_total (src : List (Bin ℝ)) (b0 c0 : ℝ) (brest crest : List ℝ)
    (hbne : brest ≠ []) (hcne : crest ≠ [])
    (hb : SMono (b0 :: brest)) (hc : Mono (c0 :: crest)) (hval : ∀ s ∈ src, s.l ≤ s.r)
    (hcovB : ∀ s ∈ src, b0 ≤ s.l ∧ s.r ≤ (b0 :: brest).getLast (List.cons_ne_nil _ _))
    (hcovC : c0 ≤ b0 ∧ (b0 :: brest).getLast (List.cons_ne_nil _ _) ≤ (c0 :: crest).getLast (List.cons_ne_nil _ _)) :
    total (rebin (rebinBins src (b0 :: brest)) (c0 :: crest)) = binTotal src := by
  rw [rebin_conserves_total _ c0 crest hcne hc]
  · rw [binTotal_rebinBins]
    exact rebin_conserves_total src b0 brest hbne hb.mono hval hcovB
  · intro s hs
    exact (pairs_strict _ hb _ (mem_pairs_of_mem_rebinBins hs)).le
  · intro s hs
    obtain ⟨h1, _, h3⟩ := pairs_bounds b0 brest hb.mono _ (mem_pairs_of_mem_rebinBins hs)
    exact ⟨le_trans hcovC.1 h1, le_trans h3 hcovC.2⟩

example : ([1, 2] : List ℝ) ≠ [] ∧ ([3] : List ℝ) ≠ [] ∧ SMono ([0, 1, 2] : List ℝ) ∧ Mono ([0, 3] : List ℝ) ∧
    (∀ s ∈ ([⟨0, 1, 1⟩, ⟨1, 1, 2⟩] : List (Bin ℝ)), s.l ≤ s.r) ∧
    (∀ s ∈ ([⟨0, 1, 1⟩, ⟨1, 1, 2⟩] : List (Bin ℝ)),
      (0:ℝ) ≤ s.l ∧ s.r ≤ ([0, 1, 2] : List ℝ).getLast (List.cons_ne_nil _ _)) ∧
    ((0:ℝ) ≤ 0 ∧ ([0, 1, 2] : List ℝ).getLast (List.cons_ne_nil _ _) ≤ ([0, 3] : List ℝ).getLast (List.cons_ne_nil _ _)) := by
  refine ⟨by simp, by simp, ?_, ?_, ?_, ?_, ?_⟩
  · norm_num
  · norm_num
  · intro s hs; simp at hs; rcases hs with rfl | rfl <;> norm_num
  · intro s hs; simp at hs; rcases hs with rfl | rfl <;> norm_num
  · norm_num

/-- Generic composition step: if for every source class and every class `q`
of C the shares compose - Σ over the classes `p` of B of (share of the source class in `p`) × (share of `p` in `q`) is the
share of the source class in `q` - then A→B→C = A→C.  Source classes of positive width (a point mass cannot be spread
linearly, so the linear composition law does not apply to it); B strictly increasing. -/
theorem rebin_compose_of_kap (src : List (Bin ℝ)) (b0 : ℝ) (brest : List ℝ) (cbreaks : List ℝ)
    (hb : SMono (b0 :: brest)) (hpos : ∀ s ∈ src, s.l < s.r)
    (hk : ∀ s ∈ src, ∀ q ∈ pairs cbreaks,
      ((pairs (b0 :: brest)).map fun p => kap p.1 p.2 s.l s.r * kap q.1 q.2 p.1 p.2).sum = kap q.1 q.2 s.l s.r) :
    rebin (rebinBins src (b0 :: brest)) cbreaks = rebin src cbreaks := by
  refine List.map_congr_left fun q hq => ?_
  rw [aggregate_of_pos _ (fun s hs => pairs_strict _ hb _ (mem_pairs_of_mem_rebinBins hs)), aggregate_of_pos src hpos, rebinBins,
    List.map_map]
  -- the content of a class `p` of B is itself a sum over the source classes: exchange the two sums
  have h1 : ∀ p : ℝ × ℝ × Bool, aggregate src p * kap q.1 q.2.1 p.1 p.2.1 =
      (src.map fun s => s.v * (kap p.1 p.2.1 s.l s.r * kap q.1 q.2.1 p.1 p.2.1)).sum := by
    intro p
    rw [aggregate_of_pos src hpos, ← List.sum_map_mul_right]
    exact congrArg List.sum (List.map_congr_left fun s _ => mul_assoc _ _ _)
  simp only [Function.comp_def, h1]
  rw [sum_map_sum_comm]
  refine congrArg List.sum (List.map_congr_left fun s hs => ?_)
  rw [List.sum_map_mul_left, ← hk s hs _ (mem_pairs_of_mem_classes hq), ← classes_map_pairs, List.map_map]
  rfl

/-- non-vacuity: the source (0,2] through B = (0,1],(1,2] to C = (0,2]: 1/2·1 + 1/2·1 = 1. -/
example : SMono ([0, 1, 2] : List ℝ) ∧ (∀ s ∈ ([⟨0, 2, 7⟩] : List (Bin ℝ)), s.l < s.r) ∧
    ∀ s ∈ ([⟨0, 2, 7⟩] : List (Bin ℝ)), ∀ q ∈ pairs ([0, 2] : List ℝ),
      ((pairs ([0, 1, 2] : List ℝ)).map fun p => kap p.1 p.2 s.l s.r * kap q.1 q.2 p.1 p.2).sum = kap q.1 q.2 s.l s.r := by
  refine ⟨?_, ?_, ?_⟩
  · norm_num
  · intro s hs; simp at hs; subst hs; norm_num
  · intro s hs q hq
    obtain rfl : s = ⟨0, 2, 7⟩ := by simpa using hs
    obtain rfl : q = (0, 2) := List.mem_singleton.mp hq
    exact kap_compose_coarsen 0 2 0 2 0 [1, 2] (by norm_num) (by norm_num) (by norm_num) (by simp) (by simp)

/-- Composition: A→B→C = A→C whenever B covers A and refines it (no class of B straddles an end point of a class of A);
C is any gap-free binning. -/
theorem rebin_compose_of_refines (src : List (Bin ℝ)) (b0 : ℝ) (brest : List ℝ) (cbreaks : List ℝ)
    (hb : SMono (b0 :: brest)) (hc : Mono cbreaks) (hpos : ∀ s ∈ src, s.l < s.r)
    (hcovB : ∀ s ∈ src, b0 ≤ s.l ∧ s.r ≤ (b0 :: brest).getLast (List.cons_ne_nil _ _))
    (href : ∀ s ∈ src, RefinesClass s.l s.r (b0 :: brest)) :
    rebin (rebinBins src (b0 :: brest)) cbreaks = rebin src cbreaks := by
  apply rebin_compose_of_kap src b0 brest cbreaks hb hpos
  intro s hs q hq
  have hq12 : q.1 ≤ q.2 := (pairs_rel (mono_iff_pairwise.mp hc) hq).1
  exact kap_compose s.l s.r q.1 q.2 b0 brest hb (hpos s hs) hq12 (hcovB s hs).1 (hcovB s hs).2 (href s hs)

example : RefinesClass 0 2 ([0, 1, 2, 3] : List ℝ) ∧ SMono ([0, 1, 2, 3] : List ℝ) := by
  constructor
  · intro p hp
    simp [pairs] at hp
    rcases hp with rfl | rfl | rfl <;> norm_num
  · norm_num

/-- `A→B→C = A→C` when B contains every break of A's (strictly increasing) binning: every source class is then refined by B
(`refinesClass_of_mem`). -/
theorem rebin_compose_of_breaks_subset (abreaks vals : List ℝ) (b0 : ℝ) (brest : List ℝ) (cbreaks : List ℝ)
    (ha : SMono abreaks) (hb : SMono (b0 :: brest)) (hc : Mono cbreaks)
    (hsub : ∀ x ∈ abreaks, x ∈ b0 :: brest) :
    rebin (rebinBins (binsOf abreaks vals) (b0 :: brest)) cbreaks = rebin (binsOf abreaks vals) cbreaks := by
  have hmem := lt_and_mem_of_mem_binsOf abreaks vals ha
  apply rebin_compose_of_refines _ b0 brest cbreaks hb hc
  · intro s hs; exact (hmem s hs).1
  · intro s hs
    obtain ⟨_, h2, h3⟩ := hmem s hs
    exact ⟨(mono_mem_bounds b0 brest hb.mono _ (hsub _ h2)).1, (mono_mem_bounds b0 brest hb.mono _ (hsub _ h3)).2⟩
  · intro s hs
    obtain ⟨h1, h2, h3⟩ := hmem s hs
    exact refinesClass_of_mem s.l s.r _ hb (hsub _ h2) (hsub _ h3)

example : SMono ([0, 1, 2] : List ℝ) ∧ SMono ([0, 0.5, 1, 2, 3] : List ℝ) ∧
    ∀ x ∈ ([0, 1, 2] : List ℝ), x ∈ ([0, 0.5, 1, 2, 3] : List ℝ) := by
  refine ⟨?_, ?_, ?_⟩
  · norm_num
  · norm_num
  · intro x hx; simp at hx ⊢; rcases hx with rfl | rfl | rfl <;> simp

/-- Composition, second sufficient condition: A→B→C = A→C whenever the last binning C coarsens the middle one
(every break of C is a break of B).  B need not cover A: what B cuts off, C - whose range lies inside B's - cuts off as well.
Source classes of positive width. -/
theorem rebin_compose_of_target_coarsens (src : List (Bin ℝ)) (b0 : ℝ) (brest : List ℝ) (cbreaks : List ℝ)
    (hb : SMono (b0 :: brest)) (hc : Mono cbreaks) (hpos : ∀ s ∈ src, s.l < s.r)
    (hsub : ∀ x ∈ cbreaks, x ∈ b0 :: brest) :
    rebin (rebinBins src (b0 :: brest)) cbreaks = rebin src cbreaks := by
  apply rebin_compose_of_kap src b0 brest cbreaks hb hpos
  intro s hs q hq
  have hq12 : q.1 ≤ q.2 := (pairs_rel (mono_iff_pairwise.mp hc) hq).1
  obtain ⟨h1, h2⟩ := mem_of_mem_pairs hq
  exact kap_compose_coarsen s.l s.r q.1 q.2 b0 brest hb (hpos s hs) hq12 (hsub _ h1) (hsub _ h2)

/-- non-vacuity: A = (1/2, 5/2], B = [0,1,2,3] does not refine A, C = [0,2,3] is a sub-list of B's breaks. -/
example : SMono ([0, 1, 2, 3] : List ℝ) ∧ Mono ([0, 2, 3] : List ℝ) ∧
    (∀ s ∈ ([⟨1/2, 5/2, 8⟩] : List (Bin ℝ)), s.l < s.r) ∧ ∀ x ∈ ([0, 2, 3] : List ℝ), x ∈ ([0, 1, 2, 3] : List ℝ) := by
  refine ⟨by norm_num, by norm_num, ?_, ?_⟩
  · intro s hs; simp at hs; subst hs; norm_num
  · intro x hx; simp at hx ⊢; rcases hx with rfl | rfl | rfl <;> simp

/-! ## 4b. Re-binning a two-level histogram (MultiIndex of two interval levels) -/

/-- Each target cell `p × q` receives from each source cell its content times the product of the per-level shares
(`kapC`: the linear share of a level of positive width, all-or-nothing by numpy's bin rule for a level of zero width). -/
theorem rebin2d_cell_is_product (p q : ℝ × ℝ × Bool) (c : Cell ℝ) :
    share2 p q c = c.v * (kapC p c.xl c.xr * kapC q c.yl c.yr) := by
  unfold share2
  rw [shareC_eq, shareC_eq]
  ring

example : share2 (0, 1, true) (0, 4, false) (⟨0, 2, 3, 3, 8⟩ : Cell ℝ) = 4 := by
  rw [rebin2d_cell_is_product]
  norm_num [kapC, kap, inBin]

/-- Two-level re-bin to gap-free binnings (n ≥ 1 classes each) that cover every source cell on both levels conserves
the total - cells of zero width on either level included.  Guard `xl ≤ xr`, `yl ≤ yr`: pandas rejects inverted intervals. -/
theorem rebin2d_conserves_total (cells : List (Cell ℝ)) (x0 y0 : ℝ) (xr yr : List ℝ) (hxne : xr ≠ []) (hyne : yr ≠ [])
    (hmx : Mono (x0 :: xr)) (hmy : Mono (y0 :: yr))
    (hval : ∀ c ∈ cells, c.xl ≤ c.xr ∧ c.yl ≤ c.yr)
    (hcovx : ∀ c ∈ cells, x0 ≤ c.xl ∧ c.xr ≤ (x0 :: xr).getLast (List.cons_ne_nil _ _))
    (hcovy : ∀ c ∈ cells, y0 ≤ c.yl ∧ c.yr ≤ (y0 :: yr).getLast (List.cons_ne_nil _ _)) :
    total ((rebin2 cells (x0 :: xr) (y0 :: yr)).map total) = (cells.map (·.v)).sum := by
  -- the first level conserves what the second level has kept of each cell, and that is everything
  rw [rebin2_rows_total, rebin_conserves_total _ x0 xr hxne hmx (List.forall_mem_map.mpr fun c hc => (hval c hc).1)
    (List.forall_mem_map.mpr hcovx), binTotal_eq_sum, List.map_map]
  refine congrArg List.sum (List.map_congr_left fun c hc => ?_)
  rw [Function.comp_apply, kapC_sum _ _ y0 yr hyne hmy (hval c hc).2 (hcovy c hc).1 (hcovy c hc).2, mul_one]

example : ([0.25, 1] : List ℝ) ≠ [] ∧ ([4, 10, 12] : List ℝ) ≠ [] ∧
    Mono ([0, 0.25, 1] : List ℝ) ∧ Mono ([0, 4, 10, 12] : List ℝ) ∧
    ∀ c ∈ ([⟨0, 0.5, 0, 5, 1⟩, ⟨0.5, 1, 5, 5, 4⟩] : List (Cell ℝ)), c.xl ≤ c.xr ∧ c.yl ≤ c.yr := by
  refine ⟨by simp, by simp, by norm_num, by norm_num, ?_⟩
  intro c hc; simp at hc; rcases hc with rfl | rfl <;> norm_num

/-- The target binning of a level is found by the level's name: listing the target's levels in the
histogram's order or in the other order gives the same re-bin. -/
theorem rebin2d_by_level_name (n1 n2 : String) (h : n1 ≠ n2) (bx bys : List ℝ) (cells : List (Cell ℝ)) :
    rebin2Named (n1, n2) [(n1, bx), (n2, bys)] cells = rebin2 cells bx bys ∧
    rebin2Named (n1, n2) [(n2, bys), (n1, bx)] cells = rebin2 cells bx bys := by
  have h' : n2 ≠ n1 := fun e => h e.symm
  have e1 : (n1 == n2) = false := beq_false_of_ne h
  have e2 : (n2 == n1) = false := beq_false_of_ne h'
  constructor <;> simp [rebin2Named, pickBreaks, List.find?, e1, e2]

example : ("from" : String) ≠ "to" := by decide

/-! ## 5. Combining -/

/-- `combine_histogram(…, 'sum')` conserves the grand total. -/
theorem combine_sum_conserves (hists : List (List (Bin ℝ))) :
    binTotal (combine hists) = (hists.map binTotal).sum := by
  simpa only [List.map_id] using binTotal_combine_map id binTotal hists fun _ _ => rfl

example : binTotal (combine ([[⟨0, 1, 5⟩, ⟨1, 2, 10⟩], [⟨1, 2, 12⟩, ⟨2, 3, 3⟩]] : List (List (Bin ℝ)))) = 30 := by
  rw [combine_sum_conserves]; simp [binTotal, total]; norm_num

/-! ## 6. Unoccupied classes (NaN contents): re-binning with `nan_default`, combining, re-binning then combining -/

/-- `nan_default=True` marks exactly the target classes that no occupied source class occupies (a class of positive
width occupies the target classes it overlaps, a class of zero width the one that holds its point). -/
theorem rebin_nan_default_marks_unoccupied (src : List (OBin ℝ)) (c : ℝ × ℝ × Bool) :
    aggregateOpt true src c = none ↔ (present src).filter (occupies c) = [] := by
  unfold aggregateOpt
  simp only [if_true, List.isEmpty_iff]
  split_ifs with he
  · exact iff_of_true rfl he
  · exact iff_of_false nofun he

example : aggregateOpt true ([⟨0, 1, some 10⟩, ⟨1, 2, none⟩, ⟨3, 3, some 5⟩] : List (OBin ℝ)) (1, 2, false) = none ∧
    aggregateOpt true ([⟨0, 1, some 10⟩, ⟨1, 2, none⟩, ⟨3, 3, some 5⟩] : List (OBin ℝ)) (2, 3, true) ≠ none := by
  rw [Ne, rebin_nan_default_marks_unoccupied, rebin_nan_default_marks_unoccupied]
  norm_num [present, occupies, overlapsB, inBin, List.filter_cons]

/-- Re-binning with `nan_default` (True or False) conserves the total, NaN counted as nothing: for a gap-free
target (n ≥ 1 classes) that covers every occupied source class (occupied classes of zero width included). -/
theorem rebin_nan_default_conserves_total (nd : Bool) (src : List (OBin ℝ)) (b0 : ℝ) (rest : List ℝ) (hne : rest ≠ [])
    (hm : Mono (b0 :: rest)) (hval : ∀ s ∈ present src, s.l ≤ s.r)
    (hcov : ∀ s ∈ present src, b0 ≤ s.l ∧ s.r ≤ (b0 :: rest).getLast (List.cons_ne_nil _ _)) :
    ototal (rebinOpt nd src (b0 :: rest)) = binTotal (present src) := by
  unfold ototal
  simp only [lit_zero]
  rw [rebinOpt_getD]
  exact rebin_conserves_total (present src) b0 rest hne hm hval hcov

example : present ([⟨0, 1, some 10⟩, ⟨1, 2, none⟩, ⟨2, 4, some 5⟩, ⟨4, 4, some 1⟩] : List (OBin ℝ)) =
    [⟨0, 1, 10⟩, ⟨2, 4, 5⟩, ⟨4, 4, 1⟩] := by
  simp [present]

/-- Combining by sum with unoccupied classes: the grand total is the sum of the totals of the parts, NaN counted as
nothing (pandas' groupby-sum skips NaN). -/
theorem combine_sum_conserves_optional (hists : List (List (OBin ℝ))) :
    binTotal (combineOpt hists) = (hists.map fun h => binTotal (present h)).sum :=
  binTotal_combine_map _ _ hists fun h _ => binTotal_getD h

example : binTotal (combineOpt ([[⟨0, 1, some 5⟩, ⟨1, 2, none⟩], [⟨1, 2, some 12⟩, ⟨2, 3, none⟩]] : List (List (OBin ℝ)))) = 17 := by
  rw [combine_sum_conserves_optional]; simp [present, binTotal, total]; norm_num

/-- The pipeline of the `combine_histogram` docstring (utils/histogram.py) - every histogram re-binned (`nan_default` either way)
to one common gap-free binning that covers it, then combined by sum - conserves the grand total of the occupied classes. -/
theorem rebin_then_combine_conserves (nd : Bool) (hists : List (List (OBin ℝ))) (b0 : ℝ) (rest : List ℝ) (hne : rest ≠ [])
    (hm : Mono (b0 :: rest)) (hval : ∀ h ∈ hists, ∀ s ∈ present h, s.l ≤ s.r)
    (hcov : ∀ h ∈ hists, ∀ s ∈ present h, b0 ≤ s.l ∧ s.r ≤ (b0 :: rest).getLast (List.cons_ne_nil _ _)) :
    binTotal (rebinCombine nd hists (b0 :: rest)) = (hists.map fun h => binTotal (present h)).sum := by
  rw [rebinCombine, combineOpt, List.map_map]
  refine binTotal_combine_map _ _ hists fun h hh => ?_
  rw [Function.comp_apply, binTotal_getD, binTotal_present_rebinOptBins,
    rebin_nan_default_conserves_total nd h b0 rest hne hm (hval h hh) (hcov h hh)]

example : ([2, 4] : List ℝ) ≠ [] ∧ Mono ([0, 2, 4] : List ℝ) ∧
    ∀ h ∈ ([[⟨0, 1, some 5⟩, ⟨1, 1, some 2⟩], [⟨1, 2, none⟩, ⟨2, 4, some 3⟩]] : List (List (OBin ℝ))),
      ∀ s ∈ present h, s.l ≤ s.r ∧ (0:ℝ) ≤ s.l ∧ s.r ≤ ([0, 2, 4] : List ℝ).getLast (List.cons_ne_nil _ _) := by
  refine ⟨by simp, by norm_num, ?_⟩
  intro h hh
  simp at hh
  rcases hh with rfl | rfl <;> (intro s hs; simp [present] at hs)
  · rcases hs with rfl | rfl <;> norm_num
  · subst hs; norm_num

/-! ## 7. From collectives to one combined histogram -/

/-- The documented pipeline collective → `range_histogram(edges)` → re-bin to one common binning → combine by sum:
the grand total is the sum of the range-histogram totals, i.e. (by `histogram_partition`) the number of cycles inside
the covered range of each collective's own edges.  The edges of a collective may repeat (numpy accepts weakly
increasing edges; the zero-width classes this produces are kept by the re-bin); the common binning is gap-free with
n ≥ 1 classes and covers every collective's edges. -/
theorem hist_rebin_combine_conserves (parts : List (List ℝ × List (Row ℝ))) (b0 : ℝ) (rest : List ℝ) (hne : rest ≠ [])
    (hm : Mono (b0 :: rest))
    (hparts : ∀ p ∈ parts, ∃ e0 er, p.1 = e0 :: er ∧ er ≠ [] ∧ Mono (e0 :: er) ∧ b0 ≤ e0 ∧
        (e0 :: er).getLast (List.cons_ne_nil _ _) ≤ (b0 :: rest).getLast (List.cons_ne_nil _ _)) :
    binTotal (histRebinCombine parts (b0 :: rest)) = (parts.map fun p => total (rangeHistogram p.1 p.2)).sum := by
  refine binTotal_combine_map _ _ parts fun p hp => ?_
  obtain ⟨e0, er, he, _, hme, hlo, hhi⟩ := hparts p hp
  rw [binTotal_rebinBins, he, rebin_conserves_total _ b0 rest hne hm]
  · exact binTotal_binsOf _ _ (hist_length _ _)
  · intro s hs
    exact (binsOf_bounds e0 er _ hme s hs).2.1
  · intro s hs
    obtain ⟨h1, _, h3⟩ := binsOf_bounds e0 er _ hme s hs
    exact ⟨le_trans hlo h1, le_trans h3 hhi⟩

example : ([2, 4] : List ℝ) ≠ [] ∧ Mono ([0, 2, 4] : List ℝ) ∧
    ∀ p ∈ ([([0, 1, 1], [⟨0, 1, 1⟩, ⟨0, 0.5, 2⟩]), ([1, 2, 4], [⟨-1, 1, 3⟩])] : List (List ℝ × List (Row ℝ))),
      ∃ e0 er, p.1 = e0 :: er ∧ er ≠ [] ∧ Mono (e0 :: er) ∧ (0:ℝ) ≤ e0 ∧
        (e0 :: er).getLast (List.cons_ne_nil _ _) ≤ ([0, 2, 4] : List ℝ).getLast (List.cons_ne_nil _ _) := by
  refine ⟨by simp, by norm_num, ?_⟩
  intro p hp
  simp at hp
  rcases hp with rfl | rfl
  · exact ⟨0, [1, 1], rfl, by simp, by norm_num, by norm_num, by norm_num⟩
  · exact ⟨1, [2, 4], rfl, by simp, by norm_num, by norm_num, by norm_num⟩

end PylifeVerif.C14
