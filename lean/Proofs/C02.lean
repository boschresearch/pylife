/- C02: detectors realise the counting rules. -/
import Proofs.C02FourPoint
import Proofs.C02Fkm
import Proofs.ThreePoint
import Proofs.RainflowCorollaries
import Proofs.RainflowLiteral
