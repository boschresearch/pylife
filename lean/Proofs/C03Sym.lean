/-
C03 for `find_turns` and the four-point detector: negation and affine maps with non-zero slope move the
values and nothing else (such maps keep or reverse the order, `Sym.findTurns_map`, and scale every range by
`|a|`, `RainflowCor.closeCond_affine`; the detector through its canonical state,
`RainflowCor.fpCanon_map`); `find_turns` on a signal with NaNs reports the turning points of the cleaned
signal at their original positions (`origIndex`).
-/
import Proofs.Lemmas.Sym
import Proofs.Lemmas.FourPointMap

namespace PylifeVerif
open Rainflow

namespace C03

theorem findTurns_neg (s : List Int) :
    findTurns (s.map (- ·)) = (findTurns s).map fun p => (p.1, -p.2) :=
  HCM.findTurns_neg s

theorem findTurns_affine (s : List Int) (a b : Int) (ha : 0 < a) :
    findTurns (s.map (a * · + b)) = (findTurns s).map fun p => (p.1, a * p.2 + b) :=
  Sym.findTurns_affine_ne a b (by omega) s

theorem fourPoint_affine (cs : List (List Int)) (a b : Int) (ha : a ≠ 0) :
    let f := fun x => a * x + b
    let r := fpRun (cs.map (List.map f)); let r0 := fpRun cs
    r.cycles = r0.cycles.map (mapCycle f) ∧ r.stack = r0.stack.map (mapPt f) ∧ r.last = r0.last.map f ∧
      r.ts.head = r0.ts.head ∧ r.chunks = r0.chunks := by
  intro f r r0
  -- both runs end in canonical states, of `s.map f` and of `s`, with the same chunk sizes
  have hr : r = fpCanon (cs.flatten.map f) ((cs.filter (· ≠ [])).map List.length) := by
    show fpRun _ = _
    rw [fpRun_canon, ← List.map_flatten, List.filter_map, List.map_map]
    congr 1
    simp [Function.comp_def]
  rw [hr, show r0 = _ from fpRun_canon cs]
  generalize cs.flatten = s
  obtain ⟨h1, h2, h3⟩ := RainflowCor.fpCanon_map (mapPt f) f (RainflowCor.closeCond_affine a b ha) (fun _ => rfl)
    s (s.map f) ((cs.filter (· ≠ [])).map List.length) ((cs.filter (· ≠ [])).map List.length)
    (by rw [List.head?_map]; cases s.head? <;> rfl) (Sym.findTurns_affine_ne a b ha _) List.getLast?_map
  exact ⟨h1, h2, h3, by rw [fpCanon_ts, fpCanon_ts, canonTs_head, canonTs_head, List.length_map],
    by rw [fpCanon_chunks, fpCanon_chunks]⟩

theorem findTurnsNan_reindex (s : List (Option Int)) :
    findTurnsNan s = (findTurns (s.filterMap id)).map fun p => (origIndex s p.1, p.2) := by
  simp only [findTurnsNan, Sym.whereIdx_isNone, Sym.correctByNans_eq_map]
  rw [List.map_map, List.zip_map']
  apply List.map_congr_left
  intro p hp
  have hlt := Sym.findTurns_index_lt _ p hp
  have := Sym.corr_nanPosFrom s 0 p.1 hlt
  simp only [Nat.add_zero] at this
  simp [this]

theorem findTurnsNan_index_valid (s : List (Option Int)) :
    ∀ p ∈ findTurnsNan s, s[p.1]? = some (some p.2) := by
  intro p hp
  rw [findTurnsNan_reindex] at hp
  obtain ⟨q, hq, rfl⟩ := List.mem_map.mp hp
  exact Sym.getElem?_origIndex s q.1 q.2 (findTurns_getElem? _ q hq)

end C03

/-! ### non-vacuity / sanity instances -/

example : findTurns ([1, 3, 3, 2, 5].map (- ·)) = [(1, -3), (3, -2)] := by decide
example : (findTurns [1, 3, 3, 2, 5]).map (fun p => (p.1, -p.2)) = [(1, -3), (3, -2)] := by decide
example : (fpRun [[0, 4, 1], [3, -2, 6]]).cycles ≠ [] := by decide +kernel
-- `3` inserted between `1` and `5`: an instance of `C03.findTurns_insert_nonreversal` (`RainflowCorollaries.lean`)
example : (findTurns ([0, 2] ++ 1 :: 3 :: 5 :: [4])).map (·.2) = [2, 1, 5] := by decide
example : findTurnsNan [some 0, none, some 2, none, some 1, some 3] = [(2, 2), (4, 1)] := by decide

end PylifeVerif

#print axioms PylifeVerif.C03.findTurns_neg
#print axioms PylifeVerif.C03.findTurns_affine
#print axioms PylifeVerif.C03.fourPoint_affine
#print axioms PylifeVerif.C03.findTurnsNan_reindex
#print axioms PylifeVerif.C03.findTurnsNan_index_valid
