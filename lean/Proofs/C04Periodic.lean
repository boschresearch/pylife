/-
C04: the closed cycles of the endlessly repeated load sequence (`Spec.periodicRainflow`) do not
depend on non-reversal samples anywhere in the cyclic word, nor on where the period is cut.

`cyclicReversals` of the two inputs are rotations of each other (`cyclicReversals_insert`,
`cyclicReversals_rotate`) and cyclically strictly alternating (`cyclicReversals_zig`).  On such words the
four-point rule is a rewriting system with unique normal forms (`nf_unique`), and the count is the same
for every rotation of the reversal word (`prf_rotate`) – including ties of the largest absolute value
(also of opposite sign).
-/
import Proofs.Lemmas.Periodic
import Proofs.Lemmas.PeriodicRev

namespace PylifeVerif.C04
open PylifeVerif.HCM

theorem prf_isRotated {W W' : List Int} (h : W ~r W') (hz : 2 ≤ W.length → Zig (W ++ W)) :
    (prf W').Perm (prf W) := by
  obtain ⟨j, rfl⟩ := h
  exact prf_rotate W hz j

/-- The closed cycles of the repeated sequence do not depend on non-reversal samples anywhere in
the cyclic word. -/
theorem periodicRainflow_insert (pre post : List Int) (x y v : Int)
    (hv : (x ≤ v ∧ v ≤ y) ∨ (y ≤ v ∧ v ≤ x)) :
    (Spec.periodicRainflow (pre ++ x :: v :: y :: post)).Perm (Spec.periodicRainflow (pre ++ x :: y :: post)) := by
  rw [periodicRainflow_eq, periodicRainflow_eq]
  exact prf_isRotated (cyclicReversals_insert pre post x y v hv).symm (cyclicReversals_zig _)

/-- … and not on where the period is cut. -/
theorem periodicRainflow_rotate (a b : List Int) :
    (Spec.periodicRainflow (a ++ b)).Perm (Spec.periodicRainflow (b ++ a)) := by
  rw [periodicRainflow_eq, periodicRainflow_eq]
  exact prf_isRotated (cyclicReversals_rotate b a) (cyclicReversals_zig _)

/-! Non-vacuity: an input with a tie of the largest absolute value of opposite sign (`3`, `-3`) and
an inserted non-reversal. -/
example : (Spec.periodicRainflow ([0, 3] ++ 1 :: 2 :: 2 :: [-3, 1, 3, -1])).Perm
    (Spec.periodicRainflow ([0, 3] ++ 1 :: 2 :: [-3, 1, 3, -1])) :=
  periodicRainflow_insert [0, 3] [-3, 1, 3, -1] 1 2 2 (by decide)

example : (Spec.periodicRainflow ([0, 3, 1, 2] ++ [-3, 1, 3, -1])).Perm
    (Spec.periodicRainflow ([-3, 1, 3, -1] ++ [0, 3, 1, 2])) :=
  periodicRainflow_rotate _ _

#print axioms periodicRainflow_insert
#print axioms periodicRainflow_rotate
#print axioms prf_rotate

end PylifeVerif.C04
