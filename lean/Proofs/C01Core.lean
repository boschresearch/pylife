/-
C01 (chunk independence) for `_new_turns`, the FKM detector and the four-point detector.  After any
chunking each is in a canonical state of the concatenated signal `s`: `_new_turns` in `canonTs s`, having
reported exactly `findTurns s` (`turnsRun_canon`); the FKM detector in the fold of `fkmTurn` over
`findTurns s` (`fkmRun_canon`); the four-point detector in `fpCanon s chunkSizes` (`fpRun_canon` of
`Lemmas/FourPointChunks.lean` for any chunk list, `fpRun_eq` here its form for non-empty chunks, where the
chunk sizes are `cs.map List.length`; it holds since a provisional closing with the last sample of a chunk
never changes what later closings do).  What a
detector does on any chunking is therefore a statement about its canonical state; C02 and C03 prove
theirs there, and one chunk is the instance `[s]`.
-/
import Proofs.Lemmas.FourPointChunks

namespace PylifeVerif
open Rainflow

namespace C01

/-- Feeding chunks to `_new_turns`: final bookkeeping state and all decided turns so far. -/
def turnsRun (cs : List (List Int)) : TurnState × List Pt :=
  cs.foldl (fun acc c => let r := newTurns acc.1 c; (r.1, acc.2 ++ r.2)) ({}, [])

/-- An empty chunk changes nothing (`newTurns st [] = (st, [])`), so no chunk has to be non-empty
here. -/
theorem turnsRun_canon (cs : List (List Int)) :
    turnsRun cs = (canonTs cs.flatten, findTurns cs.flatten) :=
  foldl_canon_skip _ (fun p _ => (canonTs p, findTurns p)) (fun _ => Prod.ext rfl (List.append_nil _))
    (fun p c _ hc => by simp only [newTurns_canon p c hc, ← findTurns_restart]) cs

-- C01 quantifies over non-empty chunks; for `_new_turns` and the FKM detector the hypothesis is kept
-- and not used.  Of the `_eq` lemmas below only `turnsRun_eq` and `fpRun_eq` give the canonical state
-- (`turnsRun_canon`, `fpRun_canon` under that hypothesis); `fkmRun_eq` says that the detector's state is
-- the fold over whatever `_new_turns` has reported, and `fkmRun_canon` is the canonical state.

/-- `turnsRun_canon` under the hypothesis of the property text -/
theorem turnsRun_eq (cs : List (List Int)) (hne : ∀ c ∈ cs, c ≠ []) :
    turnsRun cs = (canonTs cs.flatten, findTurns cs.flatten) :=
  turnsRun_canon cs

theorem turnsRun_state (cs : List (List Int)) (hne : ∀ c ∈ cs, c ≠ []) :
    (turnsRun cs).1 = { tail := cs.flatten.drop (lastIdx (findTurns cs.flatten)),
                        head := cs.flatten.length } := by
  rw [turnsRun_canon]; rfl

theorem newTurns_chunk_independent (cs : List (List Int)) (hne : ∀ c ∈ cs, c ≠ []) :
    turnsRun cs = turnsRun [cs.flatten] := by
  rw [turnsRun_canon, turnsRun_canon, List.flatten_singleton]

theorem fkmTurn_with_ts (st : FkmState) (t : TurnState) (cur : Int) :
    fkmTurn { st with ts := t } cur = { fkmTurn st cur with ts := t } := by
  cases st; simp [fkmTurn]

theorem fkmFold_with_ts (turns : List Pt) (st : FkmState) (t : TurnState) :
    turns.foldl (fun s p => fkmTurn s p.2) { st with ts := t } =
      { turns.foldl (fun s p => fkmTurn s p.2) st with ts := t } :=
  List.foldl_hom (fun s : FkmState => { s with ts := t }) fun s p => fkmTurn_with_ts s t p.2

/-- The FKM detector only consumes the decided turns: its state is the fold of `fkmTurn` over
all turns reported by `_new_turns`, together with the bookkeeping state. -/
theorem fkmRun_eq (cs : List (List Int)) :
    fkmRun cs = { (turnsRun cs).2.foldl (fun s p => fkmTurn s p.2) {} with
                  ts := (turnsRun cs).1 } :=
  foldl_reported fkmProcess newTurns
    (fun (t : TurnState) (l : List Pt) => { l.foldl (fun s (p : Pt) => fkmTurn s p.2) {} with ts := t })
    (fun t l c => by
      simp only [fkmProcess]
      rw [fkmFold_with_ts, List.foldl_append, fkmFold_with_ts])
    cs {} []

theorem fkmRun_canon (cs : List (List Int)) :
    fkmRun cs =
      { ((findTurns cs.flatten).map (·.2)).foldl fkmTurn {} with ts := canonTs cs.flatten } := by
  rw [fkmRun_eq, turnsRun_canon, List.foldl_map]

theorem fkm_chunk_independent (cs : List (List Int)) (hne : ∀ c ∈ cs, c ≠ []) :
    fkmRun cs = fkmRun [cs.flatten] := by
  rw [fkmRun_canon, fkmRun_canon, List.flatten_singleton]

theorem fpRun_eq (cs : List (List Int)) (hne : ∀ c ∈ cs, c ≠ []) :
    fpRun cs = fpCanon cs.flatten (cs.map List.length) :=
  foldl_canon fpProcess fpCanon fpProcess_canon cs hne

theorem fpRun_chunks (cs : List (List Int)) (hne : ∀ c ∈ cs, c ≠ []) :
    (fpRun cs).chunks = cs.map List.length := by
  rw [fpRun_eq cs hne, fpCanon_chunks]

theorem fpRun_singleton (s : List Int) (hs : s ≠ []) : fpRun [s] = fpCanon s [s.length] := by
  simpa using fpRun_eq [s] (by simpa using hs)

/-- four-point: everything observable except the recorder's chunk sizes -/
theorem fourPoint_chunk_independent (cs : List (List Int)) (hne : ∀ c ∈ cs, c ≠ []) (h0 : cs ≠ []) :
    let a := fpRun cs; let b := fpRun [cs.flatten]
    a.cycles = b.cycles ∧ a.stack = b.stack ∧ a.last = b.last ∧ a.ts = b.ts ∧
      a.residuals = b.residuals ∧ a.residualIndex = b.residualIndex ∧ a.chunks = cs.map List.length := by
  have hs : cs.flatten ≠ [] := chunks_flatten_ne_nil hne h0
  intro a b
  have ha : a = fpCanon cs.flatten (cs.map List.length) := fpRun_eq cs hne
  have hb : b = fpCanon cs.flatten [cs.flatten.length] := fpRun_singleton _ hs
  rw [ha, hb]
  cases hf : cs.flatten with
  | nil => exact absurd hf hs
  | cons s0 xs =>
    simp [fpCanon_cons, DetState.residuals, DetState.residualIndex]

theorem chunkLocalIndex_correct (cs : List (List Int)) (hne : ∀ c ∈ cs, c ≠ []) (g : Nat)
    (hg : g < cs.flatten.length) :
    ∃ c, cs[(chunkLocalIndex (cs.map List.length) g).1]? = some c ∧
      c[(chunkLocalIndex (cs.map List.length) g).2]? = cs.flatten[g]? ∧
      (chunkLocalIndex (cs.map List.length) g).2 < c.length := by
  induction cs generalizing g with
  | nil => simp at hg
  | cons c rest ih =>
    simp only [List.map_cons, chunkLocalIndex, List.flatten_cons]
    by_cases h : g < c.length
    · rw [if_pos h]
      exact ⟨c, by simp, by simp [List.getElem?_append_left h], h⟩
    · rw [if_neg h]
      have hg' : g - c.length < rest.flatten.length := by
        simp only [List.flatten_cons, List.length_append] at hg; omega
      obtain ⟨c', h1, h2, h3⟩ := ih (fun c hc => hne c (List.mem_cons_of_mem _ hc)) (g - c.length) hg'
      refine ⟨c', by simpa using h1, ?_, h3⟩
      rw [List.getElem?_append_right (by omega)]
      exact h2

/-! ### Non-vacuity: the hypotheses hold on a chunking with turns, plateaus and closed cycles -/

example : turnsRun [[0, 3, 3], [1, 2], [2, -1, 4]] = turnsRun [[0, 3, 3, 1, 2, 2, -1, 4]] :=
  newTurns_chunk_independent [[0, 3, 3], [1, 2], [2, -1, 4]] (by decide)

example : (turnsRun [[0, 3, 3], [1, 2], [2, -1, 4]]).2 = [(1, 3), (3, 1), (4, 2), (6, -1)] := by
  decide +kernel

example : fkmRun [[0, 3, 3], [1, 2], [2, -1, 4]] = fkmRun [[0, 3, 3, 1, 2, 2, -1, 4]] :=
  fkm_chunk_independent [[0, 3, 3], [1, 2], [2, -1, 4]] (by decide)

example : (fpRun [[0, 3, 3], [1, 2], [2, -1, 4]]).cycles = (fpRun [[0, 3, 3, 1, 2, 2, -1, 4]]).cycles :=
  (fourPoint_chunk_independent [[0, 3, 3], [1, 2], [2, -1, 4]] (by decide) (by decide)).1

/-- the cycle `(3,1)-(4,2)` is only closed by the third chunk, after two provisional closings -/
example : (fpRun [[0, 3, 3], [1, 2], [2, -1, 4]]).cycles = [((3, 1), (4, 2))] := by
  simp [fpRun, fpProcess, newTurns, findTurns, findTurnsAux, fpFeed, fpPush, fpClose, sgn, absDiff]

example : chunkLocalIndex ([[1, 2], [3], [4, 5, 6]].map List.length) 4 = (2, 1) := by decide

end C01
end PylifeVerif

#print axioms PylifeVerif.C01.newTurns_chunk_independent
#print axioms PylifeVerif.C01.fkm_chunk_independent
#print axioms PylifeVerif.C01.fourPoint_chunk_independent
#print axioms PylifeVerif.C01.chunkLocalIndex_correct
