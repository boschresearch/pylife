/-
C07 ∘ C06 — the consequence clauses of the binned law for the wrapped law the code actually uses.

`Proofs/C07.lean` proves "never under-estimates / monotone / less than one class off" for an arbitrary wrapped law that
is odd and monotone (hypotheses).  Here the hypotheses are discharged for the extended Neuber law: a function that
returns, for every load, the root of the defining equation `stressImplicit` with the sign of the load (what
`ExtendedNeuber.stress` solves for; that the solver's value is this root up to its tolerance is measured, not proved) is
odd and strictly increasing
(`C06.neuber_root_strictMono_in_load`), and so is the strain `roStrain ∘ g` that `ExtendedNeuber.strain` returns for it.
Such a function exists for every admissible material (`C06.neuber_exists_unique_root`).
-/
import Proofs.C07
import Proofs.C06
import Mathlib.Order.Monotone.Odd

namespace PylifeVerif.C07
open PylifeVerif.Notch

/-- `g` returns for every load the root of the extended Neuber equation (eq. 2.5-45) with the sign of the load. -/
structure IsNeuberStress (mat : Mat ℝ) (g : ℝ → ℝ) : Prop where
  pos : ∀ L, 0 < L → 0 < g L
  root : ∀ L, 0 < L → stressImplicit mat (g L) L = 0
  odd : ∀ L, g (-L) = -g L

variable {mat : Mat ℝ} {g : ℝ → ℝ}

theorem IsNeuberStress.zero (hg : IsNeuberStress mat g) : g 0 = 0 := odd_map_zero hg.odd

theorem IsNeuberStress.strictMono (h : mat.Adm) (hg : IsNeuberStress mat g) : StrictMono g :=
  strictMono_of_odd_strictMonoOn_nonneg hg.odd fun a ha b _ hab => by
    rcases (Set.mem_Ici.mp ha).eq_or_lt with rfl | ha
    · rw [hg.zero]; exact hg.pos b hab
    · exact C06.neuber_root_strictMono_in_load h ha hab (hg.pos a ha) (hg.pos b (ha.trans hab))
        (hg.root a ha) (hg.root b (ha.trans hab))

/-- the strain `ExtendedNeuber.strain(stress(L), L)` = Ramberg-Osgood strain of the Neuber stress: odd and strictly
increasing in the load -/
theorem IsNeuberStress.strain_odd_strictMono (h : mat.Adm) (hg : IsNeuberStress mat g) :
    (∀ L, roStrain mat (g (-L)) = -roStrain mat (g L)) ∧ StrictMono (fun L => roStrain mat (g L)) :=
  ⟨fun L => by rw [hg.odd, roStrain_neg], (roStrain_strictMono h).comp (hg.strictMono h)⟩

/-- **The consequence clauses for the binned extended Neuber law** (stress and strain tables alike): for every admissible
material, `n ≥ 1` bins, maximum `> 0` and every load `x` inside the range the binned value `y` never under-estimates
the exact law, is monotone in the load, and deviates from the exact law by STRICTLY less than the law's increase over one
class (for `x ≠ 0`). -/
theorem binned_neuber_consequences (h : mat.Adm) (hg : IsNeuberStress mat g) {n : ℕ} (hn : 0 < n) {maxL : ℝ}
    (hM : 0 < maxL) {m : ℕ} (hm : 1 ≤ m) (law : ℝ → ℝ) (hlaw : law = g ∨ law = fun L => roStrain mat (g L))
    {x y : ℝ} (hy : binned n maxL m law x = some y) :
    |law x| ≤ |y| ∧
    (∀ x' y', binned n maxL m law x' = some y' → x ≤ x' → y ≤ y') ∧
    (∃ e, e - maxL / n ≤ |x| ∧ |x| ≤ e ∧ (x ≠ 0 → |y - law x| < law e - law (e - maxL / n))) := by
  have hprops : (∀ L, law (-L) = -law L) ∧ StrictMono law := by
    rcases hlaw with rfl | rfl
    · exact ⟨hg.odd, hg.strictMono h⟩
    · exact hg.strain_odd_strictMono h
  obtain ⟨hodd, hsm⟩ := hprops
  refine ⟨(binned_never_underestimates hn hM hm hodd hsm.monotone hy).1,
    fun x' y' hy' hxx => binned_monotone hn hM hm hodd hsm.monotone hy hy' hxx, ?_⟩
  obtain ⟨e, h1, h2, _, h4⟩ := binned_deviation_lt_one_class hn hM hm hodd hsm.monotone hy
  exact ⟨e, h1, h2, h4 hsm⟩

/-- non-vacuity: for every admissible material a Neuber stress function exists -/
theorem exists_isNeuberStress (h : mat.Adm) : ∃ g, IsNeuberStress mat g := by
  have hex : ∀ L : ℝ, 0 < L → ∃ s, 0 < s ∧ stressImplicit mat s L = 0 := fun L hL => by
    obtain ⟨s, hs1, _, hs3, _⟩ := C06.neuber_exists_unique_root h hL
    exact ⟨s, lt_of_lt_of_le (div_pos hL h.Kp_pos) hs1, hs3⟩
  choose! r hr using hex
  -- the odd extension of a choice of positive roots
  have hg : ∀ L : ℝ, 0 < L → signM L * r |L| = r L := fun L hL => by rw [signM_pos hL, abs_of_pos hL, one_mul]
  exact ⟨fun L => signM L * r |L|, fun L hL => (hg L hL).symm ▸ (hr L hL).1, fun L hL => (hg L hL).symm ▸ (hr L hL).2,
    fun L => by rw [signM_neg_arg, abs_neg, neg_mul]⟩

example : ∃ g, IsNeuberStress (⟨206000, 1184, 0.187, 3.5⟩ : Mat ℝ) g :=
  exists_isNeuberStress C06.exAdm

end PylifeVerif.C07
