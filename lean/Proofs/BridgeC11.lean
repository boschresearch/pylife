/-
Bridge C11: the definitions that /verif/translate/closedform.py regenerates from the CURRENT source of
  src/pylife/strength/miner.py   (Generated/Miner.lean: module function `effective_damage_sum`,
                                  `MinerBase.finite_life_factor`; `self.ND` / `self.k_1` are resolved through the
                                  properties of the base class in materiallaws/woehlercurve.py)
are equal, over ℝ, to the hand-written model `Model/Miner.lean` (`effectiveDamageSum`, `finiteLifeFactor`) that
`Proofs/C11.lean` (`effective_damage_sum_bounds`, …) is about.  Editing a bound, a coefficient or an exponent in the
source changes the generated definition and these proofs stop compiling.
`lifetime_multiple`, `gassner_cycles`, `gassner`, `solidity.haibach`, `Fatigue.damage` work on pandas collectives
(boolean masks, dot products, `.max()` over occupied classes): outside the translator's straight-line subset, tied by
the correspondence run (K).
-/
import Model.Miner
import Proofs.BridgeTactics
import Generated.Miner
import Generated.MinerStatus

-- `bridge` / `bridge_leaf` try alternatives of which some are unreachable or do nothing on a given goal
-- (`unusedTactic`, `unreachableTactic`, `unnecessarySeqFocus`)
set_option linter.unusedTactic false
set_option linter.unreachableTactic false
set_option linter.unnecessarySeqFocus false

namespace PylifeVerif.Bridge
open PylifeVerif PylifeVerif.Miner

theorem effective_damage_sum_eq (A : ℝ) :
    Generated.effective_damage_sum A = effectiveDamageSum A := by
  (simp only [Generated.effective_damage_sum, Generated.py_min, Generated.py_max, effectiveDamageSum, pyMin, pyMax,
    transc_pow]) <;> bridge

theorem finite_life_factor_eq (c : Curve ℝ) (N : ℝ) :
    Generated.MinerBase.finite_life_factor c.ND c.k1 N = finiteLifeFactor c N := by
  (simp only [Generated.MinerBase.finite_life_factor, finiteLifeFactor, transc_pow]) <;> bridge

end PylifeVerif.Bridge
