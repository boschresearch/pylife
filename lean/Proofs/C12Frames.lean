/-
C12 — frames and the matrix interface of the mean stress transformation (carrier ℝ, classification `ExtR.fin`,
`ceilNat = Nat.ceil`).  A row (`range`/`mean`, `from`/`to`, histogram class) of positive amplitude is read as a cycle of positive
amplitude and admissible R whose amplitude and mean are the textbook quantities (`mkCycle_loads`), and the result row of a
transform is read back as the same cycle by the next transform (`mkCycle_rowOf`), so the frame-level FKM-Goodman statements are
those of `Proofs/C12.lean`.  max + linspace + rebin conserve the cycles of every node for any positive ranges
(`matrix_conserves_of_pos`).
-/
import Proofs.C12
import Proofs.Lemmas.ListFacts
import Mathlib.Algebra.Order.Archimedean.Real.Basic

namespace PylifeVerif.C12
open PylifeVerif.Meanstress ExtR

attribute [local simp] lit_two

@[simp] theorem isNaN_real (x : ℝ) : isNaN x = false := by simp [isNaN]

/-- The row has positive amplitude. -/
def RowPos : Iface → ℝ × ℝ → Prop
  | .rm, xy => 0 < xy.1
  | .ft, xy => xy.1 ≠ xy.2
  | .h,  xy => 0 < xy.1

/-- Textbook amplitude of a row. -/
noncomputable def rowAmp : Iface → ℝ × ℝ → ℝ
  | .rm, xy => xy.1 / 2
  | .ft, xy => |xy.1 - xy.2| / 2
  | .h,  xy => xy.1 / 2

/-- Textbook mean of a row. -/
noncomputable def rowMean : Iface → ℝ × ℝ → ℝ
  | .rm, xy => xy.2
  | .ft, xy => (xy.1 + xy.2) / 2
  | .h,  xy => xy.2

/-- `load_collective.R` of a cycle with `lower < upper`: admissible, and amplitude · pos R = mean. -/
theorem cycR_valid (l u : ℝ) (h : l < u) :
    ValidR (cycR fin l u) ∧ (u - l) / 2 * pos (cycR fin l u) = (u + l) / 2 := by
  unfold cycR
  by_cases hu : u ≤ 0 ∧ 0 ≤ u
  · have hu0 : u = 0 := le_antisymm hu.1 hu.2
    subst hu0
    simp only [lit_zero, le_refl, and_self, if_true, h]
    simp only [ValidR, pos, true_and]
    ring
  · have hu0 : u ≠ 0 := fun e => hu (by subst e; simp)
    simp only [lit_zero, hu, if_false]
    have hne : l / u ≠ 1 := by
      intro e; rw [div_eq_one_iff_eq hu0] at e; exact absurd e h.ne
    refine ⟨hne, ?_⟩
    simp only [pos]
    have h1 : u - l ≠ 0 := by linarith
    have h2 : 1 - l / u ≠ 0 := fun e => hne (by linarith)
    have h3 : 1 - l / u = (u - l) / u := by field_simp
    rw [h3]
    field_simp

theorem absDiff_real (a b : ℝ) : absDiff a b = |a - b| := by
  unfold absDiff
  split_ifs with h
  · rw [abs_of_neg (by linarith)]; ring
  · rw [abs_of_nonneg (by linarith)]

theorem mkCycle_rm (x y : ℝ) (hx : 0 < x) :
    mkCycle fin .rm x y = ⟨x / 2, cycR fin (y - x / 2) (y + x / 2)⟩ := by
  have h : y - x / 2 < y + x / 2 := by linarith
  simp only [mkCycle, lit_two, isNaN_real, if_true, h, absDiff, Bool.false_eq_true, if_false]
  congr 1
  ring

theorem mkCycle_h (x y : ℝ) : mkCycle fin .h x y = ⟨x / 2, cycR fin (y - x / 2) (y + x / 2)⟩ := by
  simp only [mkCycle, lit_two]

theorem mkCycle_ft_lt (x y : ℝ) (h : x < y) : mkCycle fin .ft x y = ⟨(y - x) / 2, cycR fin x y⟩ := by
  simp [mkCycle, absDiff, h]

theorem mkCycle_ft_gt (x y : ℝ) (h : y < x) : mkCycle fin .ft x y = ⟨(x - y) / 2, cycR fin y x⟩ := by
  have : ¬ x < y := by linarith
  simp [mkCycle, absDiff, this]

/-- A row of positive amplitude is the cycle between a lower load `l` and an upper load `u > l`, whose half range and
mid value are the textbook amplitude and mean of the row. -/
theorem mkCycle_loads (kind : Iface) (xy : ℝ × ℝ) (h : RowPos kind xy) :
    ∃ l u, l < u ∧ mkCycle fin kind xy.1 xy.2 = ⟨(u - l) / 2, cycR fin l u⟩ ∧
      (u - l) / 2 = rowAmp kind xy ∧ (u + l) / 2 = rowMean kind xy := by
  obtain ⟨x, y⟩ := xy
  cases kind with
  | rm =>
    simp only [RowPos] at h
    refine ⟨y - x / 2, y + x / 2, by linarith, ?_, by simp only [rowAmp]; ring, by simp only [rowMean]; ring⟩
    rw [mkCycle_rm x y h]; congr 1; ring
  | h =>
    simp only [RowPos] at h
    refine ⟨y - x / 2, y + x / 2, by linarith, ?_, by simp only [rowAmp]; ring, by simp only [rowMean]; ring⟩
    rw [mkCycle_h x y]; congr 1; ring
  | ft =>
    simp only [RowPos] at h
    rcases lt_or_gt_of_ne h with h | h
    · exact ⟨x, y, h, mkCycle_ft_lt x y h, by simp only [rowAmp]; rw [abs_of_neg (by linarith)]; ring,
        by simp only [rowMean]; ring⟩
    · exact ⟨y, x, h, mkCycle_ft_gt x y h, by simp only [rowAmp]; rw [abs_of_pos (by linarith)], rfl⟩

theorem mkCycle_valid (kind : Iface) (xy : ℝ × ℝ) (h : RowPos kind xy) :
    0 < (mkCycle fin kind xy.1 xy.2).amp ∧ ValidR (mkCycle fin kind xy.1 xy.2).R := by
  obtain ⟨l, u, hlu, e, _, _⟩ := mkCycle_loads kind xy h
  rw [e]
  exact ⟨by simp only; linarith, (cycR_valid l u hlu).1⟩

/-- amplitude and mean of the row = the textbook quantities -/
theorem mkCycle_amp_mean (kind : Iface) (xy : ℝ × ℝ) (h : RowPos kind xy) :
    (mkCycle fin kind xy.1 xy.2).amp = rowAmp kind xy ∧
    (mkCycle fin kind xy.1 xy.2).amp * pos (mkCycle fin kind xy.1 xy.2).R = rowMean kind xy := by
  obtain ⟨l, u, hlu, e, ea, em⟩ := mkCycle_loads kind xy h
  rw [e]
  exact ⟨ea, (cycR_valid l u hlu).2.trans em⟩

theorem resultMean_real (c : Cyc ℝ) : resultMean c = c.amp * pos c.R := by
  obtain ⟨a, R⟩ := c
  cases R <;> simp [resultMean, resultMean.fillna0', pos]

/-- Reading back `(a·(p-1), a·(p+1))` with `p = pos R` gives `R`: an admissible R value with the same ray. -/
theorem cycR_pos (a : ℝ) (R : ExtR ℝ) (ha : 0 < a) (hR : ValidR R) :
    cycR fin (a * pos R - a) (a * pos R + a) = R := by
  obtain ⟨v, e⟩ := cycR_valid (a * pos R - a) (a * pos R + a) (by linarith)
  refine pos_inj v hR (mul_left_cancel₀ ha.ne' ?_)
  linarith

theorem mkCycle_rowOf (c : Cyc ℝ) (ha : 0 < c.amp) (hR : ValidR c.R) :
    mkCycle fin .rm (rowOf c).1 (rowOf c).2 = c := by
  obtain ⟨a, R⟩ := c
  simp only at ha hR
  simp only [rowOf, lit_two, resultMean_real]
  rw [mkCycle_rm _ _ (by linarith)]
  rw [show 2 * a / 2 = a by ring, cycR_pos a R ha hR]

theorem frameAmp_rowOf (c : Cyc ℝ) (ha : 0 ≤ c.amp) : frameAmp (rowOf c) = c.amp := by
  simp only [frameAmp, rowOf, lit_two, absDiff_real]
  rw [show resultMean c - 2 * c.amp / 2 - (resultMean c + 2 * c.amp / 2) = -(2 * c.amp) by ring, abs_neg,
    abs_of_nonneg (by linarith)]
  ring

/-- `ranges.max()` bounds every range. -/
theorem le_maxRange (items : List (ℝ × ℝ)) : ∀ it ∈ items, it.1 ≤ maxRange items := by
  intro it hit
  have := foldl_select (R := (· ≥ ·)) le_refl ge_trans (fun m x : ℝ => if m < x then x else m)
    (fun m y => by split_ifs with h; exacts [h.le, le_rfl]) (fun m y => by split_ifs with h; exacts [le_rfl, not_lt.mp h])
    (items.map Prod.fst) (items.headD (0.0, 0.0)).1 it.1 (List.mem_cons_of_mem _ (List.mem_map_of_mem hit))
  rwa [List.foldl_map] at this

theorem maxRange_pos (items : List (ℝ × ℝ)) (hne : items ≠ []) (hp : ∀ it ∈ items, 0 < it.1) :
    0 < maxRange items := by
  cases items with
  | nil => exact absurd rfl hne
  | cons x xs => exact lt_of_lt_of_le (hp x List.mem_cons_self) (le_maxRange _ x List.mem_cons_self)

theorem rebin_nil_sum (es : List ℝ) : (rebin es ([] : List (ℝ × ℝ))).sum = 0 := by
  induction es with
  | nil => simp [rebin]
  | cons a as ih =>
    cases as with
    | nil => simp [rebin]
    | cons b bs =>
      simp only [rebin, List.sum_cons]
      rw [ih]
      simp [classSum]

/-- The composition max + linspace + rebin, for any way of producing positive ranges. -/
theorem matrix_conserves_of_pos (g : ExtR ℝ) (binsize : ℝ) (hb : 0 < binsize) (cells : List (Cell ℝ))
    (hp : ∀ it ∈ matItems fin g cells, 0 < it.1) (node : ℕ) :
    (matrixTransform fin (fun x => ⌈x⌉₊) g binsize cells node).sum
      = ((cells.filter fun c => c.node == node).map Cell.count).sum := by
  have hsnd : ∀ l : List (Cell ℝ), ((matItems fin g l).map Prod.snd).sum = (l.map Cell.count).sum := by
    intro l; simp [matItems, Function.comp_def]
  by_cases hne : cells = []
  · subst hne
    simp only [matrixTransform, List.filter_nil, matItems, List.map_nil, List.sum_nil]
    exact rebin_nil_sum _
  · have hne' : matItems fin g cells ≠ [] := by simpa [matItems] using hne
    have hmx := maxRange_pos _ hne' hp
    have hn : 1 ≤ ⌈maxRange (matItems fin g cells) / binsize⌉₊ :=
      Nat.one_le_iff_ne_zero.2 (Nat.ceil_pos.2 (div_pos hmx hb)).ne'
    unfold matrixTransform matBreaks
    rw [(rebin_conserves_cycles _ _ hmx hn (matItems fin g (cells.filter fun c => c.node == node)) ?_).1, hsnd]
    intro it hit
    have hmem : it ∈ matItems fin g cells := by
      simp only [matItems, List.mem_map, List.mem_filter] at hit ⊢
      obtain ⟨c, ⟨hc, _⟩, rfl⟩ := hit
      exact ⟨c, hc, rfl⟩
    exact ⟨(hp it hmem).le, le_maxRange _ it hmem⟩

section Goodman
variable (M M2 : ℝ) (h0 : 0 ≤ M2) (h1 : 0 ≤ M) (h2 : M < 1)
include h0 h1 h2

theorem cyc_goodman_pos (g : ExtR ℝ) (c : Cyc ℝ) (ha : 0 < c.amp) (hg : ValidR g) (hR : ValidR c.R) :
    0 < (transform (goodman M M2) g c).amp := by
  rw [goodman_amp M M2 h0 h1 h2 g c hg hR]
  exact div_pos (mul_pos ha (hG_pos M M2 h0 h1 h2 _)) (hG_pos M M2 h0 h1 h2 _)

/-- The amplitude read from the result frame is the closed-form FKM-Goodman amplitude of the row. -/
theorem goodman_frame_eq_closed_form (g : ExtR ℝ) (hg : ValidR g) (kind : Iface) (xy : ℝ × ℝ) (h : RowPos kind xy) :
    frameAmp (transformFrame fin (goodman M M2) g kind xy) = goodmanClosed M M2 (rowAmp kind xy) (rowMean kind xy) g := by
  obtain ⟨ha, hR⟩ := mkCycle_valid kind xy h
  obtain ⟨e1, e2⟩ := mkCycle_amp_mean kind xy h
  unfold transformFrame
  rw [frameAmp_rowOf _ (cyc_goodman_pos M M2 h0 h1 h2 g _ ha hg hR).le,
    goodman_eq_closed_form M M2 h0 h1 h2 g _ ha hg hR, e2, e1]

/-- The result row lies on the target ray: mean = amplitude · pos g. -/
theorem goodman_frame_on_target_ray (g : ExtR ℝ) (hg : ValidR g) (kind : Iface) (xy : ℝ × ℝ) (h : RowPos kind xy) :
    (transformFrame fin (goodman M M2) g kind xy).2
      = frameAmp (transformFrame fin (goodman M M2) g kind xy) * pos g := by
  obtain ⟨ha, hR⟩ := mkCycle_valid kind xy h
  unfold transformFrame
  rw [frameAmp_rowOf _ (cyc_goodman_pos M M2 h0 h1 h2 g _ ha hg hR).le]
  simp only [rowOf, resultMean_real]
  rw [goodman_arrives_at_target M M2 g _ hg hR]

/-- The transformed range is positive. -/
theorem goodman_frame_positive (g : ExtR ℝ) (hg : ValidR g) (kind : Iface) (xy : ℝ × ℝ) (h : RowPos kind xy) :
    0 < (transformFrame fin (goodman M M2) g kind xy).1 := by
  obtain ⟨ha, hR⟩ := mkCycle_valid kind xy h
  have := cyc_goodman_pos M M2 h0 h1 h2 g _ ha hg hR
  simp only [transformFrame, rowOf, lit_two]
  linarith

/-- The next transform reads the result frame back as the transformed cycle. -/
theorem goodman_frame_readback (g : ExtR ℝ) (hg : ValidR g) (kind : Iface) (xy : ℝ × ℝ) (h : RowPos kind xy) :
    mkCycle fin .rm (transformFrame fin (goodman M M2) g kind xy).1 (transformFrame fin (goodman M M2) g kind xy).2
      = transform (goodman M M2) g (mkCycle fin kind xy.1 xy.2) := by
  obtain ⟨ha, hR⟩ := mkCycle_valid kind xy h
  unfold transformFrame
  apply mkCycle_rowOf _ (cyc_goodman_pos M M2 h0 h1 h2 g _ ha hg hR)
  rw [goodman_arrives_at_target M M2 g _ hg hR]; exact hg

theorem goodman_frame_path_independent (g₁ g₂ : ExtR ℝ) (hg1 : ValidR g₁) (hg2 : ValidR g₂) (kind : Iface)
    (xy : ℝ × ℝ) (h : RowPos kind xy) :
    transformChain fin (goodman M M2) kind [g₁, g₂] xy = transformChain fin (goodman M M2) kind [g₂] xy := by
  obtain ⟨ha, hR⟩ := mkCycle_valid kind xy h
  simp only [transformChain, List.foldl]
  rw [transformFrame, goodman_frame_readback M M2 h0 h1 h2 g₁ hg1 kind xy h,
    goodman_path_independent M M2 h0 h1 h2 g₁ g₂ _ hg1 hg2 hR]
  rfl

theorem goodman_frame_idempotent (g : ExtR ℝ) (hg : ValidR g) (kind : Iface) (xy : ℝ × ℝ) (h : RowPos kind xy) :
    transformChain fin (goodman M M2) kind [g, g] xy = transformChain fin (goodman M M2) kind [g] xy :=
  goodman_frame_path_independent M M2 h0 h1 h2 g g hg hg kind xy h

end Goodman

/-- `MeanstressTransformMatrix.fkm_goodman`: for every key `node` of the remaining index levels the class sums of the
re-binned transformed ranges add up to the number of cycles of that key (also for a key that does not occur: both sides
are 0). -/
theorem matrixTransform_conserves_cycles (g : ExtR ℝ) (hg : ValidR g) (binsize : ℝ) (hb : 0 < binsize) (cells : List (Cell ℝ))
    (hc : ∀ c ∈ cells, 0 < c.x ∧ ∃ M M2, 0 ≤ M2 ∧ 0 ≤ M ∧ M < 1 ∧ c.D = goodman M M2) (node : ℕ) :
    (matrixTransform fin (fun x => ⌈x⌉₊) g binsize cells node).sum
      = ((cells.filter fun c => c.node == node).map Cell.count).sum := by
  apply matrix_conserves_of_pos g binsize hb cells
  intro it hit
  simp only [matItems, List.mem_map] at hit
  obtain ⟨c, hcm, rfl⟩ := hit
  obtain ⟨hx, M, M2, h0, h1, h2, hcD⟩ := hc c hcm
  rw [hcD]
  exact goodman_frame_positive M M2 h0 h1 h2 g hg .h (c.x, c.y) hx

/-! ### Non-vacuity -/

example : RowPos .ft ((3 : ℝ), -1) := by simp [RowPos]; norm_num

/-- `from`/`to` row (3, -1): amplitude 2, R = -1/3 (mean 1). -/
example : mkCycle fin .ft (3 : ℝ) (-1) = ⟨2, fin (-1 / 3)⟩ := by
  rw [mkCycle_ft_gt _ _ (by norm_num)]
  norm_num [cycR]

example : (mkCycle fin .ft (3 : ℝ) (-1)).amp = 2 ∧
    (mkCycle fin .ft (3 : ℝ) (-1)).amp * pos (mkCycle fin .ft (3 : ℝ) (-1)).R = 1 := by
  have := mkCycle_amp_mean .ft ((3 : ℝ), -1) (by simp [RowPos]; norm_num)
  simp only [rowAmp, rowMean] at this
  norm_num at this
  exact this

/-- pulsating compression `range`/`mean` row (2, -1): upper load 0, R = -∞. -/
example : mkCycle fin .rm (2 : ℝ) (-1) = ⟨1, ninf⟩ := by
  rw [mkCycle_rm _ _ (by norm_num)]
  norm_num [cycR]

example : mkCycle fin .rm (rowOf (⟨1, fin 2⟩ : Cyc ℝ)).1 (rowOf (⟨1, fin 2⟩ : Cyc ℝ)).2 = ⟨1, fin 2⟩ :=
  mkCycle_rowOf _ (by norm_num) (by simp [ValidR])

example : frameAmp (rowOf (⟨0, ninf⟩ : Cyc ℝ)) = 0 := frameAmp_rowOf _ (by norm_num)

/-- M = 1/2, M2 = 1/6, histogram class (range 2, mean 3) (R = 1/2) to R = -∞: crosses R = 0. -/
example : frameAmp (transformFrame fin (goodman (1/2 : ℝ) (1/6)) ninf .h (2, 3)) = 27/7 := by
  rw [goodman_frame_eq_closed_form (1/2) (1/6) (by norm_num) (by norm_num) (by norm_num) ninf (by simp [ValidR]) .h
    (2, 3) (by simp [RowPos])]
  norm_num [goodmanClosed, eqAmp, backFactor, rowAmp, rowMean]

example : transformChain fin (goodman (1/2 : ℝ) (1/6)) .ft [fin 2, fin (-1)] (3, -1)
    = transformChain fin (goodman (1/2 : ℝ) (1/6)) .ft [fin (-1)] (3, -1) :=
  goodman_frame_path_independent (1/2) (1/6) (by norm_num) (by norm_num) (by norm_num) (fin 2) (fin (-1))
    (by simp [ValidR]) (by simp [ValidR]; norm_num) .ft (3, -1) (by simp [RowPos]; norm_num)

example : transformChain fin (goodman (1/2 : ℝ) (1/6)) .rm [ninf, ninf] (2, 3)
    = transformChain fin (goodman (1/2 : ℝ) (1/6)) .rm [ninf] (2, 3) :=
  goodman_frame_idempotent (1/2) (1/6) (by norm_num) (by norm_num) (by norm_num) ninf (by simp [ValidR]) .rm (2, 3)
    (by simp [RowPos])

example : (transformFrame fin (goodman (1/2 : ℝ) (1/6)) ninf .h (2, 3)).2
    = frameAmp (transformFrame fin (goodman (1/2 : ℝ) (1/6)) ninf .h (2, 3)) * pos ninf :=
  goodman_frame_on_target_ray (1/2) (1/6) (by norm_num) (by norm_num) (by norm_num) ninf (by simp [ValidR]) .h (2, 3)
    (by simp [RowPos])

example : 0 < (transformFrame fin (goodman (1/2 : ℝ) (1/6)) (fin 2) .rm (2, 3)).1 :=
  goodman_frame_positive (1/2) (1/6) (by norm_num) (by norm_num) (by norm_num) (fin 2) (by simp [ValidR]) .rm (2, 3)
    (by simp [RowPos])

/-- Two nodes with different diagrams, three classes; target R = -1, bin size 1/2: node 0 keeps its 7 + 5 cycles. -/
example :
    (matrixTransform fin (fun x : ℝ => ⌈x⌉₊) (fin (-1)) (1/2)
      [⟨0, goodman (1/2) (1/6), 2, 3, 7⟩, ⟨1, goodman (3/10) (1/10), 4, -1, 2⟩, ⟨0, goodman (1/2) (1/6), 1, 0, 5⟩] 0).sum
      = 12 := by
  rw [matrixTransform_conserves_cycles (fin (-1)) (by simp [ValidR]; norm_num) (1/2) (by norm_num)]
  · simp; norm_num
  · intro c hc
    simp only [List.mem_cons, List.not_mem_nil, or_false] at hc
    rcases hc with rfl | rfl | rfl
    · exact ⟨by norm_num, 1/2, 1/6, by norm_num, by norm_num, by norm_num, rfl⟩
    · exact ⟨by norm_num, 3/10, 1/10, by norm_num, by norm_num, by norm_num, rfl⟩
    · exact ⟨by norm_num, 1/2, 1/6, by norm_num, by norm_num, by norm_num, rfl⟩

end PylifeVerif.C12
