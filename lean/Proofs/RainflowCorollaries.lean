/-
The C01–C03 theorems in the generality of the property texts: every chunking, all three detectors, the
reported indices.

C01  the recorder's chunk bookkeeping maps every reported global index back to the chunk and the
     chunk-local position that holds the sample with the reported value
     (`recorder_chunk_local_index_addresses_sample`, `_threePoint`).
C02  for EVERY chunking of a signal the detectors compute the declarative rule on the declarative
     turning points (`fourPoint_eq_spec_chunked`, `threePoint_eq_spec_chunked`, `fkm_eq_spec_chunked`;
     partition and index validity likewise).
C03  inserting a sample weakly between its neighbours changes nothing but the reported indices, which
     move by the explicit map `bump (insPos …)` (`fourPoint_insert_nonreversal`,
     `threePoint_insert_nonreversal`, `fkm_insert_nonreversal` and their `_chunked` forms); the scan
     `findTurns` equals the literal transcription `findTurnsNumpy` of the numpy formulation of
     `find_turns` (`findTurns_eq_numpy`).

At the head, in the namespace `RainflowCor` that `Lemmas/FourPointMap.lean` opens: the recorder's chunk
bookkeeping (`chunk_addresses`) and the position `insPos` from which an inserted sample moves the indices.
-/
import Proofs.Lemmas.FourPointMap
import Proofs.Lemmas.Insertion
import Proofs.Lemmas.RainflowNumpy
import Proofs.Lemmas.ThreePoint
import Proofs.C02Fkm

namespace PylifeVerif

namespace RainflowCor
open Rainflow C01 C02

theorem chunk_addresses (cs : List (List Int)) (hne : ∀ c ∈ cs, c ≠ []) :
    ∀ p ∈ ((fpRun cs).cycles.flatMap fun c => [c.1, c.2]) ++ residualPts (fpRun cs),
      ∃ c, cs[(chunkLocalIndex (fpRun cs).chunks p.1).1]? = some c ∧
        c[(chunkLocalIndex (fpRun cs).chunks p.1).2]? = some p.2 := by
  intro p hp
  have hv := fpRun_index_valid cs p hp
  obtain ⟨c, h1, h2, _⟩ := chunkLocalIndex_correct cs hne p.1 (List.getElem?_eq_some_iff.mp hv).1
  rw [fpRun_chunks cs hne]
  exact ⟨c, h1, h2.trans hv⟩

/-- Position from which on the reported indices move by one when `v` is inserted between `x` (at
position `|pre|`) and `y`: normally the position of `v` itself, `|pre| + 1`; but if `v = y` and `y`
is not the last sample, the plateau `v, y` is reported at its first sample, which sits at the old
position of `y`, so only the indices behind `y` move. -/
def insPos (pre : List Int) (v y : Int) (post : List Int) : Nat :=
  if v = y ∧ post ≠ [] then pre.length + 2 else pre.length + 1

theorem residuals_eq_map (st : DetState) : st.residuals = (residualPts st).map (·.2) := by
  unfold DetState.residuals residualPts
  cases st.last <;> simp

end RainflowCor

open Rainflow RainflowCor

-- The statements keep the hypotheses of the property texts (non-empty chunks, at least one chunk, at
-- least two samples); where the general theorem does without one of them it stays unused.

namespace C01
open C02 ThreePoint

/-- For every list `cs` of non-empty chunks and every point `p = (global index, value)` reported by
the four-point detector run on `cs` (an end point of a recorded cycle or a residual point, including
the last sample), `chunk_local_index` applied to the recorder's chunk sizes yields a chunk number
`k` and a position `j` such that `cs[k][j]` exists and is the reported value. -/
theorem recorder_chunk_local_index_addresses_sample (cs : List (List Int))
    (hne : ∀ c ∈ cs, c ≠ []) (h0 : cs ≠ []) :
    ∀ p ∈ ((fpRun cs).cycles.flatMap fun c => [c.1, c.2]) ++ residualPts (fpRun cs),
      ∃ c, cs[(chunkLocalIndex (fpRun cs).chunks p.1).1]? = some c ∧
        c[(chunkLocalIndex (fpRun cs).chunks p.1).2]? = some p.2 :=
  chunk_addresses cs hne

/-- the same for the three-point detector -/
theorem recorder_chunk_local_index_addresses_sample_threePoint (cs : List (List Int))
    (hne : ∀ c ∈ cs, c ≠ []) (h0 : cs ≠ []) :
    ∀ p ∈ ((tpRun cs).cycles.flatMap fun c => [c.1, c.2]) ++ residualPts (tpRun cs),
      ∃ c, cs[(chunkLocalIndex (tpRun cs).chunks p.1).1]? = some c ∧
        c[(chunkLocalIndex (tpRun cs).chunks p.1).2]? = some p.2 := by
  rw [tpRun_eq_fpRun]
  exact chunk_addresses cs hne

/-- every reported global index addresses the reported value in the concatenated signal, for every
chunking and also for one-sample signals (extends `C02.fourPoint_index_valid`) -/
theorem fourPoint_index_valid_chunked (cs : List (List Int))
    (hne : ∀ c ∈ cs, c ≠ []) (h0 : cs ≠ []) :
    ∀ p ∈ ((fpRun cs).cycles.flatMap fun c => [c.1, c.2]) ++ residualPts (fpRun cs),
      cs.flatten[p.1]? = some p.2 :=
  fpRun_index_valid cs

end C01

namespace C02
open C01 ThreePoint

/-- For every chunking `cs` (non-empty chunks) of a signal `s` with at least two samples, the cycles
(in order of detection) and the residual points of the four-point detector are those of the textbook
four-point rule on the declarative turning-point sequence of `s`. -/
theorem fourPoint_eq_spec_chunked (s : List Int) (cs : List (List Int)) (hcs : cs.flatten = s)
    (hne : ∀ c ∈ cs, c ≠ []) (h : 2 ≤ s.length) :
    ((fpRun cs).cycles, residualPts (fpRun cs)) = Spec.fourPoint (Spec.turningPoints s) :=
  hcs ▸ fpRun_eq_spec cs

theorem threePoint_eq_spec_chunked (s : List Int) (cs : List (List Int)) (hcs : cs.flatten = s)
    (hne : ∀ c ∈ cs, c ≠ []) (h : 2 ≤ s.length) :
    ((tpRun cs).cycles, residualPts (tpRun cs)) = Spec.fourPoint (Spec.turningPoints s) := by
  rw [tpRun_eq_fpRun]
  exact fourPoint_eq_spec_chunked s cs hcs hne h

/-- For every chunking of a signal `s` the FKM detector computes the Clormann–Seeger HCM rule on the
values of the declarative reversals of `s`. -/
theorem fkm_eq_spec_chunked (s : List Int) (cs : List (List Int)) (hcs : cs.flatten = s)
    (hne : ∀ c ∈ cs, c ≠ []) :
    ((fkmRun cs).cycles, (fkmRun cs).res) =
      ((Spec.hcm ((Spec.reversals s).map (·.2))).cycles, (Spec.hcm ((Spec.reversals s).map (·.2))).res) := by
  rw [← hcs, ← findTurns_eq_reversals]
  exact fkmRun_eq_hcm cs

theorem fourPoint_partition_chunked (s : List Int) (cs : List (List Int)) (hcs : cs.flatten = s)
    (hne : ∀ c ∈ cs, c ≠ []) (h : 2 ≤ s.length) :
    (((fpRun cs).cycles.flatMap fun c => [c.1, c.2]) ++ residualPts (fpRun cs)).Perm
      (Spec.turningPoints s) :=
  hcs ▸ fpRun_partition cs

theorem fkm_partition_chunked (s : List Int) (cs : List (List Int)) (hcs : cs.flatten = s)
    (hne : ∀ c ∈ cs, c ≠ []) :
    (((fkmRun cs).cycles.flatMap fun c => [c.1, c.2]) ++ (fkmRun cs).res).Perm
      ((Spec.reversals s).map (·.2)) := by
  rw [← hcs, ← findTurns_eq_reversals]
  exact fkmRun_partition cs

end C02

namespace C03
open C01 C02 ThreePoint HCM.Insert

/-- `find_turns`: the turning points of `s' = pre ++ x :: v :: y :: post` (with `v` weakly between
`x` and `y`) are those of `s = pre ++ x :: y :: post` with the indices moved by
`bumpN k j = if j < k then j else j + 1`, `k = insPos pre v y post`. -/
theorem findTurns_insert_nonreversal_index (pre post : List Int) (x y v : Int)
    (hv : (x ≤ v ∧ v ≤ y) ∨ (y ≤ v ∧ v ≤ x)) :
    findTurns (pre ++ x :: v :: y :: post) =
      (findTurns (pre ++ x :: y :: post)).map (bump (insPos pre v y post)) := by
  by_cases hvy : v = y
  · subst hvy
    have e1 : pre ++ x :: v :: v :: post = (pre ++ [x, v]) ++ v :: post := by simp
    have e2 : pre ++ x :: v :: post = (pre ++ [x, v]) ++ post := by simp
    have hins : InsOK (pre ++ [x, v]) v post := ⟨v, by simp, Or.inl rfl⟩
    rw [e1, findTurns_ins _ _ _ hins, ← e2]
    have hl : (pre ++ [x, v]).length = pre.length + 2 := by simp
    rw [hl]
    by_cases hpost : post = []
    · subst hpost
      apply List.map_congr_left
      intro p hp
      have := (findTurns_idx _ p hp).2
      simp only [List.length_append, List.length_cons, List.length_nil] at this
      simp only [insPos, ne_eq, not_true_eq_false, and_false, if_false, bump, bumpN]
      rw [if_pos (by omega), if_pos (by omega)]
    · simp only [insPos, hpost, ne_eq, not_false_eq_true, and_self, if_true]
  · have e1 : pre ++ x :: v :: y :: post = (pre ++ [x]) ++ v :: (y :: post) := by simp
    have e2 : pre ++ x :: y :: post = (pre ++ [x]) ++ (y :: post) := by simp
    rw [e1, findTurns_ins _ _ _ (InsOK.of_between post (by simp) hv (Or.inl hvy)), ← e2]
    simp [insPos, hvy]

/-- Inserting a sample `v` that lies (weakly) between its neighbours `x`, `y` keeps the turn values. -/
theorem findTurns_insert_nonreversal (pre post : List Int) (x y v : Int)
    (hv : (x ≤ v ∧ v ≤ y) ∨ (y ≤ v ∧ v ≤ x)) :
    (findTurns (pre ++ x :: v :: y :: post)).map (·.2) = (findTurns (pre ++ x :: y :: post)).map (·.2) := by
  rw [findTurns_insert_nonreversal_index pre post x y v hv, List.map_map]
  rfl

/-- The index map in words: reported positions up to `x` (`j ≤ |pre|`) stay, positions behind `y`
(`j > |pre| + 1`) move by one, and the position of `y` itself (`j = |pre| + 1`) moves by one EXCEPT
when `v = y` and `y` is not the last sample: then `v` takes over as the first sample of the plateau
`v, y` and sits at the old position of `y`. -/
theorem insert_index_map (pre post : List Int) (v y : Int) (j : Nat) :
    (j ≤ pre.length → bumpN (insPos pre v y post) j = j) ∧
    (pre.length + 1 < j → bumpN (insPos pre v y post) j = j + 1) ∧
    (j = pre.length + 1 → bumpN (insPos pre v y post) j = if v = y ∧ post ≠ [] then j else j + 1) := by
  unfold bumpN insPos
  refine ⟨fun h => ?_, fun h => ?_, fun h => ?_⟩ <;> split_ifs <;> omega

theorem fpCanon_insert (pre post : List Int) (x y v : Int)
    (hv : (x ≤ v ∧ v ≤ y) ∨ (y ≤ v ∧ v ≤ x)) (ch ch' : List Nat) :
    (fpCanon (pre ++ x :: v :: y :: post) ch').cycles =
        (fpCanon (pre ++ x :: y :: post) ch).cycles.map (mapC (bump (insPos pre v y post))) ∧
      residualPts (fpCanon (pre ++ x :: v :: y :: post) ch') =
        (residualPts (fpCanon (pre ++ x :: y :: post) ch)).map (bump (insPos pre v y post)) := by
  have e1 : pre ++ x :: v :: y :: post = (pre ++ [x, v]) ++ y :: post := by simp
  have e2 : pre ++ x :: y :: post = (pre ++ [x]) ++ y :: post := by simp
  obtain ⟨h1, h2, h3⟩ := fpCanon_map (bump (insPos pre v y post)) id (fun a b c d => Iff.rfl) (fun _ => rfl)
    (pre ++ x :: y :: post) (pre ++ x :: v :: y :: post) ch ch'
    (by
      have hz := (insert_index_map pre post v y 0).1 (Nat.zero_le _)
      cases pre <;> simp [bump, hz])
    (findTurns_insert_nonreversal_index pre post x y v hv)
    (by rw [e1, e2, List.getLast?_append_cons, List.getLast?_append_cons]; simp)
  refine ⟨h1, ?_⟩
  -- the last sample sits at `y` (if `post = []`) or behind it: its position moves by one
  have hj : bumpN (insPos pre v y post) ((pre ++ x :: y :: post).length - 1) =
      (pre ++ x :: v :: y :: post).length - 1 := by
    obtain ⟨_, k2, k3⟩ := insert_index_map pre post v y ((pre ++ x :: y :: post).length - 1)
    cases post with
    | nil => rw [k3 (by simp)]; simp
    | cons w post' => rw [k2 (by simp)]; simp +arith
  rw [residualPts_fpCanon, residualPts_fpCanon, h2, h3]
  cases (fpCanon (pre ++ x :: y :: post) ch).last with
  | none => rfl
  | some l =>
    simp only [Option.map_some, id, List.map_append, List.map_reverse, List.map_cons, List.map_nil, bump, hj]

/-- **The four-point closing rule looks at values only.**  Feeding two point lists with pairwise
equal values and arbitrary indices (`R p q → p.2 = q.2`) into two stacks that correspond in the same
way yields cycle lists and stacks that correspond point by point. -/
theorem fpFeed_values_only (R : Pt → Pt → Prop) (hR : ∀ p q, R p q → p.2 = q.2)
    (ps ps' st st' : List Pt) (hps : List.Forall₂ R ps ps') (hst : List.Forall₂ R st st') :
    List.Forall₂ (fun c c' => R c.1 c'.1 ∧ R c.2 c'.2) (fpFeed st ps).1 (fpFeed st' ps').1 ∧
      List.Forall₂ R (fpFeed st ps).2 (fpFeed st' ps').2 :=
  fpFeed_rel R (fun p q h => hR p q h ▸ respects_of_val R hR p.2) ps ps' hps st st' hst

/-- **Refinement insensitivity of the four-point detector.**  For `s = pre ++ x :: y :: post` and
`s' = pre ++ x :: v :: y :: post` with `v` weakly between `x` and `y`, and for arbitrary chunkings
`cs` of `s` and `cs'` of `s'`: the cycles (in order) and the residual points (incl. last sample) of
the run on `s'` are those of the run on `s` with every point `(i, value)` replaced by
`(bumpN (insPos pre v y post) i, value)`. -/
theorem fourPoint_insert_nonreversal_chunked (pre post : List Int) (x y v : Int)
    (hv : (x ≤ v ∧ v ≤ y) ∨ (y ≤ v ∧ v ≤ x)) (cs cs' : List (List Int))
    (hcs : cs.flatten = pre ++ x :: y :: post) (hcs' : cs'.flatten = pre ++ x :: v :: y :: post)
    (hne : ∀ c ∈ cs, c ≠ []) (hne' : ∀ c ∈ cs', c ≠ []) :
    (fpRun cs').cycles = (fpRun cs).cycles.map (mapC (bump (insPos pre v y post))) ∧
      residualPts (fpRun cs') = (residualPts (fpRun cs)).map (bump (insPos pre v y post)) := by
  rw [fpRun_eq cs hne, fpRun_eq cs' hne', hcs, hcs']
  exact fpCanon_insert pre post x y v hv _ _

/-- one-piece form -/
theorem fourPoint_insert_nonreversal (pre post : List Int) (x y v : Int)
    (hv : (x ≤ v ∧ v ≤ y) ∨ (y ≤ v ∧ v ≤ x)) :
    (fpRun [pre ++ x :: v :: y :: post]).cycles =
        (fpRun [pre ++ x :: y :: post]).cycles.map (mapC (bump (insPos pre v y post))) ∧
      residualPts (fpRun [pre ++ x :: v :: y :: post]) =
        (residualPts (fpRun [pre ++ x :: y :: post])).map (bump (insPos pre v y post)) := by
  rw [fpRun_singleton _ (by simp), fpRun_singleton _ (by simp)]
  exact fpCanon_insert pre post x y v hv _ _

/-- value form: same cycle values (from, to) in the same order, same `residuals` -/
theorem fourPoint_insert_nonreversal_values (pre post : List Int) (x y v : Int)
    (hv : (x ≤ v ∧ v ≤ y) ∨ (y ≤ v ∧ v ≤ x)) (cs cs' : List (List Int))
    (hcs : cs.flatten = pre ++ x :: y :: post) (hcs' : cs'.flatten = pre ++ x :: v :: y :: post)
    (hne : ∀ c ∈ cs, c ≠ []) (hne' : ∀ c ∈ cs', c ≠ []) :
    (fpRun cs').cycles.map (fun c => (c.1.2, c.2.2)) = (fpRun cs).cycles.map (fun c => (c.1.2, c.2.2)) ∧
      (fpRun cs').residuals = (fpRun cs).residuals := by
  obtain ⟨h1, h2⟩ := fourPoint_insert_nonreversal_chunked pre post x y v hv cs cs' hcs hcs' hne hne'
  rw [residuals_eq_map, residuals_eq_map, h1, h2]
  simp [mapC, bump, Function.comp_def]

theorem threePoint_insert_nonreversal_chunked (pre post : List Int) (x y v : Int)
    (hv : (x ≤ v ∧ v ≤ y) ∨ (y ≤ v ∧ v ≤ x)) (cs cs' : List (List Int))
    (hcs : cs.flatten = pre ++ x :: y :: post) (hcs' : cs'.flatten = pre ++ x :: v :: y :: post)
    (hne : ∀ c ∈ cs, c ≠ []) (hne' : ∀ c ∈ cs', c ≠ []) :
    (tpRun cs').cycles = (tpRun cs).cycles.map (mapC (bump (insPos pre v y post))) ∧
      residualPts (tpRun cs') = (residualPts (tpRun cs)).map (bump (insPos pre v y post)) := by
  rw [tpRun_eq_fpRun, tpRun_eq_fpRun]
  exact fourPoint_insert_nonreversal_chunked pre post x y v hv cs cs' hcs hcs' hne hne'

theorem threePoint_insert_nonreversal (pre post : List Int) (x y v : Int)
    (hv : (x ≤ v ∧ v ≤ y) ∨ (y ≤ v ∧ v ≤ x)) :
    (tpRun [pre ++ x :: v :: y :: post]).cycles =
        (tpRun [pre ++ x :: y :: post]).cycles.map (mapC (bump (insPos pre v y post))) ∧
      residualPts (tpRun [pre ++ x :: v :: y :: post]) =
        (residualPts (tpRun [pre ++ x :: y :: post])).map (bump (insPos pre v y post)) := by
  rw [tpRun_eq_fpRun, tpRun_eq_fpRun]
  exact fourPoint_insert_nonreversal pre post x y v hv

/-- **Refinement insensitivity of the FKM detector** (it reports values only): closed cycles,
residuals, `ir` and the running maximum do not change, for arbitrary chunkings of both signals. -/
theorem fkm_insert_nonreversal_chunked (pre post : List Int) (x y v : Int)
    (hv : (x ≤ v ∧ v ≤ y) ∨ (y ≤ v ∧ v ≤ x)) (cs cs' : List (List Int))
    (hcs : cs.flatten = pre ++ x :: y :: post) (hcs' : cs'.flatten = pre ++ x :: v :: y :: post)
    (hne : ∀ c ∈ cs, c ≠ []) (hne' : ∀ c ∈ cs', c ≠ []) :
    (fkmRun cs').cycles = (fkmRun cs).cycles ∧ (fkmRun cs').res = (fkmRun cs).res ∧
      (fkmRun cs').ir = (fkmRun cs).ir ∧ (fkmRun cs').maxTurn = (fkmRun cs).maxTurn := by
  rw [fkmRun_canon, fkmRun_canon, hcs, hcs', findTurns_insert_nonreversal pre post x y v hv]
  exact ⟨rfl, rfl, rfl, rfl⟩

theorem fkm_insert_nonreversal (pre post : List Int) (x y v : Int)
    (hv : (x ≤ v ∧ v ≤ y) ∨ (y ≤ v ∧ v ≤ x)) :
    (fkmRun [pre ++ x :: v :: y :: post]).cycles = (fkmRun [pre ++ x :: y :: post]).cycles ∧
      (fkmRun [pre ++ x :: v :: y :: post]).res = (fkmRun [pre ++ x :: y :: post]).res ∧
      (fkmRun [pre ++ x :: v :: y :: post]).ir = (fkmRun [pre ++ x :: y :: post]).ir ∧
      (fkmRun [pre ++ x :: v :: y :: post]).maxTurn = (fkmRun [pre ++ x :: y :: post]).maxTurn :=
  fkm_insert_nonreversal_chunked pre post x y v hv _ _ (by simp) (by simp) (by simp) (by simp)

/-- **The scan equals the numpy formulation.**  `findTurnsNumpy` is the literal transcription of
`find_turns` (`Model/Rainflow/Turns.lean`: peak turns by the product of the signs of neighbouring
differences, plateau turns by matching the start and end edges of the zero-difference pattern with the
`cut_ends` / `cut_starts` rules); it reports exactly the points of the scan `findTurns`, on every signal. -/
theorem findTurns_eq_numpy (s : List Int) : findTurns s = findTurnsNumpy s := by
  rw [findTurns_eq_revList, Numpy.findTurnsNumpy_eq_revList]

/-- the numpy formulation computes the declarative reversals -/
theorem findTurnsNumpy_eq_reversals (s : List Int) : findTurnsNumpy s = Spec.reversals s := by
  rw [← findTurns_eq_numpy, findTurns_eq_reversals]

end C03

/-! ## Non-vacuity / sanity -/

-- numpy formulation: leading plateau (`cut_ends`), plateau turn, plateau without turn, peak turns, trailing plateau
-- (`cut_starts`)
example : findTurnsNumpy [1, 1, 3, 3, 2, 2, 0, 4, 1, 1] = [(2, 3), (6, 0), (7, 4)] := by decide +kernel
example : findTurns [1, 1, 3, 3, 2, 2, 0, 4, 1, 1] = [(2, 3), (6, 0), (7, 4)] := by decide

-- C01: the cycle end point (4, 2) lies in chunk 1 at position 1, the last sample (7, 4) in chunk 2 at 2
example := C01.recorder_chunk_local_index_addresses_sample [[0, 3, 3], [1, 2], [2, -1, 4]]
  (by decide) (by decide)
example : (fpRun [[0, 3, 3], [1, 2], [2, -1, 4]]).chunks = [3, 2, 3] := by decide +kernel
example : chunkLocalIndex [3, 2, 3] 4 = (1, 1) ∧ chunkLocalIndex [3, 2, 3] 7 = (2, 2) := by decide
-- one-sample signal
example := C01.recorder_chunk_local_index_addresses_sample [[5]] (by decide) (by decide)

example := C02.fourPoint_eq_spec_chunked [0, 5, 5, 2, 4, 4, 1, 6, 6, 0] [[0, 5, 5, 2], [4, 4, 1, 6], [6, 0]]
  (by decide) (by decide) (by decide)
example := C02.fkm_eq_spec_chunked [3, -3, 3, -2, 4, -4, 5] [[3, -3], [3, -2, 4], [-4, 5]]
  (by decide) (by decide)

-- C03: the exception is real: `v = y = 2` takes over as first sample of the plateau; the reversal
-- stays at index 1 although it lies behind the insertion point
example : findTurns ([] ++ 0 :: 2 :: 1 :: []) = [(1, 2)] ∧
    findTurns ([] ++ 0 :: 2 :: 2 :: 1 :: []) = [(1, 2)] ∧ RainflowCor.insPos [] 2 2 [1] = 2 := by decide
-- ordinary case: strictly between, indices behind the insertion point move
example : findTurns ([0] ++ 3 :: 1 :: [2]) = [(1, 3), (2, 1)] ∧
    findTurns ([0] ++ 3 :: 2 :: 1 :: [2]) = [(1, 3), (3, 1)] ∧ RainflowCor.insPos [0] 2 1 [2] = 2 := by decide
example := C03.fourPoint_insert_nonreversal [0, 5] [4, 1, 6, 0] 2 4 4 (by decide)
example : (fpRun [[0, 5] ++ 2 :: 4 :: [4, 1, 6, 0]]).cycles = [((2, 2), (3, 4)), ((1, 5), (5, 1))] := by
  decide +kernel
example : (fpRun [[0, 5] ++ 2 :: 4 :: 4 :: [4, 1, 6, 0]]).cycles = [((2, 2), (3, 4)), ((1, 5), (6, 1))] := by
  decide +kernel

end PylifeVerif

section AxiomCheck
open PylifeVerif
#print axioms C01.recorder_chunk_local_index_addresses_sample
#print axioms C01.recorder_chunk_local_index_addresses_sample_threePoint
#print axioms C01.fourPoint_index_valid_chunked
#print axioms C02.fourPoint_eq_spec_chunked
#print axioms C02.threePoint_eq_spec_chunked
#print axioms C02.fkm_eq_spec_chunked
#print axioms C02.fourPoint_partition_chunked
#print axioms C02.fkm_partition_chunked
#print axioms C03.findTurns_insert_nonreversal_index
#print axioms C03.findTurns_insert_nonreversal
#print axioms C03.insert_index_map
#print axioms C03.fpFeed_values_only
#print axioms C03.fourPoint_insert_nonreversal_chunked
#print axioms C03.fourPoint_insert_nonreversal
#print axioms C03.fourPoint_insert_nonreversal_values
#print axioms C03.threePoint_insert_nonreversal_chunked
#print axioms C03.threePoint_insert_nonreversal
#print axioms C03.fkm_insert_nonreversal_chunked
#print axioms C03.fkm_insert_nonreversal
#print axioms C03.findTurns_eq_numpy
#print axioms C03.findTurnsNumpy_eq_reversals
end AxiomCheck
