/-
C06, Seeger-Beste — the mathematical equation 2.8-42 on the OPEN bracket `L/K_p < σ < L`.

`Proofs/C06.lean` proves for the Seeger-Beste law only the symmetry, the Masing reduction and that inside the open
bracket no `np.divide` fall-back is taken (`seegerBeste_domain_partial`, `seegerBeste_root_iff_partial`).  This file proves
the rest: bracket (as one-sided limits), existence, strict monotonicity, uniqueness, monotone dependence on
the load and the backward function as the inverse, for

    G(σ, L) = sbG m σ L = ε(σ) − _middle_term(σ, L) · _neuber_strain(σ, L)

(`sbStressImplicit m σ L = 0 ↔ sbG m σ L = 0` on the open bracket, `seegerBeste_root_iff_G`) and for the coded quotient form
`sbStressImplicit` itself.  Hypotheses: `Mat.Adm` (`E, K' > 0`, `0 < n' < 1`, `K_p ≥ 1`) and `K_p > 1` (for `K_p = 1` the
`u`-term divides by zero), load `L > 0` (negative loads by the symmetry, `seegerBeste_exists_unique_root_neg`).

What is NOT claimed: anything about the END POINTS `σ = L/K_p`, `σ = L` (there the code evaluates fall-back values:
`u = 0` gives the middle term `0`, not its limit `1` (`middleTerm_self`); `cos(π/2) = 0` gives `ln 1`) and about stresses OUTSIDE the bracket:
uniqueness is uniqueness within `(L/K_p, L)`.  (Outside the bracket further positive roots are not excluded: for
`K_p < 2` the `u`-term reaches `−π/2` at `σ = L/(2 − K_p) > L`, where `ln(1/cos u)` is unbounded again.)  What the
code's bisection `_root_in_bracket` returns is not a subject here; its halving loop is `Proofs/C06Solver.lean`.

The analysis behind it (`φ(u) = 2/u²·ln(1/cos u)`, `_middle_term · _neuber_strain = K_p·e*(L)·H(σ/L)`, monotonicity and
one-sided limits of `G`) is `Proofs/Lemmas/NotchSBAnalysis.lean`; the `seegerBeste_middle_*` theorems at the start restate
its facts about `φ` with the formula written out.  The secondary branch at the end is the primary law of the material `m.masing`.
-/
import Proofs.C06

namespace PylifeVerif.C06
open PylifeVerif.Notch Filter Topology Set

variable {m : Mat ℝ}

/-- **`lim_{u→0⁺} 2/u² · ln(1/cos u) = 1`.** -/
theorem seegerBeste_middle_limit :
    Tendsto (fun u : ℝ => 2 / (u * u) * Real.log (1 / Real.cos u)) (𝓝[>] 0) (𝓝 1) :=
  sbPhi_tendsto_one

/-- bounds behind the limit and the monotonicity: on `0 < u < π/2`
`1 ≤ 2/u²·ln(1/cos u) ≤ 1/cos u`, and the function is non-decreasing there. -/
theorem seegerBeste_middle_bounds :
    (∀ u : ℝ, 0 < u → u < Real.pi / 2 →
      1 ≤ 2 / (u * u) * Real.log (1 / Real.cos u) ∧ 2 / (u * u) * Real.log (1 / Real.cos u) ≤ 1 / Real.cos u) ∧
    MonotoneOn (fun u : ℝ => 2 / (u * u) * Real.log (1 / Real.cos u)) (Ioo 0 (Real.pi / 2)) :=
  ⟨fun _ h0 h1 => ⟨one_le_sbPhi ⟨h0, h1⟩, sbPhi_le_inv_cos ⟨h0, h1⟩⟩, sbPhi_monotoneOn⟩

theorem seegerBeste_middle_limit_top :
    Tendsto (fun u : ℝ => 2 / (u * u) * Real.log (1 / Real.cos u)) (𝓝[<] (Real.pi / 2)) atTop :=
  sbPhi_tendsto_atTop

theorem seegerBeste_root_iff_G (h : m.Adm) (hKp : 1 < m.Kp) {s L : ℝ} (hL : 0 < L) (hs : s ∈ Ioo (L / m.Kp) L) :
    sbStressImplicit m s L = 0 ↔ sbG m s L = 0 := by
  rw [(seegerBeste_root_iff_partial h hKp hL hs.1 hs.2).2.2.2, sbG, sub_eq_zero]

theorem seegerBeste_pos_iff_G (h : m.Adm) (hKp : 1 < m.Kp) {s L : ℝ} (hL : 0 < L) (hs : s ∈ Ioo (L / m.Kp) L) :
    0 < sbStressImplicit m s L ↔ 0 < sbG m s L := by
  obtain ⟨hM, hN, _, _⟩ := seegerBeste_root_iff_partial h hKp hL hs.1 hs.2
  rw [sbStressImplicit_eq, sbG, sub_pos, one_lt_div (mul_pos hM hN), sub_pos]

/-- **Bracket (one-sided limits).**  `G(σ, L) → −∞` for `σ → (L/K_p)⁺`, `G(σ, L) → ε(L) − K_p·e*(L) > 0` for
`σ → L⁻`; hence there are `σ₁, σ₂` in the open bracket with `G(σ₁) < 0 < G(σ₂)`. -/
theorem seegerBeste_bracket (h : m.Adm) (hKp : 1 < m.Kp) {L : ℝ} (hL : 0 < L) :
    Tendsto (fun s => sbG m s L) (𝓝[>] (L / m.Kp)) atBot ∧
    Tendsto (fun s => sbG m s L) (𝓝[<] L) (𝓝 (roStrain m L - m.Kp * eStar m L)) ∧
    0 < roStrain m L - m.Kp * eStar m L ∧
    ∃ s₁ ∈ Ioo (L / m.Kp) L, ∃ s₂ ∈ Ioo (L / m.Kp) L, sbG m s₁ L < 0 ∧ 0 < sbG m s₂ L :=
  ⟨sbG_tendsto_atBot_stress h hKp hL, sbG_tendsto_stress h hKp hL, sub_pos.mpr (kp_mul_eStar_lt h hKp hL),
    (sbG_exists_root_stress h hKp hL).1⟩

/-- **Bracket of the coded quotient form**: `sbStressImplicit(σ, L) → −1` for `σ → (L/K_p)⁺` and
`→ ε(L)/(K_p·e*(L)) − 1 > 0` for `σ → L⁻` (the values AT the end points are fall-back values and differ). -/
theorem seegerBeste_bracket_quotient (h : m.Adm) (hKp : 1 < m.Kp) {L : ℝ} (hL : 0 < L) :
    Tendsto (fun s => sbStressImplicit m s L) (𝓝[>] (L / m.Kp)) (𝓝 (-1)) ∧
    Tendsto (fun s => sbStressImplicit m s L) (𝓝[<] L) (𝓝 (roStrain m L / (m.Kp * eStar m L) - 1)) ∧
    0 < roStrain m L / (m.Kp * eStar m L) - 1 := by
  have hc : 0 < m.Kp * eStar m L := mul_pos h.Kp_pos (eStar_pos h hL)
  obtain ⟨hlo, hhi, _, _⟩ := seegerBeste_bracket h hKp hL
  have hε : ∀ {x : ℝ} {S : Set ℝ}, Tendsto (roStrain m) (𝓝[S] x) (𝓝 (roStrain m x)) := fun {_ _} =>
    (roStrain_continuous h).continuousWithinAt.tendsto
  -- the quotient is `ε/(ε − G) − 1`, and `G → −∞` resp. `G → ε(L) − K_p·e*(L)` at the two ends
  simp only [sbStressImplicit_eq_sbG]
  refine ⟨?_, ?_, ?_⟩
  · have hD : Tendsto (fun s => roStrain m s - sbG m s L) (𝓝[>] (L / m.Kp)) atTop :=
      (hε.add_atTop (tendsto_neg_atBot_atTop.comp hlo)).congr fun s => (sub_eq_add_neg _ _).symm
    have := (hε.div_atTop hD).sub_const 1
    rwa [zero_sub] at this
  · have := (hε.div (hε.sub hhi) (by rw [sub_sub_cancel]; exact hc.ne')).sub_const 1
    rwa [sub_sub_cancel] at this
  · rw [sub_pos, lt_div_iff₀ hc, one_mul]
    exact kp_mul_eStar_lt h hKp hL

/-- **A root exists in the open bracket** (continuity of `G(·, L)` on `(L/K_p, L)` + intermediate value theorem). -/
theorem seegerBeste_exists_root (h : m.Adm) (hKp : 1 < m.Kp) {L : ℝ} (hL : 0 < L) :
    ContinuousOn (fun s => sbG m s L) (Ioo (L / m.Kp) L) ∧
    ∃ s, L / m.Kp < s ∧ s < L ∧ sbG m s L = 0 ∧ sbStressImplicit m s L = 0 := by
  obtain ⟨s, hs, hroot⟩ := (sbG_exists_root_stress h hKp hL).2
  exact ⟨sbG_continuousOn_stress h hKp hL, s, hs.1, hs.2, hroot, (seegerBeste_root_iff_G h hKp hL hs).mpr hroot⟩

/-- **Strictly increasing in the stress on the open bracket**: `G(·, L)` and the coded quotient form. -/
theorem seegerBeste_strictMono_in_stress (h : m.Adm) (hKp : 1 < m.Kp) {L : ℝ} (hL : 0 < L) :
    StrictMonoOn (fun s => sbG m s L) (Ioo (L / m.Kp) L) ∧
    StrictMonoOn (fun s => sbStressImplicit m s L) (Ioo (L / m.Kp) L) := by
  refine ⟨sbG_strictMonoOn_stress h hKp hL, ?_⟩
  intro a ha b hb hab
  have hb0 : 0 < b := (div_pos hL h.Kp_pos).trans hb.1
  have hc := mul_pos h.Kp_pos (eStar_pos h hL)
  have hrb := (stress_ratio_mem_iff hL).mp hb
  show sbStressImplicit m a L < sbStressImplicit m b L
  -- `ε(σ) / (K_p·e*(L)·H(σ/L)) − 1`: the numerator grows, the positive denominator falls
  rw [sbStressImplicit_eq, sbStressImplicit_eq, sb_product_eq hKp hL ha, sb_product_eq hKp hL hb]
  have hH := sbH_strictAntiOn hKp ((stress_ratio_mem_iff hL).mp ha) hrb (div_lt_div_of_pos_right hab hL)
  exact sub_lt_sub_right (div_lt_div₀ (roStrain_strictMono h hab) (mul_le_mul_of_nonneg_left hH.le hc.le)
    (roStrain_pos h hb0).le (mul_pos hc (sbH_pos hKp hrb))) 1

/-- **Existence and uniqueness of the Seeger-Beste root in the open bracket** `(L/K_p, L)`. -/
theorem seegerBeste_exists_unique_root (h : m.Adm) (hKp : 1 < m.Kp) {L : ℝ} (hL : 0 < L) :
    ∃ s, L / m.Kp < s ∧ s < L ∧ sbStressImplicit m s L = 0 ∧
      ∀ s', L / m.Kp < s' → s' < L → sbStressImplicit m s' L = 0 → s' = s := by
  obtain ⟨_, s, hs1, hs2, _, hroot⟩ := seegerBeste_exists_root h hKp hL
  refine ⟨s, hs1, hs2, hroot, fun s' h1 h2 hroot' => ?_⟩
  exact (seegerBeste_strictMono_in_stress h hKp hL).2.injOn ⟨h1, h2⟩ ⟨hs1, hs2⟩ (hroot'.trans hroot.symm)

/-- negative loads by the symmetry: for `L < 0` exactly one root in `(L, L/K_p)` -/
theorem seegerBeste_exists_unique_root_neg (h : m.Adm) (hKp : 1 < m.Kp) {L : ℝ} (hL : L < 0) :
    ∃ s, L < s ∧ s < L / m.Kp ∧ sbStressImplicit m s L = 0 ∧
      ∀ s', L < s' → s' < L / m.Kp → sbStressImplicit m s' L = 0 → s' = s := by
  obtain ⟨s, hs1, hs2, hroot, huniq⟩ := seegerBeste_exists_unique_root h hKp (neg_pos.mpr hL)
  rw [neg_div] at hs1 huniq
  refine ⟨-s, lt_neg.mp hs2, neg_lt.mp hs1, ?_, fun s' h1 h2 hr => ?_⟩
  · rw [← seegerBeste_root_odd m s (-L)] at hroot
    rwa [neg_neg] at hroot
  · have hr' : sbStressImplicit m (-s') (-L) = 0 := by rw [seegerBeste_root_odd]; exact hr
    exact neg_eq_iff_eq_neg.mp (huniq (-s') (neg_lt_neg h2) (neg_lt_neg h1) hr')

/-- **The root is strictly increasing in the load** (roots taken in their open brackets). -/
theorem seegerBeste_root_strictMono_in_load (h : m.Adm) (hKp : 1 < m.Kp) {L₁ L₂ s₁ s₂ : ℝ}
    (hL₁ : 0 < L₁) (hL : L₁ < L₂)
    (h11 : L₁ / m.Kp < s₁) (h12 : s₁ < L₁) (h21 : L₂ / m.Kp < s₂) (h22 : s₂ < L₂)
    (hr₁ : sbStressImplicit m s₁ L₁ = 0) (hr₂ : sbStressImplicit m s₂ L₂ = 0) : s₁ < s₂ := by
  rw [seegerBeste_root_iff_G h hKp hL₁ ⟨h11, h12⟩] at hr₁
  rw [seegerBeste_root_iff_G h hKp (hL₁.trans hL) ⟨h21, h22⟩] at hr₂
  exact root_lt_root (F := sbG m) (fun hle => sbG_lt h hKp hL₁ ⟨h21, h22⟩ ⟨h11, h12⟩ hle hL.le (Or.inr hL)) hr₁ hr₂

/-- **The backward function is the inverse.**  `_load_implicit(L, σ)` is the same function read in `L`.  For `σ > 0`,
`L ↦ G(σ, L)` is continuous and strictly decreasing on `(σ, K_p·σ)` (which is `L/K_p < σ < L`), tends to
`ε(σ) − K_p·e*(σ) > 0` at `σ⁺` and to `−∞` at `(K_p·σ)⁻`: exactly one load in `(σ, K_p·σ)` has `σ` as its root.  With
`seegerBeste_exists_unique_root`: `load(stress(L)) = L` and `stress(load(σ)) = σ` (roots within the brackets). -/
theorem seegerBeste_load_inverse (h : m.Adm) (hKp : 1 < m.Kp) {s : ℝ} (hs : 0 < s) :
    StrictAntiOn (fun L => sbG m s L) (Ioo s (m.Kp * s)) ∧
    Tendsto (fun L => sbG m s L) (𝓝[>] s) (𝓝 (roStrain m s - m.Kp * eStar m s)) ∧
    0 < roStrain m s - m.Kp * eStar m s ∧
    Tendsto (fun L => sbG m s L) (𝓝[<] (m.Kp * s)) atBot ∧
    (∃ L, s < L ∧ L < m.Kp * s ∧ sbStressImplicit m s L = 0) ∧
    (∀ L L', s < L → L < m.Kp * s → s < L' → L' < m.Kp * s →
      sbStressImplicit m s L = 0 → sbStressImplicit m s L' = 0 → L' = L) := by
  have hanti := sbG_strictAntiOn_load h hKp hs
  have hiff : ∀ L, s < L → L < m.Kp * s → (sbStressImplicit m s L = 0 ↔ sbG m s L = 0) := fun L h1 h2 =>
    seegerBeste_root_iff_G h hKp (lt_trans hs h1) ((load_mem_iff hKp).mp ⟨h1, h2⟩)
  refine ⟨hanti, sbG_tendsto_load h hKp hs, sub_pos.mpr (kp_mul_eStar_lt h hKp hs), sbG_tendsto_atBot_load h hKp hs, ?_, ?_⟩
  · obtain ⟨L, hL, hroot⟩ := sbG_exists_root_load h hKp hs
    exact ⟨L, hL.1, hL.2, (hiff L hL.1 hL.2).mpr hroot⟩
  · intro L L' h1 h2 h1' h2' hr hr'
    rw [hiff L h1 h2] at hr
    rw [hiff L' h1' h2'] at hr'
    exact hanti.injOn ⟨h1', h2'⟩ ⟨h1, h2⟩ (hr'.trans hr.symm)

theorem seegerBeste_secondary_exists_unique_root (h : m.Adm) (hKp : 1 < m.Kp) {dL : ℝ} (hL : 0 < dL) :
    ∃ ds, dL / m.Kp < ds ∧ ds < dL ∧ sbStressSecImplicit m ds dL = 0 ∧
      ∀ ds', dL / m.Kp < ds' → ds' < dL → sbStressSecImplicit m ds' dL = 0 → ds' = ds := by
  rw [sbStressSecImplicit_eq_masing h]
  exact seegerBeste_exists_unique_root h.masing hKp hL

theorem seegerBeste_secondary_root_strictMono_in_load (h : m.Adm) (hKp : 1 < m.Kp) {dL₁ dL₂ ds₁ ds₂ : ℝ}
    (hL₁ : 0 < dL₁) (hL : dL₁ < dL₂)
    (h11 : dL₁ / m.Kp < ds₁) (h12 : ds₁ < dL₁) (h21 : dL₂ / m.Kp < ds₂) (h22 : ds₂ < dL₂)
    (hr₁ : sbStressSecImplicit m ds₁ dL₁ = 0) (hr₂ : sbStressSecImplicit m ds₂ dL₂ = 0) : ds₁ < ds₂ := by
  rw [sbStressSecImplicit_eq_masing h] at hr₁ hr₂
  exact seegerBeste_root_strictMono_in_load h.masing hKp hL₁ hL h11 h12 h21 h22 hr₁ hr₂

theorem seegerBeste_secondary_load_inverse (h : m.Adm) (hKp : 1 < m.Kp) {ds : ℝ} (hs : 0 < ds) :
    (∃ dL, ds < dL ∧ dL < m.Kp * ds ∧ sbStressSecImplicit m ds dL = 0) ∧
    (∀ dL dL', ds < dL → dL < m.Kp * ds → ds < dL' → dL' < m.Kp * ds →
      sbStressSecImplicit m ds dL = 0 → sbStressSecImplicit m ds dL' = 0 → dL' = dL) := by
  rw [sbStressSecImplicit_eq_masing h]
  exact (seegerBeste_load_inverse h.masing hKp hs).2.2.2.2

example : (⟨206000, 1184, 0.187, 3.5⟩ : Mat ℝ).Adm ∧ (1 : ℝ) < (⟨206000, 1184, 0.187, 3.5⟩ : Mat ℝ).Kp ∧
    (0 : ℝ) < 400 := by
  refine ⟨exAdm, by norm_num, by norm_num⟩

/-- the theorems instantiated at a concrete material and load -/
example : ∃ s : ℝ, 400 / 3.5 < s ∧ s < 400 ∧
    sbStressImplicit (⟨206000, 1184, 0.187, 3.5⟩ : Mat ℝ) s 400 = 0 := by
  obtain ⟨s, h1, h2, hr, _⟩ := seegerBeste_exists_unique_root exAdm (by norm_num) (by norm_num : (0 : ℝ) < 400)
  exact ⟨s, h1, h2, hr⟩

end PylifeVerif.C06
