/-
C04 for THE CODE (`twoPass`): a non-reversal sample PREPENDED to a one-point load sequence changes
nothing that is recorded.  The sample has to be no reversal in both contexts in which the detector
sees it: behind the initial load 0 of the first pass and behind the last sample at the junction of
the repetition.  An instance of `passes_prepend` (`Proofs/Lemmas/HCMPasses.lean`), which holds for
every first-run flush policy that does not see the inserted sample, with the code's flag `flushC`.
-/
import Proofs.Lemmas.HCMPasses

namespace PylifeVerif
open HCM Rainflow
namespace C04
open HCM.Insert

/-- A sample prepended to the sequence that lies between the initial load 0 and the first sample and also between the
last and the first sample (no reversal of the first pass, which starts at load 0, nor of the repeated sequence)
changes nothing that is recorded. -/
theorem hcm_prepend_nonreversal_code (law : Law) (s : List Int) (a z v : Int)
    (hs : s.head? = some a) (hz : s.getLast? = some z)
    (h0 : (0 ≤ v ∧ v ≤ a) ∨ (a ≤ v ∧ v ≤ 0))
    (hl : (z ≤ v ∧ v ≤ a) ∨ (a ≤ v ∧ v ≤ z)) :
    (twoPass law (one (v :: s))).recs = (twoPass law (one s)).recs := by
  have hne : s ≠ [] := List.ne_nil_of_mem (List.mem_of_getLast? hz)
  rw [(twoPass_one_eq law _ (by simp)).2, (twoPass_one_eq law s hne).2]
  exact passes_prepend law flushC (flag_ins [0]) (fun t v h0 hz => flushC_prepend t v h0 hz.ne_nil)
    s a z v hs hz h0 hl

end C04

/-! ### non-vacuity / sanity instances -/

-- `v = 100` strictly between the initial load 0 and the first sample 200, and between the last sample 50 and 200
example : (twoPass lawSat (C04.one (100 :: [200, -100, 300, 50]))).recs =
    (twoPass lawSat (C04.one [200, -100, 300, 50])).recs :=
  C04.hcm_prepend_nonreversal_code lawSat [200, -100, 300, 50] 200 50 100 rfl rfl (by decide) (by decide)
-- (`v` is not a repetition of the first sample, which the hypotheses would allow)
example : (100 : Int) ≠ 200 := by decide
example : (twoPass lawLinear (C04.one (100 :: [200, -100, 300, 50]))).recs ≠ [] := by decide +kernel
-- downward variant with `v = 0` (a repetition of the initial load) and a last sample above `v`
example : (twoPass lawSat (C04.one (0 :: [-200, 100, -300, 50]))).recs =
    (twoPass lawSat (C04.one [-200, 100, -300, 50])).recs :=
  C04.hcm_prepend_nonreversal_code lawSat [-200, 100, -300, 50] (-200) 50 0 rfl rfl (by decide) (by decide)
example : (twoPass lawLinear (C04.one (0 :: [-200, 100, -300, 50]))).recs ≠ [] := by decide +kernel

end PylifeVerif

#print axioms PylifeVerif.C04.hcm_prepend_nonreversal_code
