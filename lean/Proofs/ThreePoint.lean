/-
C01, C02, C03 for the three-point rainflow detector model (`tpRun`).  Everything here is a one-step
consequence of `ThreePoint.tpRun_eq_fpRun : tpRun cs = fpRun cs` (`Proofs/Lemmas/ThreePoint.lean`: the
three-point model and the four-point model compute the same detector state, cycles even in the same
order, on every list of chunks) and the corresponding theorem about the four-point model.
-/
import Proofs.Lemmas.ThreePoint
import Proofs.C02FourPoint
import Proofs.C03Sym

namespace PylifeVerif
open Rainflow ThreePoint

namespace C01

theorem threePoint_chunk_independent (cs : List (List Int)) (hne : ∀ c ∈ cs, c ≠ []) (h0 : cs ≠ []) :
    let a := tpRun cs; let b := tpRun [cs.flatten]
    a.cycles = b.cycles ∧ a.stack = b.stack ∧ a.last = b.last ∧ a.ts = b.ts ∧
      a.residuals = b.residuals ∧ a.residualIndex = b.residualIndex ∧ a.chunks = cs.map List.length := by
  rw [tpRun_eq_fpRun, tpRun_eq_fpRun]
  exact fourPoint_chunk_independent cs hne h0

/-! Non-vacuity: the cycle `(3,1)-(4,2)` is closed in the third chunk, after the loop has scanned
the stored residual `(0,0), (1,3), (3,1)` again. -/
example := threePoint_chunk_independent [[0, 3, 3], [1, 2], [2, -1, 4]] (by decide) (by decide)
example : (tpRun [[0, 3, 3], [1, 2], [2, -1, 4]]).cycles = [((3, 1), (4, 2))] := by decide +kernel
example : (tpRun [[0, 3, 3, 1, 2, 2, -1, 4]]).cycles = [((3, 1), (4, 2))] := by decide +kernel

end C01

namespace C02

theorem threePoint_same_cycles (s : List Int) (_h : 2 ≤ s.length) :
    (tpRun [s]).cycles.Perm (fpRun [s]).cycles ∧ residualPts (tpRun [s]) = residualPts (fpRun [s]) := by
  rw [tpRun_eq_fpRun]
  exact ⟨List.Perm.refl _, rfl⟩

/-- Stronger form: same cycles in the same order. -/
theorem threePoint_same_cycles_eq (s : List Int) :
    (tpRun [s]).cycles = (fpRun [s]).cycles ∧ residualPts (tpRun [s]) = residualPts (fpRun [s]) := by
  rw [tpRun_eq_fpRun]
  exact ⟨rfl, rfl⟩

/-! Non-vacuity: plateaus, nested cycles, updates of the highest front. -/
example : 2 ≤ ([0, 5, 5, 2, 4, 4, 1, 6, 6, 0] : List Int).length := by decide
example := threePoint_same_cycles [0, 5, 5, 2, 4, 4, 1, 6, 6, 0] (by decide)
example : (tpRun [[0, 5, 5, 2, 4, 4, 1, 6, 6, 0]]).cycles = [((3, 2), (4, 4)), ((1, 5), (6, 1))] := by
  decide +kernel
example : residualPts (tpRun [[0, 5, 5, 2, 4, 4, 1, 6, 6, 0]]) = [(0, 0), (7, 6), (9, 0)] := by
  decide +kernel

/-- cycles and residual of the three-point detector partition the turning points, for every chunking -/
theorem threePoint_partition_chunked (s : List Int) (cs : List (List Int)) (hcs : cs.flatten = s)
    (hne : ∀ c ∈ cs, c ≠ []) (h : 2 ≤ s.length) :
    (((tpRun cs).cycles.flatMap fun c => [c.1, c.2]) ++ residualPts (tpRun cs)).Perm
      (Spec.turningPoints s) := by
  rw [tpRun_eq_fpRun]
  exact hcs ▸ fpRun_partition cs

/-- every global index reported by the three-point detector (cycle end points, residual points incl.
the last sample) addresses the reported value in the concatenated signal, for every chunking -/
theorem threePoint_index_valid_chunked (cs : List (List Int))
    (hne : ∀ c ∈ cs, c ≠ []) (h0 : cs ≠ []) :
    ∀ p ∈ ((tpRun cs).cycles.flatMap fun c => [c.1, c.2]) ++ residualPts (tpRun cs),
      cs.flatten[p.1]? = some p.2 := by
  rw [tpRun_eq_fpRun]
  exact fpRun_index_valid cs

end C02

namespace C03

/-- Three-point detector under `x ↦ a x + b`, `a ≠ 0` (negation: `a = -1`, `b = 0`): all of
`C03.fourPoint_affine`, and `residualIndex`. -/
theorem threePoint_affine_index (cs : List (List Int)) (a b : Int) (ha : a ≠ 0) :
    let f := fun x => a * x + b
    let r := tpRun (cs.map (List.map f)); let r0 := tpRun cs
    r.cycles = r0.cycles.map (mapCycle f) ∧ r.stack = r0.stack.map (mapPt f) ∧ r.last = r0.last.map f ∧
      r.ts.head = r0.ts.head ∧ r.chunks = r0.chunks ∧
      r.residualIndex = r0.residualIndex := by
  intro f r r0
  have hr : r = fpRun (cs.map (List.map f)) := tpRun_eq_fpRun _
  have hr0 : r0 = fpRun cs := tpRun_eq_fpRun _
  obtain ⟨h1, h2, h3, h4, h5⟩ := fourPoint_affine cs a b ha
  rw [show (fun x => a * x + b) = f from rfl] at h1 h2 h3 h4 h5
  rw [hr, hr0]
  refine ⟨h1, h2, h3, h4, h5, ?_⟩
  simp only [DetState.residualIndex, h2, h3, h4]
  cases (fpRun cs).last <;> simp [mapPt, Function.comp_def]

/-- Same definition as `C03.mapPt`. -/
def tpMapPt (f : Int → Int) (p : Pt) : Pt := (p.1, f p.2)

/-- Same definition as `C03.mapCycle`. -/
def tpMapCycle (f : Int → Int) (c : Cycle) : Cycle := (tpMapPt f c.1, tpMapPt f c.2)

/-- `threePoint_affine_index` at `a = -1`, `b = 0`, without `ts.head`, the chunk sizes and `residualIndex` -/
theorem threePoint_neg (cs : List (List Int)) :
    let f := fun (x : Int) => -x
    let r := tpRun (cs.map (List.map f)); let r0 := tpRun cs
    r.cycles = r0.cycles.map (tpMapCycle f) ∧ r.stack = r0.stack.map (tpMapPt f) ∧ r.last = r0.last.map f := by
  intro f r r0
  have hf : (fun x => -1 * x + 0) = f := by funext x; show _ = -x; omega
  obtain ⟨h1, h2, h3, _⟩ := threePoint_affine_index cs (-1) 0 (by decide)
  rw [hf] at h1 h2 h3
  exact ⟨h1, h2, h3⟩

theorem threePoint_affine (cs : List (List Int)) (a b : Int) (ha : 0 < a) :
    let f := fun x => a * x + b
    let r := tpRun (cs.map (List.map f)); let r0 := tpRun cs
    r.cycles = r0.cycles.map (tpMapCycle f) ∧ r.stack = r0.stack.map (tpMapPt f) ∧ r.last = r0.last.map f := by
  intro f r r0
  obtain ⟨h1, h2, h3, _⟩ := threePoint_affine_index cs a b (by omega)
  exact ⟨h1, h2, h3⟩

/-! Non-vacuity / sanity: a chunked signal with plateaus, a nested cycle and updates of the highest front. -/

example : (tpRun [[0, 5, 5, 2], [4, 4, 1, 6], [6, 0]]).cycles = [((3, 2), (4, 4)), ((1, 5), (6, 1))] := by
  decide +kernel

example := threePoint_neg [[0, 5, 5, 2], [4, 4, 1, 6], [6, 0]]
example := threePoint_affine [[0, 5, 5, 2], [4, 4, 1, 6], [6, 0]] 3 (-7) (by decide)

/-- the theorem used on the example: the cycles `(3,2)-(4,4)`, `(1,5)-(6,1)` are mapped -/
example : (tpRun ([[0, 5, 5, 2], [4, 4, 1, 6], [6, 0]].map (List.map fun x => 3 * x + -7))).cycles =
    [((3, -1), (4, 5)), ((1, 8), (6, -4))] := by
  have h := (threePoint_affine [[0, 5, 5, 2], [4, 4, 1, 6], [6, 0]] 3 (-7) (by decide)).1
  have h0 : (tpRun [[0, 5, 5, 2], [4, 4, 1, 6], [6, 0]]).cycles = [((3, 2), (4, 4)), ((1, 5), (6, 1))] := by
    decide +kernel
  rw [h, h0]
  decide

end C03

/-! Non-vacuity of the `_chunked` forms and of `threePoint_affine_index` -/
example := C02.threePoint_partition_chunked [0, 5, 5, 2, 4, 4, 1, 6, 6, 0] [[0, 5, 5, 2], [4, 4, 1, 6], [6, 0]]
  (by decide) (by decide) (by decide)
example := C02.threePoint_index_valid_chunked [[0, 5, 5, 2], [4, 4, 1, 6], [6, 0]] (by decide) (by decide)
example := C03.threePoint_affine_index [[0, 5, 5, 2], [4, 4, 1, 6], [6, 0]] (-3) 7 (by decide)
example : (tpRun [[0, 5, 5, 2], [4, 4, 1, 6], [6, 0]]).residualIndex = [0, 7, 9] := by decide +kernel

end PylifeVerif

section AxiomCheck
open PylifeVerif
#print axioms C01.threePoint_chunk_independent
#print axioms C02.threePoint_same_cycles
#print axioms C02.threePoint_same_cycles_eq
#print axioms C02.threePoint_partition_chunked
#print axioms C02.threePoint_index_valid_chunked
#print axioms C03.threePoint_neg
#print axioms C03.threePoint_affine
#print axioms C03.threePoint_affine_index
#print axioms PylifeVerif.ThreePoint.tpRun_eq_fpRun
end AxiomCheck
