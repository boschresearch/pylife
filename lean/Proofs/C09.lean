/-
C09 — FKM-nonlinear damage curves, damage parameter P_RAM, damage accumulation / lifetime, safety index
and load safety factors.  Theorems about `Model/FkmNonlinear.lean` at the carrier ℝ.

Admissible curve (`PramCurve.Adm`, `PrajCurve.Adm`): what `_validate` of the accessor accepts
(`P_Z > P_D`, negative slopes) plus `P_D > 0`, which the code does not test (a non-positive endurance value
makes `np.power` of a non-positive base return NaN / inf in the finite-life range).
-/
import Proofs.Lemmas.FkmNonlinear

namespace PylifeVerif.C09
open PylifeVerif.FkmNl

/-! ## P_RAM component Wöhler curve -/

/-- `calc_P_RAM` and `calc_N` are mutual inverses: `P(N(P)) = P` for every `P` above the endurance value
(below it `N = ∞` and `P(∞) = P_RAM_D`), and `N(P(N)) = N` for every `0 < N < N_D`. -/
theorem pram_curve_inverse (c : PramCurve ℝ) (h : c.Adm) :
    (∀ P, c.PD < P → pramCalcPLife c (pramCalcN c P) = P) ∧
    (∀ N, 0 < N → N < pramLifeLimit c → pramCalcN c (pramCalcP c N) = .finite N) := by
  rw [pramCalcP_eq_cut h]
  refine ⟨fun P hP => ?_, fun N hN0 hN => ?_⟩
  · rw [pramCalcN_of_gt hP, pramCalcPLife, pramCalcP_eq_cut h]
    exact h.pair.cut_f hP
  · rw [pramCalcN_of_gt (h.pair.cut_gt hN0 hN), h.pair.f_cut hN0 hN]

example : (⟨-0.3, -0.2, 400, 100⟩ : PramCurve ℝ).Adm := by
  unfold PramCurve.Adm; norm_num

/-- Branch consistency: the two branches of `calc_N` / `calc_P_RAM` are selected consistently
(`P > P_Z ⇔ N < 10³`, `P = P_Z ⇔ N = 10³`), and so is the endurance branch (`P > P_D ⇔ N < N_D`);
the knee `N = 10³` lies strictly inside the finite range. -/
theorem pram_branch_consistency (c : PramCurve ℝ) (h : c.Adm) :
    (∀ P, c.PD < P → (pramN c P < 1000 ↔ c.PZ < P) ∧ (pramN c P = 1000 ↔ P = c.PZ) ∧
      0 < pramN c P ∧ pramN c P < pramLifeLimit c) ∧
    (∀ N, 0 < N → N < pramLifeLimit c → (c.PZ < pramCalcP c N ↔ N < 1000) ∧ (pramCalcP c N = c.PZ ↔ N = 1000) ∧
      c.PD < pramCalcP c N) ∧
    1000 < pramLifeLimit c := by
  refine ⟨fun P hP => ?_, fun N hN0 hN => ?_, h.knee_lt_limit⟩
  · have hP0 : 0 < P := lt_trans h.1 hP
    rw [pramN_eq]
    exact ⟨PowerLaw.twoSlope_lt_knee_iff kilo_pos h.PZ_pos h.slopes.inv_d1 h.slopes.inv_d2 hP0,
      PowerLaw.twoSlope_eq_knee_iff kilo_pos h.PZ_pos h.slopes.inv_d1 h.slopes.inv_d2 hP0, PowerLaw.twoSlope_pos kilo_pos h.PZ_pos hP0,
      by rw [← pramN_eq]; exact (h.pair.lt_limit_iff hP0).mpr hP⟩
  · have hgt := h.pair.cut_gt hN0 hN
    rw [PowerLaw.cut_of_lt hN] at hgt
    rw [pramCalcP_eq_cut h, PowerLaw.cut_of_lt hN]
    exact ⟨PowerLaw.twoSlope_gt_knee_iff h.PZ_pos kilo_pos h.2.2.2 h.2.2.1 hN0,
      PowerLaw.twoSlope_eq_knee_iff h.PZ_pos kilo_pos h.2.2.2 h.2.2.1 hN0, hgt⟩

/-- Continuity: both branch formulas agree at `N = 10³` (value `P_RAM_Z`) and the `d_2` branch reaches
exactly `P_RAM_D` at the life limit, so `calc_P_RAM` is continuous on `N > 0`; `N(P)` is continuous on
`P > 0` (the branch formulas agree at `P_RAM_Z` with value `10³`). -/
theorem pram_continuous (c : PramCurve ℝ) (h : c.Adm) :
    ContinuousOn (pramCalcP c) (Set.Ioi 0) ∧ ContinuousOn (pramN c) (Set.Ioi 0) ∧
    c.PZ * ((1000 : ℝ) / 1000) ^ c.d1 = c.PZ ∧ c.PZ * ((1000 : ℝ) / 1000) ^ c.d2 = c.PZ ∧
    pramCalcP c 1000 = c.PZ ∧
    c.PZ * (pramLifeLimit c / 1000) ^ c.d2 = c.PD ∧ pramCalcP c (pramLifeLimit c) = c.PD ∧
    1000 * (c.PZ / c.PZ) ^ (c.d1)⁻¹ = 1000 ∧ 1000 * (c.PZ / c.PZ) ^ (c.d2)⁻¹ = 1000 ∧
    pramN c c.PZ = 1000 ∧ pramN c c.PD = pramLifeLimit c := by
  have hlim := h.pair.g_limit
  rw [PowerLaw.twoSlope_of_le h.knee_lt_limit.le] at hlim
  refine ⟨pramCalcP_eq_cut h ▸ h.pair.cut_continuousOn, pramN_continuousOn h, PowerLaw.at_knee _ kilo_pos.ne' _,
    PowerLaw.at_knee _ kilo_pos.ne' _, ?_, hlim, pramCalcP_hi h le_rfl,
    PowerLaw.at_knee _ h.PZ_pos.ne' _, PowerLaw.at_knee _ h.PZ_pos.ne' _, pramN_at_PZ h, pramN_at_PD h⟩
  rw [pramCalcP_of_lt h.knee_lt_limit]
  exact PowerLaw.twoSlope_knee kilo_pos.ne'

/-- Strictly decreasing in the finite-life range: `P(N)` on `0 < N ≤ N_D`, `N(P)` on `P > 0`
(in particular on `P > P_RAM_D`). -/
theorem pram_strictAnti_finite (c : PramCurve ℝ) (h : c.Adm) :
    StrictAntiOn (pramCalcP c) (Set.Ioc 0 (pramLifeLimit c)) ∧ StrictAntiOn (pramN c) (Set.Ioi 0) :=
  ⟨pramCalcP_eq_cut h ▸ h.pair.cut_strictAntiOn, pramN_strictAntiOn h.slopes⟩

/-- Infinite life exactly at and below the endurance value; beyond the life limit the curve is
horizontal at `P_RAM_D`. -/
theorem pram_infinite_below_endurance (c : PramCurve ℝ) (h : c.Adm) :
    (∀ P, P ≤ c.PD → pramCalcN c P = .inf) ∧
    (∀ P, c.PD < P → pramCalcN c P = .finite (pramN c P) ∧ 0 < pramN c P ∧ pramN c P < pramLifeLimit c) ∧
    (∀ N, pramLifeLimit c ≤ N → pramCalcP c N = c.PD) ∧ pramCalcPLife c .inf = c.PD := by
  refine ⟨fun P hP => pramCalcN_of_le hP, fun P hP => ?_, fun N hN => pramCalcP_hi h hN, rfl⟩
  have hP0 : 0 < P := lt_trans h.1 hP
  exact ⟨pramCalcN_of_gt hP, pramN_pos h.slopes hP0, (h.pair.lt_limit_iff hP0).mpr hP⟩

/-! ## P_RAJ component Wöhler curve

`calc_N` uses the current `_P_RAJ_D` (field `PD`, lowered by `update_P_RAJ_D` during the assessment),
`calc_P_RAJ` the initial `P_RAJ_D_0` (field `PD0`).  The inverse statements therefore speak about
parameter values above both. -/

/-- **Partial.**  Full statement: `P(N(P)) = P` for every `P` above the endurance value the curve uses in `calc_N`
(the current `_P_RAJ_D`).  Proved: for every `P` above BOTH endurance values.  The guard `c.PD0 < P` excludes exactly the
band `(P_RAJ_D, P_RAJ_D_0]` of a curve whose endurance value has been lowered by `update_P_RAJ_D`; there the full statement
is FALSE for the code (`praj_updated_band`, `praj_updated_band_refuted`; open finding `praj-updated-endurance-band`). -/
theorem praj_curve_inverse_partial (c : PrajCurve ℝ) (h : c.Adm) :
    (∀ P, c.PD < P → c.PD0 < P → prajCalcPLife c (prajCalcN c P) = P) ∧
    (∀ N, 0 < N → N < prajLifeLimit c → c.PD ≤ c.PD0 → prajCalcN c (prajCalcP c N) = .finite N) := by
  rw [prajCalcP_eq_cut]
  refine ⟨fun P hP hP0 => ?_, fun N hN0 hN hle => ?_⟩
  · rw [prajCalcN_of_gt hP, prajCalcPLife, prajCalcP_eq_cut]
    exact h.pair.cut_f hP0
  · rw [prajCalcN_of_gt (lt_of_le_of_lt hle (h.pair.cut_gt hN0 hN)), h.pair.f_cut hN0 hN]

/-- The full inverse statement for a curve whose endurance value has not been changed (`_P_RAJ_D = P_RAJ_D_0`, the state
after construction): no guard besides admissibility. -/
theorem praj_curve_inverse_fresh (c : PrajCurve ℝ) (h : c.Adm) (hf : c.PD = c.PD0) :
    (∀ P, c.PD < P → prajCalcPLife c (prajCalcN c P) = P) ∧
    (∀ P, P ≤ c.PD → prajCalcPLife c (prajCalcN c P) = c.PD) ∧
    (∀ N, 0 < N → N < prajLifeLimit c → prajCalcN c (prajCalcP c N) = .finite N) := by
  refine ⟨fun P hP => (praj_curve_inverse_partial c h).1 P hP (hf ▸ hP), fun P hP => ?_,
    fun N hN0 hN => (praj_curve_inverse_partial c h).2 N hN0 hN hf.le⟩
  rw [prajCalcN_of_le hP]
  exact hf.symm

example : (⟨-0.6, 500, 0.3, 0.3⟩ : PrajCurve ℝ).Adm ∧ (⟨-0.6, 500, 0.3, 0.3⟩ : PrajCurve ℝ).PD = (⟨-0.6, 500, 0.3, 0.3⟩ : PrajCurve ℝ).PD0 := by
  unfold PrajCurve.Adm; norm_num

/-- **The band `(P_RAJ_D, P_RAJ_D_0]` of a curve with lowered endurance value** (what the code does there): `calc_N` is
finite (it tests the current `_P_RAJ_D`) and at least the life limit `N_D` of the initial endurance value, `calc_P_RAJ` of
that number of cycles is the INITIAL endurance value `P_RAJ_D_0` (it tests `fatigue_life_limit`, computed from
`P_RAJ_D_0`); so `P(N(P)) ≠ P` for every `P` strictly inside the band, `calc_P_RAJ` is constant on
`[N_D, N_D,final)` although `calc_N` takes all these values as finite lives, and `N_D < N_D,final`. -/
theorem praj_updated_band (c : PrajCurve ℝ) (h : c.Adm) (hPD : 0 < c.PD) (hlow : c.PD < c.PD0) :
    (∀ P, c.PD < P → P ≤ c.PD0 →
      prajCalcN c P = .finite (prajN c P) ∧ prajLifeLimit c ≤ prajN c P ∧ prajN c P < prajLifeLimitFinal c ∧
      prajCalcPLife c (prajCalcN c P) = c.PD0 ∧ (P < c.PD0 → prajCalcPLife c (prajCalcN c P) ≠ P)) ∧
    (∀ N, prajLifeLimit c ≤ N → prajCalcP c N = c.PD0) ∧
    prajLifeLimit c < prajLifeLimitFinal c := by
  have hlim := prajN_at_PD0 c
  have hfin := prajN_at_PD c
  refine ⟨fun P hP hle => ?_, fun N hN => prajCalcP_hi hN, ?_⟩
  · have hP0 : 0 < P := lt_trans hPD hP
    have hge : prajLifeLimit c ≤ prajN c P := by
      rcases eq_or_lt_of_le hle with heq | hlt
      · rw [heq, hlim]
      · rw [← hlim]; exact (prajN_strictAnti h hP0 hlt).le
    have hback : prajCalcPLife c (prajCalcN c P) = c.PD0 := by
      rw [prajCalcN_of_gt hP]
      exact prajCalcP_hi hge
    refine ⟨prajCalcN_of_gt hP, hge, ?_, hback, fun hlt => ?_⟩
    · rw [← hfin]; exact prajN_strictAnti h hPD hP
    · rw [hback]; exact ne_of_gt hlt
  · rw [← hlim, ← hfin]; exact prajN_strictAnti h hPD hlow

/-- kernel-checked refutation of the full inverse / strict monotonicity statements at the witness
(`P_RAJ_Z = 150`, `P_RAJ_D_0 = 10`, `d = −1/2`, `update_P_RAJ_D(9)`): `calc_P_RAJ(calc_N(9.5)) = 10`. -/
theorem praj_updated_band_refuted :
    let c : PrajCurve ℝ := ⟨-1/2, 150, 10, 9⟩
    c.Adm ∧ (∃ n, prajCalcN c (19/2) = .finite n) ∧ prajCalcPLife c (prajCalcN c (19/2)) = 10 ∧
    prajCalcPLife c (prajCalcN c (19/2)) ≠ 19/2 ∧
    ¬ (∀ P, c.PD < P → prajCalcPLife c (prajCalcN c P) = P) ∧
    ¬ StrictAntiOn (prajCalcP c) (Set.Ioo 0 (prajLifeLimitFinal c)) := by
  intro c
  have hA : c.Adm := by unfold PrajCurve.Adm; norm_num [c]
  have hB := praj_updated_band c hA (by norm_num [c]) (by norm_num [c])
  obtain ⟨h1, h2, h3, h4, h5⟩ := hB.1 (19/2) (by norm_num [c]) (by norm_num [c])
  have h10 : c.PD0 = 10 := rfl
  refine ⟨hA, ⟨_, h1⟩, by rw [h4, h10], by rw [h4, h10]; norm_num, fun hall => ?_, fun hanti => ?_⟩
  · exact h5 (by norm_num [c]) (hall (19/2) (by norm_num [c]))
  · -- two different finite lives in [N_D, N_D,final) with the same parameter value
    have hpos : 0 < prajLifeLimit c := hA.pair.L_pos
    have hlt := hB.2.2
    set a := prajLifeLimit c
    set b := prajLifeLimitFinal c
    have hm : a < (a + b) / 2 := by linarith
    have hm2 : (a + b) / 2 < b := by linarith
    have := hanti (a := a) ⟨hpos, hlt⟩ (b := (a + b) / 2) ⟨by linarith, hm2⟩ hm
    rw [hB.2.1 a le_rfl, hB.2.1 _ hm.le] at this
    exact lt_irrefl _ this

theorem praj_branch_consistency (c : PrajCurve ℝ) (h : c.Adm) :
    (∀ P, c.PD0 < P → 0 < prajN c P ∧ prajN c P < prajLifeLimit c) ∧
    (∀ N, 0 < N → N < prajLifeLimit c → c.PD0 < prajCalcP c N) ∧
    prajN c c.PZ = 1 ∧ 1 < prajLifeLimit c := by
  rw [prajCalcP_eq_cut]
  exact ⟨fun P hP => ⟨prajN_pos h (lt_trans h.1 hP), (h.pair.lt_limit_iff (lt_trans h.1 hP)).mpr hP⟩,
    fun N hN0 hN => h.pair.cut_gt hN0 hN, prajN_at_PZ h, h.one_lt_limit⟩

theorem praj_continuous (c : PrajCurve ℝ) (h : c.Adm) :
    ContinuousOn (prajCalcP c) (Set.Ioi 0) ∧ ContinuousOn (prajN c) (Set.Ioi 0) ∧
    c.PZ * (prajLifeLimit c) ^ c.d = c.PD0 ∧ prajCalcP c (prajLifeLimit c) = c.PD0 ∧
    prajN c c.PD0 = prajLifeLimit c ∧ prajN c c.PD = prajLifeLimitFinal c :=
  ⟨prajCalcP_eq_cut c ▸ h.pair.cut_continuousOn, prajN_continuousOn h, h.pair.g_limit, prajCalcP_hi le_rfl,
    prajN_at_PD0 c, prajN_at_PD c⟩

theorem praj_strictAnti_finite (c : PrajCurve ℝ) (h : c.Adm) :
    StrictAntiOn (prajCalcP c) (Set.Ioc 0 (prajLifeLimit c)) ∧ StrictAntiOn (prajN c) (Set.Ioi 0) :=
  ⟨prajCalcP_eq_cut c ▸ h.pair.cut_strictAntiOn, h.pair.anti⟩

theorem praj_infinite_below_endurance (c : PrajCurve ℝ) (h : c.Adm) :
    (∀ P, P ≤ c.PD → prajCalcN c P = .inf) ∧
    (∀ P, c.PD < P → prajCalcN c P = .finite (prajN c P)) ∧
    (∀ P, c.PD0 < P → 0 < prajN c P ∧ prajN c P < prajLifeLimit c) ∧
    (∀ N, prajLifeLimit c ≤ N → prajCalcP c N = c.PD0) ∧ prajCalcPLife c .inf = c.PD0 := by
  exact ⟨fun P hP => prajCalcN_of_le hP, fun P hP => prajCalcN_of_gt hP,
    fun P hP => ⟨prajN_pos h (lt_trans h.1 hP), (h.pair.lt_limit_iff (lt_trans h.1 hP)).mpr hP⟩,
    fun N hN => prajCalcP_hi hN, rfl⟩

/-! ## the damage parameter P_RAM -/

/-- the guideline's mean stress factor, eq. (2.6-83) -/
noncomputable def Spec.k (M Sm : ℝ) : ℝ := if 0 ≤ Sm then M * (M + 2) else M / 3 * (M / 3 + 2)

/-- `P_RAM = sqrt((S_a + k S_m) ε_a E)` when the factor `S_a + k S_m` is non-negative, and zero when it
is negative (the code tests this FACTOR, not the product).  Strain amplitude and Young's modulus are
non-negative for every real hysteresis (for a negative product under a non-negative factor numpy's
`sqrt` would return NaN, ℝ's `sqrt` returns 0: excluded by the guards). -/
theorem pRAM_formula (M E Sa Sm ea : ℝ) (hea : 0 ≤ ea) (hE : 0 ≤ E) :
    (0 ≤ Sa + Spec.k M Sm * Sm →
      pRAM M E Sa Sm ea = Real.sqrt ((Sa + Spec.k M Sm * Sm) * ea * E) ∧
      pRAM M E Sa Sm ea ^ 2 = (Sa + Spec.k M Sm * Sm) * ea * E ∧ 0 ≤ pRAM M E Sa Sm ea) ∧
    (Sa + Spec.k M Sm * Sm < 0 → pRAM M E Sa Sm ea = 0) ∧
    ((Sa + Spec.k M Sm * Sm) * ea * E < 0 → pRAM M E Sa Sm ea = 0) := by
  have hk : kFactor M Sm = Spec.k M Sm := by rw [kFactor_eq, Spec.k]
  rw [pRAM_eq, hk]
  refine ⟨fun h => ?_, fun h => ?_, fun h => ?_⟩
  · rw [if_pos h]
    have hnn : 0 ≤ (Sa + Spec.k M Sm * Sm) * ea * E := mul_nonneg (mul_nonneg h hea) hE
    exact ⟨rfl, Real.sq_sqrt hnn, Real.sqrt_nonneg _⟩
  · rw [if_neg (not_le.mpr h)]
  · have : Sa + Spec.k M Sm * Sm < 0 := by
      by_contra hcon
      have := mul_nonneg (mul_nonneg (not_lt.mp hcon) hea) hE
      linarith
    rw [if_neg (not_le.mpr this)]

example : (0:ℝ) ≤ 100 + Spec.k 0.25 (-50) * (-50) := by
  unfold Spec.k; norm_num

/-- The guideline's constants that enter C09 (FKM nonlinear, tables 2.7, 2.10, 2.14, 2.33 with the
authors' correction of the P_RAJ values), restated as rationals:
`[E, a_M, b_M, d_1, d_2, a_PZ_RAM, b_PZ_RAM, a_PD_RAM, b_PD_RAM, d_RAJ, a_PZ_RAJ, b_PZ_RAJ, a_PD_RAJ, b_PD_RAJ]`. -/
def Guideline.row : Group → List ℚ
  | .Steel => [206000, 35/100, -1/10, -302/1000, -197/1000, 20, 587/1000, 82/100, 92/100,
      -63/100, 10, 826/1000, 333/10000000, 155/100]
  | .SteelCast => [206000, 35/100, 5/100, -289/1000, -189/1000, 2556/100, 519/1000, 46/100, 96/100,
      -66/100, 1003/100, 695/1000, 515/100000000, 163/100]
  | .AlWrought => [70000, 1, -4/100, -238/1000, -167/1000, 1671/100, 537/1000, 30/100, 1,
      -61/100, 1017/10, 26/100, 518/1000000000, 204/100]

/-- the model's copy of `all_constants` carries the guideline values -/
theorem constants_eq_guideline (g : Group) :
    [(consts g : Consts ℝ).E, (consts g).a_M, (consts g).b_M, (consts g).d_1, (consts g).d_2,
      (consts g).a_PZ_RAM, (consts g).b_PZ_RAM, (consts g).a_PD_RAM, (consts g).b_PD_RAM,
      (consts g).d_RAJ, (consts g).a_PZ_RAJ, (consts g).b_PZ_RAJ, (consts g).a_PD_RAJ, (consts g).b_PD_RAJ]
      = (Guideline.row g).map (fun q : ℚ => (q : ℝ)) := by
  cases g <;> simp only [consts, Guideline.row, List.map_cons, List.map_nil] <;> norm_num

/-- `M_σ = a_M · 10⁻³ · R_m + b_M` with the guideline's `(a_M, b_M)` of the material group, and `P_RAM` of a
row of the collective is the formula above with this `M_σ`. -/
theorem pRAM_group_formula (g : Group) (Rm E Sa Sm ea : ℝ) :
    mSigmaOf g Rm = (match g with
      | .Steel => 0.35 / 1000 * Rm - 0.1
      | .SteelCast => 0.35 / 1000 * Rm + 0.05
      | .AlWrought => 1 / 1000 * Rm - 0.04) ∧
    pRAMOf g Rm E Sa Sm ea = pRAM (mSigmaOf g Rm) E Sa Sm ea := by
  refine ⟨?_, rfl⟩
  cases g <;> simp only [mSigmaOf, mSigma_eq, consts] <;> norm_num <;> ring

/-! ## damage accumulation and lifetime (`DamageCalculatorPRAM`) -/

/-- damages are non-negative for non-negative parameter values (`P = 0`: the code has `N = ∞`, `D = 0`;
over ℝ `0 ^ (1/d) = 0` and `1 / 0 = 0` give `D = 0` as well) -/
theorem rowD_nonneg (c : PramCurve ℝ) (h : c.Adm) (r : Row ℝ) (hP : 0 ≤ r.P) : 0 ≤ rowD c r :=
  FkmNl.rowD_nonneg h.slopes r hP

/-- **Early failure index** (a statement about lists of damages): `_n_cycles_until_damage`
(`searchsorted(cumsum(D), 1)`) is the first index whose prefix sum reaches one: all earlier prefix sums
are below one, and if it is an index of the table its own prefix sum is at least one.  With non-negative
damages it is an index of the table exactly when the total damage of the two passes reaches one. -/
theorem early_failure_index (ds : List (ℝ × Nat)) :
    let r := lifetimeOfDamages ds
    let D := ds.map (·.1)
    r.idx ≤ ds.length ∧
    (∀ j, j < r.idx → (D.take (j + 1)).sum < 1) ∧
    (r.idx < ds.length → 1 ≤ (D.take (r.idx + 1)).sum) ∧
    (r.early = true ↔ r.idx < ds.length) ∧
    ((∀ p ∈ ds, 0 ≤ p.1) → (r.early = true ↔ 1 ≤ D.sum)) ∧
    (r.early = true → r.nSeq = 0 ∧ r.nCycles = (r.idx : ℝ)) := by
  intro r D
  have hlen : D.length = ds.length := List.length_map _
  obtain ⟨h1, h2, h3⟩ := firstGe_cumsum_spec 1 D 0
  rw [← lifetime_idx ds, hlen] at h1 h3
  rw [← lifetime_idx ds] at h2
  simp only [zero_add] at h2 h3
  exact ⟨h1, h2, h3, lifetime_early_iff ds, lifetime_early_iff_sum ds, lifetime_of_early ds⟩

/-- **Lifetime = literal accumulation.**  `D₁`, `D₂` are the damage sums of the first and second pass (a
half hysteresis enters with half its damage through `rowD`).  If the damage sum does not reach one within
the two recorded passes (`D₁ + D₂ < 1`) and the second pass damages at all (`D₂ > 0`; for `D₂ = 0` the code
returns `inf`), then `x = (1 − D₁)/D₂` is the unique `t` with `D₁ + t·D₂ = 1`, it is larger than one, the
damage accumulated after the first pass and `k` repetitions of the second stays below one exactly for
`k < x`, and the reported lifetime is `1 + x` passes, i.e. `(1 + x)·(number of hystereses of pass 2)`
cycles.

**Partial.**  Full statement of the clause: the reported numbers of passes / cycles equal the literal accumulation for EVERY
table.  The guard `hlt : D₁ + D₂ < 1` excludes exactly the tables whose damage sum reaches one within the two recorded
passes; for those see `lifetime_early_failure` (what the code reports) and `lifetime_vs_literal_passes` (where that differs
from the literal accumulation: open finding `early-failure-zero-repetitions`).  `hD2 : 0 < D₂`: for `D₂ = 0` the code
returns `inf`, see `zero_second_pass_damage_is_infinite`. -/
theorem lifetime_eq_accumulation_partial (ds : List (ℝ × Nat))
    (hnn : ∀ p ∈ ds, 0 ≤ p.1) (hrun : ∀ p ∈ ds, p.2 = 1 ∨ p.2 = 2)
    (hlt : sumRun 1 ds + sumRun 2 ds < 1) (hD2 : 0 < sumRun 2 ds) :
    let r := lifetimeOfDamages ds
    let D₁ := sumRun 1 ds
    let D₂ := sumRun 2 ds
    r.early = false ∧ r.x = (1 - D₁) / D₂ ∧ D₁ + r.x * D₂ = 1 ∧ (∀ t : ℝ, D₁ + t * D₂ = 1 → t = r.x) ∧
    1 < r.x ∧ (∀ k : ℕ, D₁ + k * D₂ < 1 ↔ (k : ℝ) < r.x) ∧
    r.nSeq = 1 + r.x ∧
    r.nCycles = (1 + r.x) * ((ds.filter (fun p => p.2 = 2)).length : ℝ) := by
  intro r D₁ D₂
  have hx : r.x = (1 - D₁) / D₂ := lifetime_x ds
  have hearly : r.early = false :=
    Bool.eq_false_iff.mpr (mt (lifetime_early_iff_runs ds hnn hrun).mp (not_le.mpr hlt))
  obtain ⟨hs, hc⟩ := lifetime_of_not_early ds hearly
  have acc : ∀ t : ℝ, (D₁ + t * D₂ = 1 ↔ t = r.x) ∧ (D₁ + t * D₂ < 1 ↔ t < r.x) := fun t => by
    rw [hx]; exact accumulation_iff hD2 t
  exact ⟨hearly, hx, (acc r.x).1.mpr rfl, fun t => (acc t).1.mp, (acc 1).2.mp (by linarith),
    fun k => (acc k).2, hs.trans (add_comm _ _), by rw [hc, countRun_eq, add_comm]⟩

example : let ds : List (ℝ × Nat) := [(1/4, 1), (1/8, 2), (1/8, 2)]
    (∀ p ∈ ds, 0 ≤ p.1) ∧ (∀ p ∈ ds, p.2 = 1 ∨ p.2 = 2) ∧ sumRun 1 ds + sumRun 2 ds < 1 ∧ 0 < sumRun 2 ds := by
  simp only [sumRun, lit_zero]
  norm_num

/-- **Early failure** (`D₁ + D₂ ≥ 1`: the damage sum reaches one within the two recorded passes) - what the code reports:
the early-failure branch is taken, `_n_cycles_until_damage` is an index of the table and is the literal hysteresis count
(every shorter prefix of the recorded table stays below one, the prefix ending at this hysteresis reaches one),
`lifetime_n_cycles` is that count and `lifetime_n_times_load_sequence` is `0`. -/
theorem lifetime_early_failure (ds : List (ℝ × Nat))
    (hnn : ∀ p ∈ ds, 0 ≤ p.1) (hrun : ∀ p ∈ ds, p.2 = 1 ∨ p.2 = 2)
    (hge : 1 ≤ sumRun 1 ds + sumRun 2 ds) :
    let r := lifetimeOfDamages ds
    let D := ds.map (·.1)
    r.early = true ∧ r.idx < ds.length ∧ (∀ j, j < r.idx → (D.take (j + 1)).sum < 1) ∧
    1 ≤ (D.take (r.idx + 1)).sum ∧ r.nSeq = 0 ∧ r.nCycles = (r.idx : ℝ) := by
  intro r D
  obtain ⟨-, hbefore, hat, hiff, -, hres⟩ := early_failure_index ds
  have he : r.early = true := (lifetime_early_iff_runs ds hnn hrun).mpr hge
  have hidx : r.idx < ds.length := hiff.mp he
  exact ⟨he, hidx, hbefore, hat hidx, (hres he).1, (hres he).2⟩

/-- The literal reading of the property text for the number of passes: the first pass once, then the second pass `t`
times (`t` real: a started pass counts with the fraction of its damage that is still bearable, exactly as the fractional
part of `x` in eq. (2.6-90)) until `D₁ + t·D₂ = 1`; the lifetime is `1 + t` passes. -/
noncomputable def Spec.literalPasses (D1 D2 : ℝ) : ℝ := 1 + (1 - D1) / D2

/-- **Code versus literal accumulation on the whole range `D₁ < 1`, `D₂ > 0`** (failure not within the first pass).
`Spec.literalPasses` is the unique solution of the accumulation equation and exceeds one.  If the two recorded passes stay
below one the code reports exactly it (and it exceeds two).  If the damage sum reaches one within the SECOND recorded pass
(`D₁ < 1 ≤ D₁ + D₂`) the literal value lies in `(1, 2]` but the code reports `0`: the clause "lifetime = literal
accumulation" is FALSE for the code there (open finding `early-failure-zero-repetitions`; the reported value jumps from
`2` to `0` at `D₁ + D₂ = 1`).  For `D₁ ≥ 1` (failure within the first pass) the property text does not say which
fraction of a pass is meant; the code's `0` (no complete pass) is taken as conforming (recorded as an assumption of the
check: `ASSUMPTIONS` in `harness/c09.py`). -/
theorem lifetime_vs_literal_passes (ds : List (ℝ × Nat))
    (hnn : ∀ p ∈ ds, 0 ≤ p.1) (hrun : ∀ p ∈ ds, p.2 = 1 ∨ p.2 = 2)
    (hD1 : sumRun 1 ds < 1) (hD2 : 0 < sumRun 2 ds) :
    let r := lifetimeOfDamages ds
    let D₁ := sumRun 1 ds
    let D₂ := sumRun 2 ds
    let L := Spec.literalPasses D₁ D₂
    D₁ + (L - 1) * D₂ = 1 ∧ (∀ t : ℝ, D₁ + t * D₂ = 1 → 1 + t = L) ∧ 1 < L ∧
    (D₁ + D₂ < 1 → r.early = false ∧ r.nSeq = L ∧ 2 < L) ∧
    (1 ≤ D₁ + D₂ → r.early = true ∧ L ≤ 2 ∧ r.nSeq = 0 ∧ r.nSeq ≠ L) := by
  intro r D₁ D₂ L
  have acc := accumulation_iff (D₁ := D₁) hD2
  have hL : L = 1 + (1 - D₁) / D₂ := rfl
  have hpos : 0 < (1 - D₁) / D₂ := (acc 0).2.mp (by linarith)
  refine ⟨(acc (L - 1)).1.mpr (add_sub_cancel_left 1 _), fun t ht => by rw [hL, (acc t).1.mp ht],
    by rw [hL]; linarith, fun hlt => ?_, fun hge => ?_⟩
  · obtain ⟨he, hx, -, -, hx1, -, hs, -⟩ := lifetime_eq_accumulation_partial ds hnn hrun hlt hD2
    refine ⟨he, ?_, ?_⟩
    · rw [hs, hx]; rfl
    · have : (1:ℝ) < (1 - D₁) / D₂ := by rw [← hx]; exact hx1
      rw [hL]; linarith
  · obtain ⟨he, -, -, -, hs, -⟩ := lifetime_early_failure ds hnn hrun hge
    have hle : (1 - D₁) / D₂ ≤ 1 := by rw [div_le_one hD2]; linarith
    refine ⟨he, by rw [hL]; linarith, hs, ?_⟩
    rw [hs]; exact ne_of_lt (by linarith)

/-- kernel-checked instance of the finding (`D₁ = 1/2`, `D₂ = 3/4`): literally `1 + 2/3` passes,
the code reports `0` passes and `1` cycle (the index of the failing hysteresis). -/
theorem lifetime_early_pass2_refuted :
    let ds : List (ℝ × Nat) := [(1/2, 1), (3/4, 2)]
    Spec.literalPasses (sumRun 1 ds) (sumRun 2 ds) = 5/3 ∧ (lifetimeOfDamages ds).nSeq = 0 ∧
    (lifetimeOfDamages ds).nCycles = 1 ∧ (lifetimeOfDamages ds).nSeq ≠ Spec.literalPasses (sumRun 1 ds) (sumRun 2 ds) := by
  intro ds
  have hL : Spec.literalPasses (sumRun 1 ds) (sumRun 2 ds) = 5/3 := by
    simp only [ds, sumRun, lit_zero, Spec.literalPasses]; norm_num
  -- the prefix sums are 1/2 and 5/4: the failing hysteresis is the second one
  have hi : (lifetimeOfDamages ds).idx = 1 := by
    simp only [lifetime_idx, ds, List.map, cumsumFrom, firstGe]; norm_num
  have he : (lifetimeOfDamages ds).early = true := (lifetime_early_iff ds).mpr (by rw [hi]; decide)
  obtain ⟨hs, hc⟩ := lifetime_of_early ds he
  exact ⟨hL, hs, by rw [hc, hi, Nat.cast_one], by rw [hs, hL]; norm_num⟩

/-- **The two cycle conventions of the code.**  In the regular case the code reports `(1 + x)·n₂` cycles (eq. (2.6-91):
passes times the number `n₂ = H₀` of hystereses of the repeated pass - the reading the guideline's worked example 2.7.1
pins: 14618 cycles for `n₁ = 3`, `n₂ = 4`, `1 + x = 3654.5`), NOT the count `n₁ + x·n₂` of the hystereses literally
accumulated; the two differ by the constant `n₂ − n₁` and agree exactly when both passes recorded the same number of
hystereses.  (In the early-failure case the code reports the hysteresis count, `lifetime_early_failure`.) -/
theorem lifetime_cycles_convention (ds : List (ℝ × Nat))
    (hnn : ∀ p ∈ ds, 0 ≤ p.1) (hrun : ∀ p ∈ ds, p.2 = 1 ∨ p.2 = 2)
    (hlt : sumRun 1 ds + sumRun 2 ds < 1) (hD2 : 0 < sumRun 2 ds) :
    let r := lifetimeOfDamages ds
    let n₁ : ℝ := ((ds.filter (fun p => p.2 = 1)).length : ℝ)
    let n₂ : ℝ := ((ds.filter (fun p => p.2 = 2)).length : ℝ)
    r.nCycles = r.nSeq * n₂ ∧ r.nCycles - (n₁ + r.x * n₂) = n₂ - n₁ ∧ (r.nCycles = n₁ + r.x * n₂ ↔ n₁ = n₂) := by
  intro r n₁ n₂
  obtain ⟨-, -, -, -, -, -, hs, hc⟩ := lifetime_eq_accumulation_partial ds hnn hrun hlt hD2
  have hc' : r.nCycles = (1 + r.x) * n₂ := hc
  refine ⟨by rw [hc', hs], by rw [hc']; ring, ?_⟩
  rw [hc']
  constructor <;> intro h <;> linarith

example : let ds : List (ℝ × Nat) := [(1/8, 1), (1/8, 1), (1/8, 1), (1/8, 2)]
    (∀ p ∈ ds, 0 ≤ p.1) ∧ (∀ p ∈ ds, p.2 = 1 ∨ p.2 = 2) ∧ sumRun 1 ds + sumRun 2 ds < 1 ∧ 0 < sumRun 2 ds ∧
    ((ds.filter (fun p => p.2 = 1)).length : ℝ) ≠ ((ds.filter (fun p => p.2 = 2)).length : ℝ) := by
  simp only [sumRun, lit_zero]
  norm_num

/-- `lifetime_eq_accumulation_partial` reaches the calculator fed with a collective: `damagePRAM c rows` is
`lifetimeOfDamages` of the damage column (`C10.dam c rows`, written out), and the column meets the theorem's first two
hypotheses when the `P_RAM` values are non-negative and the run indices are 1, 2 -/
theorem lifetime_eq_accumulation_rows (c : PramCurve ℝ) (h : c.Adm) (rows : List (Row ℝ))
    (hP : ∀ r ∈ rows, 0 ≤ r.P) (hrun : ∀ r ∈ rows, r.run = 1 ∨ r.run = 2) :
    let ds := rows.map fun r => (rowD c r, r.run)
    damagePRAM c rows = lifetimeOfDamages ds ∧ (∀ p ∈ ds, 0 ≤ p.1) ∧ (∀ p ∈ ds, p.2 = 1 ∨ p.2 = 2) := by
  intro ds
  refine ⟨rfl, damages_nonneg c h.slopes rows hP, ?_⟩
  · intro p hp
    obtain ⟨r, hr, rfl⟩ := List.mem_map.mp hp
    exact hrun r hr

/-- kernel-checked instance: half a damage in pass 1, one hysteresis with damage 1/8 in pass 2: four
repetitions of pass 2 are needed, the lifetime is five passes = five cycles -/
example : (lifetimeOfDamages [((1/2 : ℝ), 1), (1/8, 2)]).x = 4 ∧
    (lifetimeOfDamages [((1/2 : ℝ), 1), (1/8, 2)]).nSeq = 5 ∧
    (lifetimeOfDamages [((1/2 : ℝ), 1), (1/8, 2)]).nCycles = 5 := by
  have h := lifetime_eq_accumulation_partial [((1/2 : ℝ), 1), (1/8, 2)]
    (by simp) (by simp) (by simp only [sumRun, lit_zero]; norm_num) (by simp only [sumRun, lit_zero]; norm_num)
  simp only [sumRun, lit_zero] at h
  obtain ⟨-, hx, -, -, -, -, hs, hc⟩ := h
  norm_num at hx hs hc
  refine ⟨hx, ?_, ?_⟩
  · rw [hs, hx]; norm_num
  · rw [hc, hx]; norm_num

/-- `is_life_infinite` (largest `P_RAM` of the second pass `≤ P_RAM_D`) holds exactly when the component
Wöhler curve gives infinite life for every hysteresis of the second pass. -/
theorem isLifeInfinite_iff (c : PramCurve ℝ) (rows : List (Row ℝ)) :
    isLifeInfinite c rows = true ↔ ∀ r ∈ rows, r.run = 2 → pramCalcN c r.P = .inf := by
  simp only [isLifeInfinite_iff_le, pramCalcN_eq_inf_iff]

/-- **`D₂ = 0`** (the guard `hD2` of the theorems above; over ℝ the model's `x/0 = 0` would give one pass, the code - and
the model at `Float` - gives `inf`): no damage in the second pass means that every hysteresis of the second pass has
`P_RAM = 0`, hence the verdict `is_life_infinite` is true: the lifetime numbers of such a table are never the verdict. -/
theorem zero_second_pass_damage_is_infinite (c : PramCurve ℝ) (h : c.Adm) (rows : List (Row ℝ))
    (hP : ∀ r ∈ rows, 0 ≤ r.P) (hD2 : sumRun 2 (rows.map fun r => (rowD c r, r.run)) = 0) :
    (∀ r ∈ rows, r.run = 2 → r.P = 0) ∧ isLifeInfinite c rows = true := by
  have hz : ∀ r ∈ rows, r.run = 2 → r.P = 0 := by
    intro r hr h2
    have hd := sumRun_eq_zero 2 _ (damages_nonneg c h.slopes rows hP) hD2 (rowD c r, r.run) (List.mem_map.mpr ⟨r, hr, rfl⟩) h2
    rcases eq_or_lt_of_le (hP r hr) with h0 | hpos
    · exact h0.symm
    · exact absurd hd (rowD_pos h.slopes r hpos).ne'
  exact ⟨hz, (isLifeInfinite_iff_le c rows).mpr fun r hr h2 => (hz r hr h2).trans_le h.1.le⟩

/-! ## several assessment points in one table -/

/-- cutting the flat table of the recorder (hysteresis blocks of `n` rows each) gives the blocks back -/
theorem chunk_flatten {β : Type} (n : Nat) (hn : 0 < n) : ∀ (blocks : List (List β)) (fuel : Nat),
    (∀ b ∈ blocks, b.length = n) → blocks.flatten.length ≤ fuel → chunk n fuel blocks.flatten = blocks
  | [], fuel, _, _ => by cases fuel <;> rfl
  | [] :: _, _, hb, _ => absurd (hb [] List.mem_cons_self) hn.ne
  | (x :: b) :: bs, 0, _, hf => by simp at hf
  | (x :: b) :: bs, fuel+1, hb, hf => by
    have hbl : (x :: b).length = n := hb _ List.mem_cons_self
    have ih := chunk_flatten n hn bs fuel (fun c hc => hb c (List.mem_cons_of_mem _ hc)) (by
      simp only [List.flatten_cons, List.length_append, List.length_cons] at hf
      omega)
    simp only [List.flatten_cons, List.cons_append, chunk]
    rw [← List.cons_append, List.take_left' hbl, List.drop_left' hbl, ih]

/-- no hysteresis of a point is lost: point `k < n` has one row in every block -/
theorem pointRows_length {β : Type} (n k : Nat) (hk : k < n) : ∀ (blocks : List (List β)),
    (∀ b ∈ blocks, b.length = n) → (pointRows k blocks).length = blocks.length
  | [], _ => by simp [pointRows]
  | b :: bs, hb => by
    have ih := pointRows_length n k hk bs (fun c hc => hb c (List.mem_cons_of_mem _ hc))
    have hbl : b.length = n := hb b List.mem_cons_self
    have hsome : b[k]? = some (b[k]'(by omega)) := List.getElem?_eq_getElem (by omega)
    simp only [pointRows, List.filterMap_cons, hsome, List.length_cons] at ih ⊢
    omega

/-- **A table with several assessment points is assessed point by point**: for the flat table the recorder delivers
(hysteresis blocks with one row per point) the result for point `k` is `DamageCalculatorPRAM`'s result for the table that
holds the `k`-th row of every block, with the `k`-th curve - every statement above about one point therefore holds for
every point of a multi-point table, whatever the other points are. -/
theorem damagePRAMBatch_eq_single (curves : List (PramCurve ℝ)) (blocks : List (List (Row ℝ)))
    (hn : 0 < curves.length) (hb : ∀ b ∈ blocks, b.length = curves.length) :
    damagePRAMBatch curves blocks.flatten =
      curves.zipIdx.map (fun ck => (damagePRAM ck.1 (pointRows ck.2 blocks), isLifeInfinite ck.1 (pointRows ck.2 blocks))) ∧
    (damagePRAMBatch curves blocks.flatten).length = curves.length := by
  have hc := chunk_flatten curves.length hn blocks blocks.flatten.length hb le_rfl
  constructor
  · simp only [damagePRAMBatch, hc]
  · simp only [damagePRAMBatch, List.length_map, List.length_zipIdx]

example : damagePRAMBatch [(⟨-1, -1, 1, 1/2⟩ : PramCurve ℝ), ⟨-1, -1, 2, 1⟩]
      ([[⟨1000, true, 1⟩, ⟨500, true, 1⟩], [⟨250, false, 2⟩, ⟨4000, true, 2⟩]] : List (List (Row ℝ))).flatten =
    [(damagePRAM ⟨-1, -1, 1, 1/2⟩ [⟨1000, true, 1⟩, ⟨250, false, 2⟩], isLifeInfinite (⟨-1, -1, 1, 1/2⟩ : PramCurve ℝ) [⟨1000, true, 1⟩, ⟨250, false, 2⟩]),
     (damagePRAM ⟨-1, -1, 2, 1⟩ [⟨500, true, 1⟩, ⟨4000, true, 2⟩], isLifeInfinite (⟨-1, -1, 2, 1⟩ : PramCurve ℝ) [⟨500, true, 1⟩, ⟨4000, true, 2⟩])] := by
  rw [(damagePRAMBatch_eq_single _ _ (by simp) (by simp)).1]
  rfl

/-! ## load safety factors -/

/-- `P_L` of the guideline: 2.5 % or 50 % -/
inductive Spec.PL | p2_5 | p50

noncomputable def Spec.PL.val : Spec.PL → ℝ
  | .p2_5 => 2.5
  | .p50 => 50

/-- eq. (2.3-4) / (2.3-6) -/
noncomputable def Spec.alpha (beta : ℝ) (pl : Spec.PL) (s : ℝ) : ℝ :=
  match pl with
  | .p2_5 => (0.7 * beta - 2) * s
  | .p50 => 0.7 * beta * s

/-- the guideline's safety indices for the tabulated failure probabilities -/
theorem getBeta_table :
    getBeta (1.0e-7 : ℝ) = some 5.2 ∧ getBeta (1.0e-6 : ℝ) = some 4.75 ∧ getBeta (1.0e-5 : ℝ) = some 4.27 ∧
    getBeta (7.2e-5 : ℝ) = some 3.8 ∧ getBeta (1.0e-3 : ℝ) = some 3.09 ∧ getBeta (2.3e-1 : ℝ) = some 0.739 ∧
    getBeta (0.5 : ℝ) = some 0 ∧ getBeta (0.3 : ℝ) = none := by
  refine ⟨?_, ?_, ?_, ?_, ?_, ?_, ?_, ?_⟩ <;> simp only [getBeta, betaTable, getBetaIn, isclose_iff] <;>
    norm_num [abs_le]

/-- The three `gamma_L` bodies are the guideline formulas (2.3-4)…(2.3-8): normal
`(L_max + α_L)/L_max`, log-normal `max(1, 10^α)`, blanket `1.1` / `1`. -/
theorem gammaL_formulas (PA beta s Lmax : ℝ) (pl : Spec.PL) (hb : getBeta PA = some beta) :
    gammaLNormal PA pl.val s Lmax = some ((Lmax + Spec.alpha beta pl s) / Lmax) ∧
    gammaLLognormal PA pl.val s = some (max 1 ((10:ℝ) ^ Spec.alpha beta pl s)) ∧
    gammaLBlanket pl.val = some (match pl with | .p2_5 => 1.1 | .p50 => 1) ∧
    gammaLBlanket (10:ℝ) = none := by
  have ha : alphaL beta pl.val s = Spec.alpha beta pl s := by
    cases pl <;> simp only [alphaL, Spec.PL.val, Spec.alpha] <;> norm_num [isclose_iff, abs_le]
  refine ⟨?_, ?_, ?_, ?_⟩
  · simp only [gammaLNormal, hb, Option.map_some, ha]
  · simp only [gammaLLognormal, hb, Option.map_some, ha, transc_pow, lit_one]
    congr 1
    norm_num
    rcases lt_or_ge 1 ((10:ℝ) ^ Spec.alpha beta pl s) with hlt | hge
    · rw [if_pos hlt, max_eq_right hlt.le]
    · rw [if_neg (not_lt.mpr hge), max_eq_left hge]
  · cases pl <;> simp only [gammaLBlanket, Spec.PL.val] <;> norm_num [isclose_iff, abs_le]
  · simp only [gammaLBlanket]; norm_num [isclose_iff, abs_le]

theorem maxAbsFrom_eq : ∀ (l : List ℝ) (m : ℝ), maxAbsFrom m l = (l.map (|·|)).foldl max m
  | [], _ => rfl
  | y :: ys, m => by
    rw [maxAbsFrom, maxAbsFrom_eq ys, transc_abs, ← max_def_lt]
    rfl

/-- Python's `max(abs(load))` is the library's maximum of the absolute values -/
theorem maxAbs_eq_max? {l : List ℝ} (hne : l ≠ []) : (l.map (|·|)).max? = some (maxAbs l) := by
  match l, hne with
  | y :: ys, _ => rw [maxAbs, maxAbsFrom_eq, transc_abs, List.map_cons, List.max?_cons']

/-- `maximum_absolute_load` of a plain load series (`max(abs(load))`) is the greatest absolute load: an upper bound of all
`|L_i|` that is attained. -/
theorem maxAbs_spec (l : List ℝ) (hne : l ≠ []) :
    (∀ x ∈ l, |x| ≤ maxAbs l) ∧ ∃ x ∈ l, maxAbs l = |x| := by
  obtain ⟨hmem, hle⟩ := List.max?_eq_some_iff.mp (maxAbs_eq_max? hne)
  obtain ⟨x, hx, e⟩ := List.mem_map.mp hmem
  exact ⟨fun y hy => hle _ (List.mem_map_of_mem hy), x, hx, e.symm⟩

/-- `gamma_L` of the normal case with `L_max` computed from the load series (one assessment point, or one node of a mesh
with `max_load_independently_for_nodes`, or all values of the mesh without it): eq. (2.3-5) with the greatest absolute
load. -/
theorem gammaL_normal_of_loads (PA beta s : ℝ) (pl : Spec.PL) (loads : List ℝ) (hne : loads ≠ [])
    (hb : getBeta PA = some beta) :
    ∃ Lmax, (∀ x ∈ loads, |x| ≤ Lmax) ∧ (∃ x ∈ loads, Lmax = |x|) ∧
      gammaLNormal PA pl.val s (maxAbs loads) = some ((Lmax + Spec.alpha beta pl s) / Lmax) :=
  ⟨maxAbs loads, (maxAbs_spec loads hne).1, (maxAbs_spec loads hne).2, (gammaL_formulas PA beta s (maxAbs loads) pl hb).1⟩

example : maxAbs ([100, -300, 120] : List ℝ) = 300 := by
  simp only [maxAbs, maxAbsFrom, transc_abs]; norm_num [abs_of_nonneg, abs_of_neg]

/-- `maximum_absolute_load` of a mesh without `max_load_independently_for_nodes` (`abs().groupby("node_id").max().max()`)
is the greatest absolute load over all nodes and load steps; with it, node `k` gets `maxAbs` of its own history
(`maxAbs_spec`). -/
theorem maxAbsMesh_spec (cols : List (List ℝ)) (hne : cols ≠ []) (hcol : ∀ c ∈ cols, c ≠ []) :
    (∀ c ∈ cols, ∀ x ∈ c, |x| ≤ maxAbsMesh cols) ∧ (∃ c ∈ cols, ∃ x ∈ c, maxAbsMesh cols = |x|) ∧
    (maxAbsPerNode cols).length = cols.length := by
  have hne' : cols.map maxAbs ≠ [] := by simpa using hne
  obtain ⟨hub, m, hm, hM⟩ := maxAbs_spec (cols.map maxAbs) hne'
  have hnonneg : ∀ c ∈ cols, 0 ≤ maxAbs c := by
    intro c hc
    obtain ⟨x, -, hx⟩ := (maxAbs_spec c (hcol c hc)).2
    rw [hx]; exact abs_nonneg x
  refine ⟨fun c hc x hx => ?_, ?_, by simp [maxAbsPerNode]⟩
  · have h1 := (maxAbs_spec c (hcol c hc)).1 x hx
    have h2 := hub (maxAbs c) (List.mem_map.mpr ⟨c, hc, rfl⟩)
    rw [abs_of_nonneg (hnonneg c hc)] at h2
    exact le_trans h1 h2
  · obtain ⟨c, hc, rfl⟩ := List.mem_map.mp hm
    obtain ⟨x, hx, hx'⟩ := (maxAbs_spec c (hcol c hc)).2
    refine ⟨c, hc, x, hx, ?_⟩
    show maxAbs (cols.map maxAbs) = |x|
    rw [hM, abs_of_nonneg (hnonneg c hc), hx']

/-! ## safety index -/

/-- **Partial.**  Full statement: `compute_beta P_A = −Φ⁻¹(P_A)` for the standard normal distribution
function `Φ` and every `P_A ∈ (0, 0.5]`.  Proved: for ANY strictly increasing `Φ`, the residual `x ↦ |Φ(x) − P_A|`
vanishes exactly at the solutions of `Φ(x) = P_A`, there is at most one, and for that `x` the returned value is
`β = −x`; with the symmetry `Φ(−x) = 1 − Φ(x)` this gives `Φ(β) = 1 − P_A` and `β ≥ 0` for `P_A ≤ 1/2`.  Missing: that
the `x` the code obtains, `scipy.stats.norm.ppf(P_A)`, IS that solution for the standard normal `Φ`: that this
special-function routine is `Φ⁻¹` is a runtime fact, measured by the correspondence check against an independent
quantile.  (The residual is stated because /repo before commit 763ab65 ran a root search on it, which fails for some
`P_A`: finding `beta-root-search-fails`, DESIGN section 5.) -/
theorem beta_is_neg_quantile_partial (Φ : ℝ → ℝ) (hΦ : StrictMono Φ) (PA x : ℝ) :
    (|Φ x - PA| = 0 ↔ Φ x = PA) ∧
    (Φ x = PA → (∀ y, Φ y = PA → y = x) ∧ betaOfRoot x = -x ∧
      ((∀ t, Φ (-t) = 1 - Φ t) → Φ (betaOfRoot x) = 1 - PA ∧ (PA ≤ 1 / 2 → 0 ≤ betaOfRoot x))) := by
  have hb : betaOfRoot x = -x := by simp only [betaOfRoot, lit_one, div_one]
  refine ⟨by rw [abs_eq_zero, sub_eq_zero], fun hx => ⟨fun y hy => hΦ.injective (hy.trans hx.symm), hb, fun hsym => ?_⟩⟩
  rw [hb, hsym x, hx]
  refine ⟨rfl, fun hPA => ?_⟩
  by_contra hcon
  have hxpos : 0 < x := by linarith
  have h0 : Φ 0 = 1 / 2 := by have := hsym 0; rw [neg_zero] at this; linarith
  have := hΦ hxpos
  linarith

example : StrictMono (fun x : ℝ => x / 4 + 1 / 2) ∧ ∀ t : ℝ, (fun x : ℝ => x / 4 + 1 / 2) (-t) = 1 - (fun x : ℝ => x / 4 + 1 / 2) t := by
  constructor
  · intro a b hab; simp only; linarith
  · intro t; simp only; ring

end PylifeVerif.C09
