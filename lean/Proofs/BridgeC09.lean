/-
Bridge C09: the definitions that /verif/translate/closedform.py regenerates from the CURRENT source of
  src/pylife/strength/woehler_fkm_nonlinear.py      (Generated/WoehlerFkmNonlinear.lean)
  src/pylife/strength/fkm_load_distribution.py      (Generated/FkmLoadDistribution.lean)
  src/pylife/strength/fkm_nonlinear/constants.py    (Generated/FkmConstants.lean)
are equal, over ℝ, to the hand-written model `Model/FkmNonlinear.lean` that the theorems of `Proofs/C09.lean` are
about.  Every C09 theorem about `pramCalcN`, `pramCalcP`, `pramLifeLimit`, `prajCalcN`, `prajCalcP`, `prajLifeLimit`,
`getBeta`, `gammaL…`, `consts` therefore is a theorem about what the python source says now.  Editing a
coefficient, a comparison or a branch in the source changes the generated definition and these proofs stop compiling;
re-ordering summands / factors or renaming locals does not.  The `…Status` modules fail to build when the translator
could not translate a whitelisted function (a broken proof obligation).
-/
import Model.FkmNonlinear
import Proofs.BridgeTactics
import Generated.WoehlerFkmNonlinear
import Generated.WoehlerFkmNonlinearStatus
import Generated.FkmLoadDistribution
import Generated.FkmLoadDistributionStatus
import Generated.FkmConstants
import Generated.FkmConstantsStatus

-- `bridge` / `bridge_leaf` try alternatives of which some are unreachable or do nothing on a given goal
-- (`unusedTactic`, `unreachableTactic`, `unnecessarySeqFocus`); one `simp only` list serves several goals (`unusedSimpArgs`)
set_option linter.unusedTactic false
set_option linter.unreachableTactic false
set_option linter.unnecessarySeqFocus false
set_option linter.unusedSimpArgs false

namespace PylifeVerif.Bridge
open PylifeVerif PylifeVerif.FkmNl

/-- generated `Ext` (a number or `np.inf`) as the hand model's `Life` -/
def lifeOfExt : Generated.Ext ℝ → Life ℝ
  | .fin x => .finite x
  | .posInf => .inf

/-- `bridge` for `Ext`-valued results, compared through `lifeOfExt` -/
macro "bridge_ext" : tactic => `(tactic| ((try norm_num) <;>
  first
  | (split_ifs <;> simp only [lifeOfExt, Life.finite.injEq] <;> bridge_leaf)
  | (simp only [lifeOfExt, Life.finite.injEq] <;> bridge_leaf)))

/-! ## `woehler_fkm_nonlinear.py`: P_RAM curve -/

theorem pram_fatigue_life_limit_eq (c : PramCurve ℝ) :
    Generated.WoehlerCurvePRAM.fatigue_life_limit c.d1 c.d2 c.PZ c.PD = pramLifeLimit c := by
  simp only [Generated.WoehlerCurvePRAM.fatigue_life_limit, Generated.WoehlerCurvePRAM.fatigue_strength_limit,
    pramLifeLimit, transc_pow]
  norm_num

theorem pram_fatigue_strength_limit_eq (c : PramCurve ℝ) :
    Generated.WoehlerCurvePRAM.fatigue_strength_limit c.d1 c.d2 c.PZ c.PD = c.PD := by
  simp only [Generated.WoehlerCurvePRAM.fatigue_strength_limit]

theorem pram_calc_N_eq (c : PramCurve ℝ) (P : ℝ) :
    lifeOfExt (Generated.WoehlerCurvePRAM.calc_N c.d1 c.d2 c.PZ c.PD P) = pramCalcN c P := by
  (simp only [Generated.WoehlerCurvePRAM.calc_N, Generated.WoehlerCurvePRAM.fatigue_strength_limit,
    pramCalcN, pramN, transc_pow]) <;> bridge_ext

theorem pram_calc_P_RAM_eq (c : PramCurve ℝ) (N : ℝ) :
    Generated.WoehlerCurvePRAM.calc_P_RAM c.d1 c.d2 c.PZ c.PD N = pramCalcP c N := by
  -- `← pram_fatigue_life_limit_eq` turns the model's `pramLifeLimit c` into the generated `fatigue_life_limit`; then that is
  -- unfolded on both sides
  (simp only [Generated.WoehlerCurvePRAM.calc_P_RAM, ← pram_fatigue_life_limit_eq,
    Generated.WoehlerCurvePRAM.fatigue_life_limit, Generated.WoehlerCurvePRAM.fatigue_strength_limit,
    pramCalcP, transc_pow]) <;> bridge

/-! ## `woehler_fkm_nonlinear.py`: P_RAJ curve -/

theorem praj_limits_eq (c : PrajCurve ℝ) :
    Generated.WoehlerCurvePRAJ.init_P_RAJ_D c.d c.PZ c.PD0 c.PD = c.PD0 ∧
    Generated.WoehlerCurvePRAJ.fatigue_strength_limit c.d c.PZ c.PD0 c.PD = c.PD0 ∧
    Generated.WoehlerCurvePRAJ.fatigue_strength_limit_final c.d c.PZ c.PD0 c.PD = c.PD ∧
    Generated.WoehlerCurvePRAJ.fatigue_life_limit c.d c.PZ c.PD0 c.PD = prajLifeLimit c ∧
    Generated.WoehlerCurvePRAJ.fatigue_life_limit_final c.d c.PZ c.PD0 c.PD = prajLifeLimitFinal c := by
  simp only [Generated.WoehlerCurvePRAJ.init_P_RAJ_D, Generated.WoehlerCurvePRAJ.fatigue_strength_limit,
    Generated.WoehlerCurvePRAJ.fatigue_strength_limit_final, Generated.WoehlerCurvePRAJ.fatigue_life_limit,
    Generated.WoehlerCurvePRAJ.fatigue_life_limit_final, prajLifeLimit, prajLifeLimitFinal, transc_pow]
  norm_num

/-- `calc_N(P_RAJ)` with the stored `_P_RAJ_D` (`P_RAJ_D=None`) -/
theorem praj_calc_N_eq (c : PrajCurve ℝ) (P : ℝ) :
    lifeOfExt (Generated.WoehlerCurvePRAJ.calc_N c.d c.PZ c.PD0 c.PD P none) = prajCalcN c P := by
  (simp only [Generated.WoehlerCurvePRAJ.calc_N, prajCalcN, prajN, transc_pow, Option.getD_none]) <;> bridge_ext

/-- `calc_N(P_RAJ, P_RAJ_D)` with an explicit endurance value = the curve whose `_P_RAJ_D` is that value -/
theorem praj_calc_N_explicit_eq (c : PrajCurve ℝ) (P x : ℝ) :
    lifeOfExt (Generated.WoehlerCurvePRAJ.calc_N c.d c.PZ c.PD0 c.PD P (some x)) = prajCalcN { c with PD := x } P := by
  (simp only [Generated.WoehlerCurvePRAJ.calc_N, prajCalcN, prajN, transc_pow, Option.getD_some]) <;> bridge_ext

theorem praj_calc_P_RAJ_eq (c : PrajCurve ℝ) (N : ℝ) :
    Generated.WoehlerCurvePRAJ.calc_P_RAJ c.d c.PZ c.PD0 c.PD N = prajCalcP c N := by
  (simp only [Generated.WoehlerCurvePRAJ.calc_P_RAJ, Generated.WoehlerCurvePRAJ.fatigue_life_limit,
    Generated.WoehlerCurvePRAJ.fatigue_strength_limit, prajCalcP, prajLifeLimit, transc_pow]) <;> bridge

/-! ## `fkm_load_distribution.py`: β table and the three `gamma_L` -/

theorem np_isclose_iff (a b : ℝ) : Generated.np_isclose a b ↔ isclose a b := by
  simp only [Generated.np_isclose, isclose]

theorem beta_table_eq : (Generated.FKMLoadSequence.P_A_beta_list : List (ℝ × ℝ)) = betaTable := by
  simp only [Generated.FKMLoadSequence.P_A_beta_list, betaTable, List.cons.injEq, Prod.mk.injEq, and_true]
  norm_num

theorem get_beta_eq (PA : ℝ) : Generated.FKMLoadSequence._get_beta PA = getBeta PA := by
  (simp only [Generated.FKMLoadSequence._get_beta, getBeta, getBetaIn, betaTable, np_isclose_iff]) <;> bridge

theorem gamma_L_normal_eq (PA PL sL Lmax : ℝ) :
    (Generated.FKMLoadSequence._get_beta PA).map
      (fun β => Generated.FKMLoadDistributionNormal.gamma_L PL sL β Lmax) = gammaLNormal PA PL sL Lmax := by
  rw [get_beta_eq]
  simp only [gammaLNormal]
  congr 1
  funext β
  (simp only [Generated.FKMLoadDistributionNormal.gamma_L, alphaL, np_isclose_iff]) <;> bridge

theorem gamma_L_lognormal_eq (PA PL LSDs : ℝ) :
    (Generated.FKMLoadSequence._get_beta PA).map
      (fun β => Generated.FKMLoadDistributionLognormal.gamma_L PL LSDs β) = gammaLLognormal PA PL LSDs := by
  rw [get_beta_eq]
  simp only [gammaLLognormal]
  congr 1
  funext β
  (simp only [Generated.FKMLoadDistributionLognormal.gamma_L, Generated.py_max, alphaL, np_isclose_iff, transc_pow]) <;> bridge

theorem gamma_L_blanket_eq (PL : ℝ) :
    Generated.FKMLoadDistributionBlanket.gamma_L PL = gammaLBlanket PL := by
  (simp only [Generated.FKMLoadDistributionBlanket.gamma_L, gammaLBlanket, np_isclose_iff]) <;> bridge

/-! ## `fkm_nonlinear/constants.py`: the table -/

/-- the column name of a material group in `all_constants` -/
def groupName : Group → String
  | .Steel => "Steel"
  | .SteelCast => "SteelCast"
  | .AlWrought => "Al_wrought"

/-- the keys of `all_constants` in the order of `Consts.toList` -/
def constKeys : List String :=
  ["E", "n_prime", "a_sigma", "a_epsilon", "b_sigma", "b_epsilon", "epsilon_grenz",
   "f_25percent_damage_woehler", "a_PZ_RAM", "b_PZ_RAM", "a_PD_RAM", "b_PD_RAM", "d_1", "d_2",
   "f_25percent_material_woehler_FKM_nonlinear_RAM", "f_25percent_material_woehler_FKM_roughness_RAM",
   "k_st", "a_RP", "b_RP", "R_m_N_min", "a_M", "b_M", "R_m_bm", "d_RAJ",
   "f_25percent_material_woehler_FKM_nonlinear_RAJ", "f_25percent_material_woehler_FKM_roughness_RAJ",
   "a_PZ_RAJ", "b_PZ_RAJ", "a_PD_RAJ", "b_PD_RAJ"]

/-- an entry of the generated table as the hand model carries it: `none` for `np.inf` and for a missing key (NaN) -/
def entry (tab : List (String × List (String × Generated.Ext ℝ))) (col key : String) : Option ℝ :=
  match (tab.lookup col).bind (fun rows => rows.lookup key) with
  | some (.fin x) => some x
  | _ => none

/-- the keys of `all_constants` that enter C09 (`Guideline.row` of `Proofs/C09.lean`, same order) -/
def c09Keys : List String :=
  ["E", "a_M", "b_M", "d_1", "d_2", "a_PZ_RAM", "b_PZ_RAM", "a_PD_RAM", "b_PD_RAM",
   "d_RAJ", "a_PZ_RAJ", "b_PZ_RAJ", "a_PD_RAJ", "b_PD_RAJ"]

/-- the generated copy of `all_constants` (what `constants.py` says now) carries, for the keys C09 reads, the values of the
hand model (which `C09.constants_eq_guideline` ties to the guideline's table).  The comparison of the WHOLE table
(`constants_eq`, `constants_keys_complete`) lives in `Proofs/BridgeConstsAll.lean`: the remaining keys (`k_st`, `a_RP`, `f_25…`,
…) are read by the assessment (C10) only, an edit there is not a C09 matter. -/
theorem constants_eq_c09 (g : Group) :
    c09Keys.map (entry Generated.all_constants (groupName g)) =
      [some (consts g : Consts ℝ).E, some (consts g).a_M, some (consts g).b_M, some (consts g).d_1, some (consts g).d_2,
       some (consts g).a_PZ_RAM, some (consts g).b_PZ_RAM, some (consts g).a_PD_RAM, some (consts g).b_PD_RAM,
       some (consts g).d_RAJ, some (consts g).a_PZ_RAJ, some (consts g).b_PZ_RAJ, some (consts g).a_PD_RAJ,
       some (consts g).b_PD_RAJ] := by
  cases g <;>
    simp only [c09Keys, groupName, entry, Generated.all_constants, consts, List.lookup, List.map,
      String.reduceBEq, Option.bind] <;>
    norm_num

end PylifeVerif.Bridge
