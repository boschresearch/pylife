/-
3×3 linear algebra over ℝ for the mesh operators of `Model/Mesh.lean`: `inv3` inverts, cross and triple product, the
element gradient `gradVec` of an isoparametric element on a linear field, the normal matrix `AᵀA` as a sum over rows and
its kernel.
-/
import Model.Mesh
import Proofs.Literals
import Mathlib.Tactic.Ring
import Mathlib.Algebra.BigOperators.Ring.List
import Mathlib.Algebra.Order.BigOperators.Group.List

namespace PylifeVerif.Mesh

theorem V3.eq_of (a b : V3 ℝ) (hx : a.x = b.x) (hy : a.y = b.y) (hz : a.z = b.z) : a = b := by
  cases a; cases b; simp_all

/-- The two spellings of "`n` is the zero vector": the rank hypotheses and the kernel lemmas compare with `⟨0, 0, 0⟩`;
the planar and line cases of `lstsq3` ask `n.dot n ≠ 0`, since their formulas divide by `n.dot n`. -/
theorem V3.dot_self_eq_zero_iff {n : V3 ℝ} : n.dot n = 0 ↔ n = ⟨0, 0, 0⟩ := by
  obtain ⟨x, y, z⟩ := n
  rw [V3.dot, V3.mk.injEq, add_eq_zero_iff_of_nonneg (add_nonneg (mul_self_nonneg x) (mul_self_nonneg y))
    (mul_self_nonneg z), mul_self_add_mul_self_eq_zero, mul_self_eq_zero, and_assoc]

-- the two float literals of `Model/Mesh.lean` are in the `simp` set of the mesh files
attribute [simp] lit_zero lit_one

theorem isZero_iff (x : ℝ) : isZero x = true ↔ x = 0 := by
  simp only [isZero, lit_zero, Bool.and_eq_true, decide_eq_true_eq]
  exact ⟨fun h => le_antisymm h.1 h.2, fun h => by simp [h]⟩

theorem isZero_false_iff (x : ℝ) : isZero x = false ↔ x ≠ 0 := by
  rw [Ne, ← isZero_iff]; simp

theorem sumMap_eq_sum {β : Type} (f : β → ℝ) (l : List β) : sumMap f l = (l.map f).sum := by
  rw [sumMap, lit_zero, List.sum_eq_foldl, List.foldl_map]

/-- `(gᵀ m) m⁻¹ = gᵀ`, component `k`. -/
theorem row_mul_inv3 (m : M3 ℝ) (hd : det3 m ≠ 0) (g : V3 ℝ) (k : Nat) :
    (g.x * m.a11 + g.y * m.a21 + g.z * m.a31) * (inv3 m).get 0 k
      + (g.x * m.a12 + g.y * m.a22 + g.z * m.a32) * (inv3 m).get 1 k
      + (g.x * m.a13 + g.y * m.a23 + g.z * m.a33) * (inv3 m).get 2 k
      = match k with | 0 => g.x | 1 => g.y | _ => g.z := by
  -- one fraction over `det3 m` on the left, cleared before the determinant is expanded
  rcases k with _ | _ | k <;> simp only [inv3, M3.get, mul_div_assoc', ← add_div] <;> rw [div_eq_iff hd] <;>
    simp only [det3] <;> ring

theorem inv3_mulVec_mulVec (m : M3 ℝ) (hd : det3 m ≠ 0) (v : V3 ℝ) : (inv3 m).mulVec (m.mulVec v) = v := by
  apply V3.eq_of <;> simp only [inv3, M3.mulVec, div_mul_eq_mul_div, ← add_div] <;> rw [div_eq_iff hd] <;>
    simp only [det3] <;> ring

theorem mulVec_inv3_mulVec (m : M3 ℝ) (hd : det3 m ≠ 0) (v : V3 ℝ) : m.mulVec ((inv3 m).mulVec v) = v := by
  apply V3.eq_of <;> simp only [inv3, M3.mulVec, div_mul_eq_mul_div, mul_div_assoc', ← add_div] <;>
    rw [div_eq_iff hd] <;> simp only [det3] <;> ring

/-- An invertible matrix has trivial kernel.  The converse, a singular one has a kernel vector `≠ ⟨0, 0, 0⟩`, is
`exists_mulVec_eq_zero_of_det3` of `MeshRank` (it needs Mathlib's matrices). -/
theorem eq_zero_of_mulVec_eq_zero (m : M3 ℝ) (hd : det3 m ≠ 0) (v : V3 ℝ) (h : m.mulVec v = ⟨0, 0, 0⟩) :
    v = ⟨0, 0, 0⟩ := by
  rw [← inv3_mulVec_mulVec m hd v, h]
  simp [M3.mulVec]

def V3.cross (a b : V3 ℝ) : V3 ℝ := ⟨a.y * b.z - a.z * b.y, a.z * b.x - a.x * b.z, a.x * b.y - a.y * b.x⟩

/-- `u · (v × w)`: six times the signed volume of the tetrahedron spanned by `u, v, w`. -/
def triple (u v w : V3 ℝ) : ℝ := u.dot (v.cross w)

theorem det3_cols (u v w : V3 ℝ) : det3 ⟨u.x, v.x, w.x, u.y, v.y, w.y, u.z, v.z, w.z⟩ = triple u v w := by
  simp only [det3, triple, V3.dot, V3.cross]; ring

theorem eq_zero_of_dot_eq_zero (a b c v : V3 ℝ) (ht : triple a b c ≠ 0)
    (ha : a.dot v = 0) (hb : b.dot v = 0) (hc : c.dot v = 0) : v = ⟨0, 0, 0⟩ := by
  -- the matrix with rows `a, b, c` maps `v` to `(a·v, b·v, c·v)`
  refine eq_zero_of_mulVec_eq_zero ⟨a.x, a.y, a.z, b.x, b.y, b.z, c.x, c.y, c.z⟩ ?_ v
    (congr (congr (congrArg V3.mk ha) hb) hc)
  convert ht using 1
  simp only [det3, triple, V3.dot, V3.cross]; ring

/-- `Σₐ wₐ · d (k + a) j` over the nodal weights `ws`; with `k = 0` the sum `Σₐ wₐ ∂φₐ/∂ξⱼ` that `gradComp` forms of the
nodal values.  Through it `gradComp`, the Jacobians and the shape functions are compared. -/
def shapeSum (d : Nat → Nat → ℝ) (j : Nat) : Nat → List ℝ → ℝ
  | _, [] => 0
  | k, w :: ws => w * d k j + shapeSum d j (k + 1) ws

theorem gradComp_eq (fs : List ℝ) (d : Nat → Nat → ℝ) (jinv : M3 ℝ) (k : Nat) :
    gradComp fs d jinv k =
      shapeSum d 0 0 fs * jinv.get 0 k + shapeSum d 1 0 fs * jinv.get 1 k + shapeSum d 2 0 fs * jinv.get 2 k := by
  suffices h : ∀ s, (((List.range' s fs.length).zip fs).map fun af =>
      af.2 * sumMap (fun j => d af.1 j * jinv.get j k) [0, 1, 2]).sum =
        shapeSum d 0 s fs * jinv.get 0 k + shapeSum d 1 s fs * jinv.get 1 k + shapeSum d 2 s fs * jinv.get 2 k by
    rw [gradComp, sumMap_eq_sum, List.range_eq_range', h]
  intro s
  induction fs generalizing s with
  | nil => simp [shapeSum]
  | cons f fs ih =>
    simp only [List.length_cons, List.range'_succ, List.zip_cons_cons, List.map_cons, List.sum_cons, ih, shapeSum]
    simp [sumMap]
    ring

theorem shapeSum_linear (d : Nat → Nat → ℝ) (j : Nat) (g : V3 ℝ) (c : ℝ) (cs : List (Corner ℝ)) (k : Nat) :
    shapeSum d j k (cs.map fun q => g.dot q.p + c) =
      g.x * shapeSum d j k (cs.map (·.p.x)) + g.y * shapeSum d j k (cs.map (·.p.y))
        + g.z * shapeSum d j k (cs.map (·.p.z)) + c * shapeSum d j k (cs.map fun _ => 1) := by
  induction cs generalizing k with
  | nil => simp [shapeSum]
  | cons q cs ih =>
    simp only [List.map_cons, shapeSum, ih]
    simp only [V3.dot]
    ring

/-- The Jacobian `J[m,j] = Σₐ (pₐ)ₘ ∂φₐ/∂ξⱼ` of the isoparametric map of an element with corners `cs` and shape-function
derivatives `d a j`. -/
def isoJ (cs : List (Corner ℝ)) (d : Nat → Nat → ℝ) : M3 ℝ :=
  ⟨shapeSum d 0 0 (cs.map (·.p.x)), shapeSum d 1 0 (cs.map (·.p.x)), shapeSum d 2 0 (cs.map (·.p.x)),
   shapeSum d 0 0 (cs.map (·.p.y)), shapeSum d 1 0 (cs.map (·.p.y)), shapeSum d 2 0 (cs.map (·.p.y)),
   shapeSum d 0 0 (cs.map (·.p.z)), shapeSum d 1 0 (cs.map (·.p.z)), shapeSum d 2 0 (cs.map (·.p.z))⟩

/-- An isoparametric element whose shape functions sum to a constant (`hunit`) differentiates `f = g·x + c` exactly:
`Σₐ fₐ ∂φₐ/∂ξⱼ` is linear in `f`, on the coordinate functions it is a column of `J`, on constants it is 0. -/
theorem gradVec_linear (cs : List (Corner ℝ)) (d : Nat → Nat → ℝ) (g : V3 ℝ) (c : ℝ)
    (hlin : ∀ q ∈ cs, q.f = g.dot q.p + c) (hdet : det3 (isoJ cs d) ≠ 0)
    (hunit : ∀ j < 3, shapeSum d j 0 (cs.map fun _ => 1) = 0) :
    gradVec (cs.map (·.f)) d (inv3 (isoJ cs d)) = g := by
  rw [List.map_congr_left hlin]
  apply V3.eq_of <;> simp only [gradVec, gradComp_eq, shapeSum_linear, hunit 0 (by omega), hunit 1 (by omega),
    hunit 2 (by omega), mul_zero, add_zero]
  · exact row_mul_inv3 _ hdet g 0
  · exact row_mul_inv3 _ hdet g 1
  · exact row_mul_inv3 _ hdet g 2

/-- `M n` as a sum over the rows: the bilinear identity behind every statement about `normalMatrix`. -/
theorem normalMatrix_mulVec_eq (A : List (V3 ℝ)) (n : V3 ℝ) :
    (normalMatrix A).mulVec n =
      ⟨(A.map fun a => a.x * a.dot n).sum, (A.map fun a => a.y * a.dot n).sum, (A.map fun a => a.z * a.dot n).sum⟩ := by
  simp only [normalMatrix, M3.mulVec, sumMap_eq_sum, V3.dot, ← List.sum_map_mul_right, ← List.sum_map_add, mul_add,
    mul_assoc]

theorem normalRhs_linear (A : List (V3 ℝ)) (g : V3 ℝ) :
    normalRhs (A.map fun a => (a, a.dot g)) = (normalMatrix A).mulVec g := by
  simp only [normalMatrix_mulVec_eq, normalRhs, sumMap_eq_sum, List.map_map, Function.comp_def]

theorem sum_sq_eq_quadform (A : List (V3 ℝ)) (w : V3 ℝ) :
    (A.map fun a => (a.dot w) ^ 2).sum = w.dot ((normalMatrix A).mulVec w) := by
  simp only [normalMatrix_mulVec_eq, V3.dot, ← List.sum_map_mul_left, ← List.sum_map_add]
  exact congrArg List.sum (List.map_congr_left fun a _ => by ring)

/-- The kernel of `AᵀA` is the orthogonal complement of the rows of `A`: `nᵀ(AᵀA)n = Σ (a·n)²`. -/
theorem normalMatrix_mulVec_eq_zero_iff (A : List (V3 ℝ)) (n : V3 ℝ) :
    (normalMatrix A).mulVec n = ⟨0, 0, 0⟩ ↔ ∀ a ∈ A, a.dot n = 0 := by
  refine ⟨fun h a ha => ?_, fun h => ?_⟩
  · have hq : (A.map fun a => (a.dot n) ^ 2).sum = 0 := by
      rw [sum_sq_eq_quadform, h]; simp [V3.dot]
    exact pow_eq_zero_iff two_ne_zero |>.1 (List.all_zero_of_le_zero_le_of_sum_eq_zero
      (List.forall_mem_map.2 fun a _ => sq_nonneg (a.dot n)) hq (List.mem_map_of_mem ha))
  · rw [normalMatrix_mulVec_eq]
    apply V3.eq_of <;> exact List.sum_eq_zero (List.forall_mem_map.2 fun a ha => by rw [h a ha, mul_zero])

end PylifeVerif.Mesh
