/-
C04 (periodic rainflow): the cyclic reversal word `Spec.cyclicReversals` is, up to rotation, invariant
under rotation of the input (`cyclicReversals_rotate`) and under insertion of an intermediate value
between two neighbours (`cyclicReversals_insert`), and it alternates strictly round the cycle
(`cyclicReversals_zig`).
Route: `cyclicReversals s = crev (cdedup s)` (`cyclicReversals_eq`), where `crev d` is the
sliding-window extremum filter `ext3` applied to `last :: d ++ [head]`; `ext3 ∘ dedup` of a plain word
(its interior reversals) are the values of its turning points (`vals_findTurns`), whence the alternation.
Cut at a reversal `z`, the cyclic word is `z` followed by the interior reversals of the closed word
`z … z` (`cyclicReversals_cut`).
-/
import Model.HCMSpec
import Proofs.Lemmas.PeriodicAlt
import Proofs.Lemmas.Turns
import Mathlib.Data.List.Rotate
import Mathlib.Data.List.Chain
namespace PylifeVerif.C04
open PylifeVerif.HCM PylifeVerif.HCM.Spec

def ext (p v q : Int) : Prop := (p < v ∧ q < v) ∨ (p > v ∧ q > v)
instance (p v q : Int) : Decidable (ext p v q) := by unfold ext; exact inferInstance

/-- what the window `p v q` contributes to `ext3` -/
def g (p v q : Int) : List Int := if ext p v q then [v] else []

theorem g_of_ext {p v q : Int} (h : ext p v q) : g p v q = [v] := if_pos h
theorem g_of_not_ext {p v q : Int} (h : ¬ ext p v q) : g p v q = [] := if_neg h

/-- sliding-window filter: the interior strict local extrema of a word -/
def ext3 : List Int → List Int
  | p :: v :: q :: rest =>
    (if (p < v ∧ q < v) ∨ (p > v ∧ q > v) then [v] else []) ++ ext3 (v :: q :: rest)
  | _ => []

@[simp] theorem ext3_nil : ext3 [] = [] := rfl
@[simp] theorem ext3_one (a : Int) : ext3 [a] = [] := rfl
@[simp] theorem ext3_two (a b : Int) : ext3 [a, b] = [] := rfl
@[simp] theorem ext3_cons3 (p v q : Int) (r : List Int) :
    ext3 (p :: v :: q :: r) = g p v q ++ ext3 (v :: q :: r) := rfl

theorem ext3_append_pair (A B : List Int) (p q : Int) :
    ext3 (A ++ p :: q :: B) = ext3 (A ++ [p, q]) ++ ext3 (p :: q :: B) := by
  induction A with
  | nil => simp
  | cons a A ih =>
    match A, ih with
    | [], _ => simp
    | [b], _ => simp
    | b :: c :: A, ih =>
      simp only [List.cons_append, ext3_cons3, List.append_assoc] at ih ⊢
      rw [ih]

theorem ext3_range (L : List Int) :
    ext3 L = (List.range (L.length - 2)).filterMap
      (fun i => if ext L[i]! L[i+1]! L[i+2]! then some L[i+1]! else none) := by
  match L with
  | [] => rfl
  | [a] => rfl
  | [a, b] => rfl
  | p :: v :: q :: rest =>
    rw [ext3_cons3, ext3_range (v :: q :: rest)]
    show _ = (List.range (rest.length + 1)).filterMap _
    rw [List.range_succ_eq_map, List.filterMap_cons, List.filterMap_map]
    -- the window at `0` is `p v q`, the windows at `i + 1` are those of the tail: both by computation
    by_cases h : ext p v q
    · have h' : ext (p :: v :: q :: rest)[0]! (p :: v :: q :: rest)[0+1]! (p :: v :: q :: rest)[0+2]! := h
      rw [if_pos h', g, if_pos h]
      rfl
    · have h' : ¬ ext (p :: v :: q :: rest)[0]! (p :: v :: q :: rest)[0+1]! (p :: v :: q :: rest)[0+2]! := h
      rw [if_neg h', g, if_neg h]
      rfl

/-- the cyclic word without repetitions: `Spec.dedup`, and a last element that repeats the first is dropped -/
def cdedup (s : List Int) : List Int :=
  let d := dedup s
  if d.length > 1 ∧ d.head? = d.getLast? then d.dropLast else d

/-- the strict extrema of the cyclic word `d`: `ext3` of `d` between its last and its first element -/
def crev (d : List Int) : List Int :=
  if d.length < 2 then d else ext3 (d.getLast?.getD 0 :: d ++ [d.head?.getD 0])

theorem idx0 (d : List Int) (i : Nat) (hi : i < d.length) :
   (d.getLast?.getD 0 :: d ++ [d.head?.getD 0])[i]! = d.toArray[(i + d.length - 1) % d.length]! := by
  rcases i with _ | i
  · have : (0 + d.length - 1) % d.length = d.length - 1 := by
      rw [Nat.zero_add]; exact Nat.mod_eq_of_lt (by omega)
    rw [this]
    simp [List.getLast?_eq_getElem?]
  · have : (i + 1 + d.length - 1) % d.length = i := by
      have : i + 1 + d.length - 1 = i + d.length := by omega
      rw [this, Nat.add_mod_right]; exact Nat.mod_eq_of_lt (by omega)
    rw [this]
    have hi' : i < d.length := by omega
    simp [List.getElem?_append_left hi']

theorem idx1 (d : List Int) (i : Nat) (hi : i < d.length) :
   (d.getLast?.getD 0 :: d ++ [d.head?.getD 0])[i+1]! = d.toArray[i]! := by
  simp [List.getElem?_append_left hi]

theorem idx2 (d : List Int) (i : Nat) (hi : i < d.length) :
   (d.getLast?.getD 0 :: d ++ [d.head?.getD 0])[i+2]! = d.toArray[(i + 1) % d.length]! := by
  by_cases h : i + 1 < d.length
  · rw [Nat.mod_eq_of_lt h]
    simp [List.getElem?_append_left h]
  · have : i + 1 = d.length := by omega
    rw [this, Nat.mod_self]
    simp [← this, List.head?_eq_getElem?]

theorem crev_range (d : List Int) :
    ext3 (d.getLast?.getD 0 :: d ++ [d.head?.getD 0]) =
    (List.range d.length).filterMap fun i =>
      let p := d.toArray[(i + d.length - 1) % d.length]!
      let v := d.toArray[i]!
      let q := d.toArray[(i + 1) % d.length]!
      if (p < v ∧ q < v) ∨ (p > v ∧ q > v) then some v else none := by
  rw [ext3_range]
  have : (d.getLast?.getD 0 :: d ++ [d.head?.getD 0]).length - 2 = d.length := by simp
  rw [this]
  apply List.filterMap_congr
  intro i hi
  rw [List.mem_range] at hi
  rw [idx0 d i hi, idx1 d i hi, idx2 d i hi]
  rfl

theorem cyclicReversals_eq (s : List Int) : cyclicReversals s = crev (cdedup s) := by
  unfold cyclicReversals crev
  simp only []
  rw [← cdedup]
  split
  · rfl
  · rw [crev_range]

@[simp] theorem dedup_nil : dedup [] = [] := by simp [dedup]
@[simp] theorem dedup_one (a : Int) : dedup [a] = [a] := by simp [dedup]
theorem dedup_cons_cons (a b : Int) (r : List Int) :
    dedup (a :: b :: r) = if a = b then dedup (b :: r) else a :: dedup (b :: r) := by
  rw [dedup]

theorem head?_dedup (t : List Int) : (dedup t).head? = t.head? := by
  fun_induction dedup t with
  | case1 a rest ih => simpa using ih
  | case2 a b rest h ih => simp
  | case3 l h => rfl

theorem dedup_head (x : Int) (xs : List Int) : ∃ D, dedup (x :: xs) = x :: D := by
  have h := head?_dedup (x :: xs)
  cases hd : dedup (x :: xs) with
  | nil => rw [hd] at h; simp at h
  | cons a D =>
    rw [hd] at h
    simp only [List.head?_cons, Option.some.injEq] at h
    exact ⟨D, by rw [h]⟩

theorem getLast?_dedup (l : List Int) : (dedup l).getLast? = l.getLast? := by
  fun_induction dedup l with
  | case1 a rest ih => rw [ih, List.getLast?_cons_cons]
  | case2 a b rest h ih =>
    obtain ⟨D, hD⟩ := dedup_head b rest
    rw [hD] at ih ⊢
    rw [List.getLast?_cons_cons, ih, List.getLast?_cons_cons]
  | case3 l h => rfl

theorem mem_of_mem_dedup (l : List Int) : ∀ x ∈ dedup l, x ∈ l := by
  fun_induction dedup l with
  | case1 a rest ih => exact fun x hx => List.mem_cons_of_mem _ (ih x hx)
  | case2 a b rest h ih =>
    intro x hx
    rcases List.mem_cons.1 hx with rfl | hx
    · simp
    · exact List.mem_cons_of_mem _ (ih x hx)
  | case3 l h => exact fun x hx => hx

theorem dedup_cons (x : Int) (t : List Int) :
    dedup (x :: t) = if t.head? = some x then dedup t else x :: dedup t := by
  cases t with
  | nil => simp
  | cons b r =>
    rw [dedup_cons_cons]
    simp [eq_comm]

theorem dedup_eq_nil (t : List Int) : dedup t = [] ↔ t = [] := by
  constructor
  · intro h
    have := head?_dedup t
    rw [h] at this
    simpa using this.symm
  · rintro rfl; simp

theorem dedup_snoc (t : List Int) (x : Int) :
    dedup (t ++ [x]) = if (dedup t).getLast? = some x then dedup t else dedup t ++ [x] := by
  induction t with
  | nil => simp
  | cons a t ih =>
    rw [List.cons_append, dedup_cons, dedup_cons, ih]
    cases t with
    | nil => by_cases h : x = a <;> simp [h, eq_comm]
    | cons b r =>
      have hne : dedup (b :: r) ≠ [] := by simp [dedup_eq_nil]
      by_cases h1 : a = b <;> by_cases h2 : (dedup (b :: r)).getLast? = some x <;>
        simp [h1, h2, List.getLast?_cons_of_ne_nil hne, eq_comm]

theorem adjNe_dedup (t : List Int) : AdjNe (dedup t) := by
  fun_induction dedup t with
  | case1 a rest ih => exact ih
  | case2 a b rest h ih =>
    rw [AdjNe, List.isChain_cons]
    refine ⟨?_, ih⟩
    rw [head?_dedup]
    simpa using h
  | case3 l h =>
    match l, h with
    | [], _ => exact List.IsChain.nil
    | [a], _ => exact List.IsChain.singleton a
    | a :: b :: r, h => exact absurd rfl (h a b r)

/-! `ext3 (dedup L)`, the strict local extrema of the de-duplicated word with first and last sample left
out, obeys the recursion of the declarative reversals `C02.revList`: the second sample is one iff it
passes the local test `C02.isRevLocal`. -/

section
open PylifeVerif.Rainflow
open PylifeVerif.C02 (revList isRevLocal)

theorem dedup_cons_find (z : Int) (B : List Int) :
    match B.find? (· ≠ z) with
    | none => dedup (z :: B) = [z]
    | some q => ∃ E, dedup (z :: B) = z :: q :: E := by
  induction B with
  | nil => simp
  | cons b B ih =>
    by_cases hb : b = z
    · subst hb
      rw [dedup_cons_cons, if_pos rfl]
      simpa using ih
    · obtain ⟨E, hE⟩ := dedup_head b B
      simp only [List.find?_cons, hb, ne_eq, not_false_eq_true, decide_true]
      exact ⟨E, by rw [dedup_cons_cons, if_neg (Ne.symm hb), hE]⟩

theorem ext3_dedup_cons_cons (p v : Int) (post : List Int) :
    ext3 (dedup (p :: v :: post)) = (if isRevLocal p v post then [v] else []) ++ ext3 (dedup (v :: post)) := by
  by_cases hpv : p = v
  · subst hpv
    rw [dedup_cons_cons, if_pos rfl, if_neg (by simp [isRevLocal])]
    rfl
  · rw [dedup_cons_cons, if_neg hpv]
    have hd := dedup_cons_find v post
    have hr := @isRevLocal_iff p v post
    cases hf : post.find? (· ≠ v) with
    | none =>
      rw [hf] at hd hr
      rw [hd, if_neg (by simpa using hr)]
      rfl
    | some q =>
      rw [hf] at hd hr
      obtain ⟨E, hE⟩ := hd
      rw [hE, ext3_cons3, g]
      by_cases he : ext p v q
      · rw [if_pos he, if_pos (hr.2 ⟨q, rfl, he⟩)]
      · rw [if_neg he, if_neg (fun h => he (by obtain ⟨b, hb, hb'⟩ := hr.1 h; cases hb; exact hb'))]

theorem vals_revList : ∀ (L : List Int) (i : Nat), (revList i L).map (·.2) = ext3 (dedup L)
  | [], _ => rfl
  | [_], _ => rfl
  | p :: v :: post, i => by
    rw [revList, List.map_append, vals_revList (v :: post) (i + 1), ext3_dedup_cons_cons]
    split_ifs <;> rfl

theorem vals_findTurns (L : List Int) : (findTurns L).map (·.2) = ext3 (dedup L) := by
  rw [C02.findTurns_eq_revList, vals_revList]

end

theorem dedup_of_adjNe (l : List Int) (h : AdjNe l) : dedup l = l := by
  fun_induction dedup l with
  | case1 a rest ih => exact absurd rfl (List.isChain_cons_cons.1 h).1
  | case2 a b rest hab ih => rw [ih (List.isChain_cons_cons.1 h).2]
  | case3 l hl => rfl

/-- the interior strict extrema of a word without repetitions are its turning points, which alternate -/
theorem zig_ext3 (L : List Int) (h : AdjNe L) : Zig (ext3 L) := by
  cases L with
  | nil => exact ⟨true, trivial⟩
  | cons a xs =>
    have := Rainflow.findTurns_zig a xs
    rw [vals_findTurns, dedup_of_adjNe _ h] at this
    exact zig_infix [a] _ [] (by simpa using this)

/-- the junction rule of `cdedup` on an already deduplicated word -/
def cd (d : List Int) : List Int :=
  if d.length > 1 ∧ d.head? = d.getLast? then d.dropLast else d

theorem cdedup_eq (s : List Int) : cdedup s = cd (dedup s) := rfl

theorem cd_of_ne (d : List Int) (h : d.head? ≠ d.getLast?) : cd d = d := by
  simp [cd, h]
theorem cd_of_eq (d : List Int) (h1 : 1 < d.length) (h : d.head? = d.getLast?) :
    cd d = d.dropLast := by
  simp [cd, h, h1]

/-- `x` put before the word `D` without repetitions or behind it (`dedup_cons`, `dedup_snoc`: dropped where it repeats
its neighbour): the junction rule gives the same word, or two words that differ by moving `x` from the front to the
back. -/
theorem cd_rot1 (D : List Int) (x : Int) (hD : D ≠ []) :
    cd (if D.head? = some x then D else x :: D) = cd (if D.getLast? = some x then D else D ++ [x]) ∨
    ∃ E, cd (if D.head? = some x then D else x :: D) = x :: E ∧
         cd (if D.getLast? = some x then D else D ++ [x]) = E ++ [x] := by
  obtain ⟨D0, l, rfl⟩ := (List.eq_nil_or_concat' D).resolve_left hD
  have hl : (D0 ++ [l]).getLast? = some l := by simp
  have hxl : ∀ x : Int, (x :: (D0 ++ [l])).getLast? = some l := by
    intro x; simp [List.getLast?_cons]
  have hxd : ∀ x : Int, (x :: (D0 ++ [l])).dropLast = x :: D0 := by
    intro x; rw [← List.cons_append, List.dropLast_concat]
  by_cases h1 : (D0 ++ [l]).head? = some x <;> by_cases h2 : l = x
  · left; rw [if_pos h1, if_pos (by rw [hl, h2])]
  · left
    rw [if_pos h1, if_neg (by rw [hl]; simpa using h2)]
    rw [cd_of_ne _ (by rw [h1, hl]; simpa [eq_comm] using h2), cd_of_eq _ (by simp)]
    · simp
    · rw [List.head?_append_of_ne_nil _ hD, h1]; simp
  · right
    subst h2
    refine ⟨D0, ?_, ?_⟩
    · rw [if_neg h1, cd_of_eq _ (by simp) (by rw [hxl]; simp), hxd]
    · rw [if_pos hl, cd_of_ne _ (by rw [hl]; exact h1)]
  · right
    refine ⟨D0 ++ [l], ?_, ?_⟩
    · rw [if_neg h1, cd_of_ne]
      rw [hxl]; simpa [eq_comm] using h2
    · rw [if_neg (by rw [hl]; simpa using h2), cd_of_ne]
      rw [List.head?_append_of_ne_nil _ hD]; simpa using h1

/-- moving the first element to the end leaves the cyclic word without repetitions alone or rotates it by one -/
theorem cdedup_rot1 (x : Int) (t : List Int) :
    cdedup (x :: t) = cdedup (t ++ [x]) ∨
    ∃ E, cdedup (x :: t) = x :: E ∧ cdedup (t ++ [x]) = E ++ [x] := by
  by_cases ht : t = []
  · subst ht; left; simp
  · have := cd_rot1 (dedup t) x (by simpa [dedup_eq_nil] using ht)
    rw [cdedup_eq, cdedup_eq, dedup_cons, dedup_snoc, ← head?_dedup t]
    exact this

theorem crev_of_lt_two (d : List Int) (h : d.length < 2) : crev d = d := by
  rw [crev, if_pos h]

theorem crev_of_two_le (d : List Int) (h : 2 ≤ d.length) :
    crev d = ext3 (d.getLast?.getD 0 :: d ++ [d.head?.getD 0]) := by
  rw [crev, if_neg (by omega)]

/-- when `x` moves from the front to the back, its window `l x e0` moves with it; the other windows are those of the
closed word `x … x` on both sides -/
theorem crev_cons_snoc (x l e0 : Int) (E0 : List Int) (he : (E0 ++ [l]).head? = some e0) :
    crev (x :: (E0 ++ [l])) = g l x e0 ++ ext3 (x :: (E0 ++ [l]) ++ [x]) ∧
    crev ((E0 ++ [l]) ++ [x]) = ext3 (x :: (E0 ++ [l]) ++ [x]) ++ g l x e0 := by
  constructor
  · obtain ⟨E1, hE1⟩ : ∃ E1, E0 ++ [l] = e0 :: E1 := by
      cases E0 with
      | nil => exact ⟨[], by simpa using he⟩
      | cons a E0' => exact ⟨E0' ++ [l], by simpa using he⟩
    rw [crev_of_two_le _ (by simp)]
    have : (x :: (E0 ++ [l])).getLast?.getD 0 = l := by simp [List.getLast?_cons]
    rw [this, hE1]
    simp
  · rw [crev_of_two_le _ (by simp)]
    have h1 : ((E0 ++ [l]) ++ [x]).getLast?.getD 0 = x := by simp
    have h2 : ((E0 ++ [l]) ++ [x]).head?.getD 0 = e0 := by
      rw [List.head?_append_of_ne_nil _ (by simp), he]; rfl
    rw [h1, h2]
    have h3 : x :: (E0 ++ [l] ++ [x]) ++ [e0] = (x :: E0) ++ l :: x :: [e0] := by simp
    rw [h3, ext3_append_pair]
    have h4 : (x :: E0) ++ [l, x] = x :: (E0 ++ [l]) ++ [x] := by simp
    rw [h4]
    simp

theorem crev_rot1 (x : Int) (E : List Int) : crev (x :: E) ~r crev (E ++ [x]) := by
  rcases List.eq_nil_or_concat' E with rfl | ⟨E0, l, rfl⟩
  · exact List.IsRotated.refl _
  · obtain ⟨e0, he⟩ : ∃ e0, (E0 ++ [l]).head? = some e0 := by
      cases E0 <;> simp
    obtain ⟨h1, h2⟩ := crev_cons_snoc x l e0 E0 he
    rw [h1, h2]
    exact List.isRotated_append

theorem cyclicReversals_rot1 (x : Int) (t : List Int) :
    cyclicReversals (x :: t) ~r cyclicReversals (t ++ [x]) := by
  rw [cyclicReversals_eq, cyclicReversals_eq]
  rcases cdedup_rot1 x t with h | ⟨E, h1, h2⟩
  · rw [h]
  · rw [h1, h2]; exact crev_rot1 x E

theorem cyclicReversals_rotate (a b : List Int) :
    cyclicReversals (a ++ b) ~r cyclicReversals (b ++ a) := by
  induction a generalizing b with
  | nil => simpa using List.IsRotated.refl _
  | cons x a ih =>
    have h1 := cyclicReversals_rot1 x (a ++ b)
    have h2 := ih (b ++ [x])
    rw [List.append_assoc] at h1
    rw [List.append_assoc] at h2
    exact h1.trans h2

theorem adjNe_cd (D : List Int) (h : AdjNe D) : AdjNe (cd D) := by
  unfold cd; split
  · exact h.dropLast
  · exact h

theorem cd_cyc (D : List Int) (h : AdjNe D) (h2 : 2 ≤ (cd D).length) :
    (cd D).getLast? ≠ (cd D).head? := by
  by_cases hc : D.length > 1 ∧ D.head? = D.getLast?
  · rw [cd, if_pos hc] at h2 ⊢
    obtain ⟨hc1, hc2⟩ := hc
    rcases List.eq_nil_or_concat' D with rfl | ⟨D0, l, rfl⟩
    · simp at hc1
    rw [List.dropLast_concat] at h2 ⊢
    rcases List.eq_nil_or_concat' D0 with rfl | ⟨D1, l', rfl⟩
    · simp at h2
    have hne : l' ≠ l := by
      have h' : AdjNe (D1 ++ [l'] ++ [l]) := h
      simp at h'
      exact h'.2
    rw [List.head?_append_of_ne_nil _ (by simp), List.getLast?_concat] at hc2
    rw [hc2, List.getLast?_concat]
    simpa using hne
  · rw [cd, if_neg hc] at h2 ⊢
    intro he
    exact hc ⟨by omega, he.symm⟩

theorem adjNe_cdedup (s : List Int) : List.IsChain (fun a b : Int => a ≠ b) (cdedup s) :=
  adjNe_cd _ (adjNe_dedup s)

theorem cdedup_last_ne_head (s : List Int) (h : 2 ≤ (cdedup s).length) :
    (cdedup s).getLast? ≠ (cdedup s).head? :=
  cd_cyc _ (adjNe_dedup s) h

theorem crev_double (d0 t : List Int) (hd l : Int) (e : hd :: t = d0 ++ [l]) :
    ext3 (l :: (hd :: t) ++ [hd]) ++ ext3 (l :: (hd :: t) ++ [hd]) =
    ext3 (l :: ((hd :: t) ++ (hd :: t) ++ [hd])) := by
  have h1 : l :: ((hd :: t) ++ (hd :: t) ++ [hd]) = (l :: d0) ++ l :: hd :: (t ++ [hd]) := by
    have : (l :: d0) ++ l :: hd :: (t ++ [hd]) = l :: ((d0 ++ [l]) ++ (hd :: t) ++ [hd]) := by
      simp
    rw [this, ← e]
  have h2 : (l :: d0) ++ [l, hd] = l :: (hd :: t) ++ [hd] := by
    rw [e]; simp
  rw [h1, ext3_append_pair, h2]
  simp

theorem adjNe_double (t : List Int) (hd l : Int) (hc : AdjNe (hd :: t))
    (hl : (hd :: t).getLast? = some l) (hne : l ≠ hd) :
    AdjNe (l :: ((hd :: t) ++ (hd :: t) ++ [hd])) := by
  rw [AdjNe, List.isChain_cons, List.isChain_append, List.isChain_append]
  refine ⟨by simpa using hne, ⟨hc, hc, ?_⟩, List.IsChain.singleton _, ?_⟩
  · rw [hl]; simpa using hne
  · rw [List.getLast?_append_of_ne_nil _ (by simp), hl]; simpa using hne

theorem cyclicReversals_zig (s : List Int) (h : 2 ≤ (cyclicReversals s).length) :
    Zig (cyclicReversals s ++ cyclicReversals s) := by
  rw [cyclicReversals_eq] at h ⊢
  have hlen : 2 ≤ (cdedup s).length := by
    by_contra hc
    rw [crev_of_lt_two _ (by omega)] at h
    exact hc h
  have hadj := adjNe_cdedup s
  have hcyc := cdedup_last_ne_head s hlen
  rw [crev_of_two_le _ hlen]
  generalize cdedup s = d at *
  match d, hlen, hadj, hcyc with
  | hd :: t, hlen, hadj, hcyc =>
    obtain ⟨d0, l, e⟩ := (List.eq_nil_or_concat' (hd :: t)).resolve_left (List.cons_ne_nil _ _)
    have hl : (hd :: t).getLast? = some l := by rw [e]; simp
    have hne : l ≠ hd := by
      intro he; apply hcyc; rw [hl, he]; rfl
    rw [hl]
    show Zig (ext3 (l :: (hd :: t) ++ [hd]) ++ ext3 (l :: (hd :: t) ++ [hd]))
    rw [crev_double d0 t hd l e]
    exact zig_ext3 _ (adjNe_double t hd l hadj hl hne)

theorem g_congr (p v q p' q' : Int) (h : ext p v q ↔ ext p' v q') : g p v q = g p' v q' := by
  unfold g; rw [if_congr h rfl rfl]

theorem crev_insert (x v y : Int) (E : List Int)
    (hv : (x < v ∧ v < y) ∨ (y < v ∧ v < x)) :
    crev (x :: v :: y :: E) = crev (x :: y :: E) := by
  rw [crev_of_two_le _ (by simp), crev_of_two_le _ (by simp)]
  have h1 : (x :: v :: y :: E).getLast? = (y :: E).getLast? := by
    simp [List.getLast?_cons_cons]
  have h2 : (x :: y :: E).getLast? = (y :: E).getLast? := by
    simp [List.getLast?_cons_cons]
  rw [h1, h2]
  generalize (y :: E).getLast?.getD 0 = l
  obtain ⟨e0, E', he⟩ : ∃ e0 E', E ++ [x] = e0 :: E' := by
    cases E with
    | nil => exact ⟨x, [], rfl⟩
    | cons a E => exact ⟨a, E ++ [x], rfl⟩
  simp only [List.head?_cons, Option.getD_some, List.cons_append, he, ext3_cons3]
  have e1 : g x v y = [] := g_of_not_ext (by unfold ext; omega)
  have e2 : g l x v = g l x y := g_congr _ _ _ _ _ (by unfold ext; omega)
  have e3 : g v y e0 = g x y e0 := g_congr _ _ _ _ _ (by unfold ext; omega)
  rw [e1, e2, e3]
  simp

theorem cdedup_insert (x v y : Int) (R : List Int) (h1 : x ≠ v) (h2 : v ≠ y) (h3 : x ≠ y) :
    ∃ E, cdedup (x :: v :: y :: R) = x :: v :: y :: E ∧ cdedup (x :: y :: R) = x :: y :: E := by
  rw [cdedup_eq, cdedup_eq, dedup_cons_cons x v, if_neg h1, dedup_cons_cons v y, if_neg h2,
    dedup_cons_cons x y, if_neg h3]
  obtain ⟨F, hF⟩ := dedup_head y R
  rw [hF]
  have hl1 : (x :: v :: y :: F).getLast? = (y :: F).getLast? := by
    simp [List.getLast?_cons_cons]
  have hl2 : (x :: y :: F).getLast? = (y :: F).getLast? := by
    simp [List.getLast?_cons_cons]
  by_cases hc : (y :: F).getLast? = some x
  · obtain ⟨E, hE⟩ : ∃ E, F = E ++ [x] := by
      rcases List.eq_nil_or_concat' F with rfl | ⟨E, l, rfl⟩
      · simp at hc; exact absurd hc.symm h3
      · rw [← List.cons_append, List.getLast?_concat] at hc
        simp at hc
        exact ⟨E, by rw [hc]⟩
    subst hE
    have hd : (y :: (E ++ [x])).dropLast = y :: E := by
      rw [← List.cons_append, List.dropLast_concat]
    refine ⟨E, ?_, ?_⟩
    · rw [cd_of_eq _ (by simp) (by rw [hl1, hc]; rfl)]
      simpa using hd
    · rw [cd_of_eq _ (by simp) (by rw [hl2, hc]; rfl)]
      simpa using hd
  · refine ⟨F, ?_, ?_⟩
    · rw [cd_of_ne _ (by rw [hl1]; simpa [eq_comm] using hc)]
    · rw [cd_of_ne _ (by rw [hl2]; simpa [eq_comm] using hc)]

theorem cyclicReversals_insert_front (x v y : Int) (R : List Int)
    (hv : (x ≤ v ∧ v ≤ y) ∨ (y ≤ v ∧ v ≤ x)) :
    cyclicReversals (x :: v :: y :: R) = cyclicReversals (x :: y :: R) := by
  rw [cyclicReversals_eq, cyclicReversals_eq]
  by_cases h1 : x = v
  · subst h1
    rw [cdedup_eq, cdedup_eq, dedup_cons_cons x x, if_pos rfl]
  by_cases h2 : v = y
  · subst h2
    rw [cdedup_eq, cdedup_eq, dedup_cons_cons x v (v :: R), dedup_cons_cons v v, if_pos rfl,
      dedup_cons_cons x v R]
  have h3 : x ≠ y := by omega
  obtain ⟨E, e1, e2⟩ := cdedup_insert x v y R h1 h2 h3
  rw [e1, e2]
  exact crev_insert x v y E (by omega)

theorem cyclicReversals_insert (pre post : List Int) (x y v : Int)
    (hv : (x ≤ v ∧ v ≤ y) ∨ (y ≤ v ∧ v ≤ x)) :
    cyclicReversals (pre ++ x :: v :: y :: post) ~r cyclicReversals (pre ++ x :: y :: post) := by
  have h1 := cyclicReversals_rotate pre (x :: v :: y :: post)
  have h2 := cyclicReversals_rotate (x :: y :: post) pre
  have h3 := cyclicReversals_insert_front x v y (post ++ pre) hv
  simp only [List.cons_append] at h1 h2
  rw [h3] at h1
  exact h1.trans h2

theorem cyclicReversals_of_short (s : List Int) (h : (cdedup s).length < 2) :
    cyclicReversals s = cdedup s := by
  rw [cyclicReversals_eq, crev_of_lt_two _ h]

section
open PylifeVerif.Rainflow
open PylifeVerif.C02 (isRevLocal)

theorem dedup_append (A : List Int) (z : Int) (B : List Int) :
    dedup (A ++ z :: B) = dedup (A ++ [z]) ++ (dedup (z :: B)).tail := by
  induction A with
  | nil =>
    obtain ⟨D, hD⟩ := dedup_head z B
    simp [hD]
  | cons a A ih =>
    have hh : (A ++ z :: B).head? = (A ++ [z]).head? := by cases A <;> rfl
    rw [List.cons_append, List.cons_append, dedup_cons, dedup_cons, ih, hh]
    split_ifs <;> rfl

theorem ext3_dedup_split (A : List Int) (p z : Int) (B : List Int) (hp : A.getLast? = some p)
    (hr : isRevLocal p z B = true) :
    ext3 (dedup (A ++ z :: B)) = ext3 (dedup (A ++ [z])) ++ z :: ext3 (dedup (z :: B)) := by
  obtain ⟨q, hq, he⟩ := isRevLocal_iff.1 hr
  have hpz : p ≠ z := by omega
  obtain ⟨E, hE⟩ : ∃ E, dedup (z :: B) = z :: q :: E := by
    have := dedup_cons_find z B
    rwa [hq] at this
  obtain ⟨D0, hD0⟩ : ∃ D0, dedup A = D0 ++ [p] := by
    have := getLast?_dedup A
    rw [hp] at this
    rcases List.eq_nil_or_concat' (dedup A) with h | ⟨D0, l, h⟩
    · rw [h] at this; simp at this
    · rw [h, List.getLast?_concat] at this
      exact ⟨D0, by rw [h, Option.some.inj this]⟩
  rw [dedup_append, dedup_snoc, getLast?_dedup, hp, if_neg (by simpa using hpz), hE, hD0]
  simp only [List.tail_cons, List.append_assoc, List.cons_append, List.nil_append]
  rw [ext3_append_pair D0 (q :: E) p z, ext3_cons3, g_of_ext he]
  simp

theorem cyclicReversals_cut (z p : Int) (t0 : List Int) (hp : t0.getLast? = some p)
    (hr : isRevLocal p z t0 = true) :
    cyclicReversals (z :: t0) = z :: ext3 (dedup (z :: t0 ++ [z])) := by
  obtain ⟨q, hf, he⟩ := isRevLocal_iff.1 hr
  have hpz : p ≠ z := by omega
  obtain ⟨E, hE⟩ : ∃ E, dedup (z :: t0) = z :: q :: E := by
    have := dedup_cons_find z t0
    rwa [hf] at this
  have hl : (z :: q :: E).getLast? = some p := by
    rw [← hE, getLast?_dedup, List.getLast?_cons, hp]; rfl
  have hne : ¬ some p = some z := by simpa using hpz
  rw [cyclicReversals_eq, cdedup_eq, dedup_snoc, hE, hl, if_neg hne,
    cd_of_ne _ (by rw [hl]; exact fun h => hne h.symm), crev_of_two_le _ (by simp), hl]
  simp [g_of_ext he]

end

theorem cyclicReversals_skip_mono (d : List Int) : ∀ (z c : Int) (P : List Int),
    (z :: (d ++ [c])).Pairwise (· ≤ ·) ∨ (z :: (d ++ [c])).Pairwise (· ≥ ·) →
    cyclicReversals (z :: (d ++ c :: P)) = cyclicReversals (z :: c :: P) := by
  induction d with
  | nil => intro z c P _; rfl
  | cons v d ih =>
    intro z c P h
    obtain ⟨y, R, hy, hym⟩ : ∃ y R, d ++ c :: P = y :: R ∧ y ∈ d ++ [c] := by
      cases d with
      | nil => exact ⟨c, P, rfl, by simp⟩
      | cons w d' => exact ⟨w, d' ++ c :: P, rfl, by simp⟩
    have hv : (z ≤ v ∧ v ≤ y) ∨ (y ≤ v ∧ v ≤ z) := by
      rcases h with h | h
      · rw [List.cons_append, List.pairwise_cons, List.pairwise_cons] at h
        exact Or.inl ⟨h.1 v (by simp), h.2.1 y hym⟩
      · rw [List.cons_append, List.pairwise_cons, List.pairwise_cons] at h
        exact Or.inr ⟨h.2.1 y hym, h.1 v (by simp)⟩
    have hsub : (z :: (d ++ [c])).Sublist (z :: (v :: d ++ [c])) :=
      (List.sublist_cons_self v _).cons_cons z
    rw [List.cons_append, hy, cyclicReversals_insert_front z v y R hv, ← hy]
    exact ih z c P (h.imp (List.Pairwise.sublist hsub) (List.Pairwise.sublist hsub))

example : cyclicReversals [0, 1, 1, 3, 2, 2, -1, 0] = [3, -1] := by decide
example : cyclicReversals ([1, 3] ++ [2, 0]) = [3, 0] ∧ cyclicReversals ([2, 0] ++ [1, 3]) = [0, 3] := by
  decide
example : 2 ≤ (cyclicReversals [0, 2, 1, 3, -1]).length := by decide

end PylifeVerif.C04
