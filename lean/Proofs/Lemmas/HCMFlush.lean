/-
The trimming and the flush flag of the two-pass driver as functions of the first-node loads (`trimI`; `flushZ Z`, of
which the repaired decision `flushI` and the code's `flushC` are the instances `Z = []`, `[0]`), read through the local
test `C02.isRevLocal` of `Reversals.lean`.  The code and the repaired variant are the same two `process` calls with
these two flags (`twoPass_eq`; on loads `f x` whose first node is a multiple of a base signal: the two passes
`twoProc` with a flag policy, `twoPass_eq_twoProc`); for a load sequence with two distinct values the first pass of
the repaired variant always flushes (`flushI_trimI`).

Names in the HCM files: where a lemma is about one of the two drivers only, the repaired variant carries the `R` of
`twoPassR` / `adjustFirstRunR` or the `I` of `flushI` in its name (`adjustR_snd`, `flushI_trimI`), the code is
unsuffixed or says `code` / `C` (`adjust_snd`, `flushC_prepend`).
-/
import Proofs.Lemmas.HCMBasic
import Proofs.Lemmas.Sym

namespace PylifeVerif.HCM
open PylifeVerif.Rainflow
open PylifeVerif.C02 (isRevLocal)

namespace Insert

/-- `idx` of `dropTrailingNonReversals` on values: the indices of the turning points of the doubled sequence that lie
in its first copy (`blockIdx s s` of `HCMInsert.lean`) -/
def idxf (s : List Int) : List Nat := ((findTurns (s ++ s)).map (·.1)).filter (· < s.length)

/-- how many samples the trimming keeps: those up to the last turning point in the first copy - or all, if there is
none or it is the sample at index `0` or the last one.  A function of the indices of the turning points. -/
def cutI (s : List Int) : Nat :=
  match (idxf s).getLast? with
  | none => s.length
  | some t => if t = s.length - 1 ∨ t = 0 then s.length else t + 1

/-- `dropTrailingNonReversals` on values -/
def trimI (s : List Int) : List Int := s.take (cutI s)

/-- The first-run flush flag on values: is the last sample of `t` a turning point of the zero-prefixed sequence
continued by `Z ++ t`?  The two drivers differ in the stretch `Z` they put between the two copies. -/
def flushZ (Z t : List Int) : Bool :=
  ((findTurns ((0 :: t) ++ (Z ++ t))).map (·.1)).contains t.length

/-- the flush flag of `adjustFirstRunR` on values: the sequence is continued by itself -/
def flushI (t : List Int) : Bool := flushZ [] t

/-- the flush flag of `adjustFirstRun` (THE CODE) on values: the sequence is continued behind another `0` -/
def flushC (t : List Int) : Bool := flushZ [0] t

theorem dropTrailing_eq (s : List Vec) : dropTrailingNonReversals s = s.take (cutI (s.map rep)) := by
  have hs : s = s.take (s.map rep).length := by rw [List.length_map, List.take_length]
  unfold dropTrailingNonReversals cutI idxf
  dsimp only
  cases (((findTurns (s.map rep ++ s.map rep)).map (·.1)).filter (· < (s.map rep).length)).getLast? with
  | none => exact hs
  | some t =>
    dsimp only
    split_ifs
    · exact hs
    · rfl

theorem dropTrailing_reps (s : List Vec) : (dropTrailingNonReversals s).map rep = trimI (s.map rep) := by
  rw [dropTrailing_eq, List.map_take, trimI]

theorem trimI_of_none (s : List Int) (h : (idxf s).getLast? = none) : trimI s = s := by
  rw [trimI, cutI, h]
  exact List.take_length

theorem adjustR_snd (s' : List Vec) : (adjustFirstRunR s').2 = flushI (s'.map rep) := by
  unfold adjustFirstRunR flushI flushZ
  simp only [List.map_cons, rep_replicate_zero, List.tail_cons, List.length_cons, Nat.add_sub_cancel,
    List.length_map, List.nil_append]

theorem adjust_snd (s' : List Vec) : (adjustFirstRun s').2 = flushC (s'.map rep) := by
  unfold adjustFirstRun flushC flushZ
  simp only [List.map_cons, rep_replicate_zero, List.length_cons, Nat.add_sub_cancel, List.length_map,
    List.singleton_append]

theorem twoPass_eq (law : Law) (s : List Vec) :
    twoPassR law s = process law (process law {}
        (List.replicate ((dropTrailingNonReversals s).headD []).length 0 :: dropTrailingNonReversals s)
        (flushI ((dropTrailingNonReversals s).map rep))) (dropTrailingNonReversals s) true ∧
    twoPass law s = process law (process law {}
        (List.replicate ((dropTrailingNonReversals s).headD []).length 0 :: dropTrailingNonReversals s)
        (flushC ((dropTrailingNonReversals s).map rep))) (dropTrailingNonReversals s) true := by
  rw [← adjustR_snd, ← adjust_snd]
  exact ⟨rfl, rfl⟩

theorem trimI_ne_nil (s : List Int) (hs : s ≠ []) : trimI s ≠ [] := by
  have hl := List.length_pos_of_ne_nil hs
  have hc : 0 < cutI s := by
    unfold cutI
    split
    · exact hl
    · split_ifs
      · exact hl
      · exact Nat.succ_pos _
  exact fun h => (List.take_eq_nil_iff.mp h).elim (Nat.ne_of_gt hc) hs

/-! ### Both passes on loads `f x` whose first node is `c * x`

The trimming and both flush flags look at the first-node loads through the indices of `findTurns` only, which a
factor `c ≠ 0` does not move; so both drivers are `twoProc` on the trimmed base signal. -/

theorem map_rep (f : Int → Vec) (c : Int) (hrep : ∀ x, rep (f x) = c * x) (L : List Int) :
    (L.map f).map rep = L.map (c * ·) := by
  rw [List.map_map]
  exact List.map_congr_left fun x _ => hrep x

theorem flushZ_map (g : Int → Int) (hg : ∀ l, (findTurns (l.map g)).map (·.1) = (findTurns l).map (·.1))
    (Z t : List Int) (h0 : g 0 = 0) (hZ : Z.map g = Z) : flushZ Z (t.map g) = flushZ Z t := by
  unfold flushZ
  rw [show (0 :: t.map g) ++ (Z ++ t.map g) = ((0 :: t) ++ (Z ++ t)).map g by
    rw [List.map_append, List.map_append, List.map_cons, h0, hZ], hg, List.length_map]

theorem cutI_map (g : Int → Int) (hg : ∀ l, (findTurns (l.map g)).map (·.1) = (findTurns l).map (·.1))
    (t : List Int) : cutI (t.map g) = cutI t := by
  unfold cutI idxf
  rw [← List.map_append, hg, List.length_map]

theorem dropTrailing_map (f : Int → Vec) (c : Int) (hc : c ≠ 0) (hrep : ∀ x, rep (f x) = c * x) (L : List Int) :
    dropTrailingNonReversals (L.map f) = (trimI L).map f := by
  rw [dropTrailing_eq, map_rep f c hrep, cutI_map _ (Sym.findTurns_scale_idx c hc), trimI, List.map_take]

/-- the two passes on the loads `f x` of a trimmed base signal `t`: the first, over the zero-prefixed signal,
flushes iff the policy `fl` says so -/
def twoProc (law : Law) (fl : List Int → Bool) (f : Int → Vec) (t : List Int) : State :=
  process law (process law {} ((0 :: t).map f) (fl t)) (t.map f) true

theorem twoPass_eq_twoProc (law : Law) (f : Int → Vec) (c : Int) (hc : c ≠ 0) (hrep : ∀ x, rep (f x) = c * x)
    (L : List Int) (hL : L ≠ []) (n : Nat) (hn : ∀ x, (f x).length = n) (h0 : f 0 = List.replicate n 0) :
    twoPassR law (L.map f) = twoProc law flushI f (trimI L) ∧
    twoPass law (L.map f) = twoProc law flushC f (trimI L) := by
  obtain ⟨a, t, ht⟩ := List.exists_cons_of_ne_nil (trimI_ne_nil L hL)
  have hz : List.replicate (((trimI L).map f).headD []).length 0 :: (trimI L).map f = (0 :: trimI L).map f := by
    rw [ht, List.map_cons, List.map_cons, List.headD_cons, hn, h0, List.map_cons]
  have hfl : ∀ Z : List Int, Z.map (c * ·) = Z → flushZ Z ((trimI L).map (c * ·)) = flushZ Z (trimI L) :=
    fun Z => flushZ_map _ (Sym.findTurns_scale_idx c hc) Z _ (Int.mul_zero c)
  unfold twoProc
  rw [(twoPass_eq law _).1, (twoPass_eq law _).2, dropTrailing_map f c hc hrep, hz, map_rep f c hrep, flushI, flushC,
    hfl [] rfl, hfl [0] (by rw [List.map_singleton, Int.mul_zero])]
  exact ⟨rfl, rfl⟩

/-- one assessment point: `f x = [x]` -/
theorem twoPass_eq_twoProc_one (law : Law) (s : List Int) (hs : s ≠ []) :
    twoPassR law (s.map fun x => [x]) = twoProc law flushI (fun x => [x]) (trimI s) ∧
    twoPass law (s.map fun x => [x]) = twoProc law flushC (fun x => [x]) (trimI s) :=
  twoPass_eq_twoProc law (fun x => [x]) 1 Int.one_ne_zero (fun x => (Int.one_mul x).symm) s hs 1 (fun _ => rfl) rfl

/-! ### The flag as a local test; where the trimming cuts -/

/-- The flag as the local test at the last sample `z`: the repaired decision (`Z = []`) looks ahead into the sequence
itself, the code's (`Z = [0]`) into the sequence behind another `0`. -/
theorem flag_iff (Z t0 : List Int) (z : Int) :
    flushZ Z (t0 ++ [z]) = true ↔ isRevLocal ((0 :: t0).getLast (List.cons_ne_nil _ _)) z (Z ++ t0) = true := by
  have e : (0 :: (t0 ++ [z])) ++ (Z ++ (t0 ++ [z])) = (0 :: t0) ++ z :: ((Z ++ t0) ++ [z]) := by simp
  rw [flushZ, List.contains_iff_mem, List.mem_map, e, show (t0 ++ [z]).length = (0 :: t0).length by simp,
    findTurns_at_iff _ (List.cons_ne_nil _ _)]
  unfold isRevLocal
  rw [find?_ne_skip, List.append_nil]

theorem mem_idxf (s : List Int) (t : Nat) :
    t ∈ idxf s ↔ (∃ q ∈ findTurns (s ++ s), q.1 = t) ∧ t < s.length := by
  unfold idxf
  rw [List.mem_filter, List.mem_map, decide_eq_true_eq]

theorem idxf_mem (s : List Int) (t : Nat) (h : t ∈ idxf s) : 0 < t ∧ t < s.length := by
  obtain ⟨⟨q, hq, rfl⟩, h2⟩ := (mem_idxf s t).mp h
  exact ⟨(findTurns_idx _ q hq).1, h2⟩

theorem trimI_of_last (s : List Int) (t : Nat) (h : (idxf s).getLast? = some t) :
    trimI s = s.take (t + 1) := by
  obtain ⟨hpos, hlt⟩ := idxf_mem s t (List.mem_of_getLast? h)
  rw [trimI, cutI, h]
  simp only []
  split_ifs
  · rw [List.take_length, List.take_of_length_le (by omega)]
  · rfl

theorem idxf_ne_nil (s : List Int) (h : ∃ p ∈ s, ∃ q ∈ s, p ≠ q) : idxf s ≠ [] := by
  obtain ⟨p, hp, hlt⟩ := exists_turn_first_period s h
  exact List.ne_nil_of_mem ((mem_idxf s p.1).mpr ⟨⟨p, hp, rfl⟩, hlt⟩)

/-- A sequence with two distinct values is `c :: P ++ z :: d` with `z` the last
turning point of the repetition inside the first copy: trimming keeps `c :: P ++ [z]`, and the stretch
from `z` through the rest `d` to the first sample of the next copy has no turning point. -/
theorem trimI_cut (q : List Int) (h2 : ∃ a ∈ q, ∃ b ∈ q, a ≠ b) :
    ∃ c P z d, q = c :: P ++ z :: d ∧ trimI q = c :: P ++ [z] ∧
      isRevLocal ((c :: P).getLast (List.cons_ne_nil _ _)) z (d ++ (c :: P ++ z :: d)) = true ∧
      findTurns (z :: (d ++ [c])) = [] := by
  obtain ⟨t, hget⟩ : ∃ t, (idxf q).getLast? = some t :=
    ⟨_, List.getLast?_eq_some_getLast (idxf_ne_nil q h2)⟩
  have hle := pairwise_le_getLast (idxf q)
    (List.Pairwise.filter _ (List.Pairwise.map _ (fun _ _ h => h) (findTurns_sorted _))) t hget
  obtain ⟨hturn, htn⟩ := (mem_idxf q t).mp (List.mem_of_getLast? hget)
  have ht0 := (idxf_mem q t (List.mem_of_getLast? hget)).1
  obtain ⟨A, z, d, rfl, rfl⟩ : ∃ A z d, q = A ++ z :: d ∧ A.length = t :=
    ⟨q.take t, q[t], q.drop (t+1), by rw [List.getElem_cons_drop, List.take_append_drop],
      by rw [List.length_take]; omega⟩
  obtain ⟨c, P, rfl⟩ := List.exists_cons_of_ne_nil (List.ne_nil_of_length_pos ht0)
  have e : (c :: P ++ z :: d) ++ (c :: P ++ z :: d) = (c :: P) ++ z :: (d ++ (c :: P ++ z :: d)) := by simp
  rw [e, findTurns_at_iff _ (List.cons_ne_nil _ _)] at hturn
  refine ⟨c, P, z, d, rfl, by rw [trimI_of_last _ _ hget, List.take_length_add_append, List.take_succ_cons, List.take_zero], hturn,
    List.eq_nil_iff_forall_not_mem.mpr fun p hp => ?_⟩
  -- a turning point between `z` and the next copy would be a later one of the first copy
  obtain ⟨p', hp', hk⟩ := findTurns_infix (c :: P) _ (P ++ z :: d) p hp
  have h1 := findTurns_idx _ p hp
  have h3 := hle p'.1 ((mem_idxf _ _).mpr ⟨⟨p', by simpa using hp', rfl⟩, by
    simp only [List.length_cons, List.length_append, List.length_nil] at h1 hk ⊢; omega⟩)
  omega

/-- The trimmed sequence ends in a turning point of its own repetition: the look-ahead of `z` runs through the quiet
stretch `d` into the next copy (`isRevLocal_junction`). -/
theorem trimI_end (s : List Int) (h2 : ∃ a ∈ s, ∃ b ∈ s, a ≠ b) :
    ∃ t0 p z, trimI s = t0 ++ [z] ∧ t0.getLast? = some p ∧ isRevLocal p z t0 = true := by
  obtain ⟨c, P, z, d, _, ht, hturn, hnil⟩ := trimI_cut s h2
  exact ⟨c :: P, _, z, ht, List.getLast?_eq_some_getLast _, isRevLocal_junction _ z c P d hturn hnil⟩

theorem flushI_trimI (q : List Int) (h2 : ∃ a ∈ q, ∃ b ∈ q, a ≠ b) : flushI (trimI q) = true := by
  obtain ⟨t0, p, z, ht, hp, hr⟩ := trimI_end q h2
  have hne := List.ne_nil_of_mem (List.mem_of_getLast? hp)
  rw [ht, flushI, flag_iff, List.nil_append, List.getLast_cons hne,
    Option.some.inj ((List.getLast?_eq_some_getLast hne).symm.trans hp)]
  exact hr

/-- When the repaired decision flushes but the code's does not, the last
sample lies strictly between its predecessor and `0`; every sample of the zero-prefixed sequence is
then dominated in absolute value by a decided turning point. -/
theorem code_noflush_dominated (t : List Int) (hR : flushI t = true) (hC : flushC t = false) :
    ∀ x ∈ (0 : Int) :: t, ∃ p ∈ findTurns (0 :: t), x.natAbs ≤ p.2.natAbs := by
  have hC' : ¬ flushC t = true := by rw [hC]; exact Bool.false_ne_true
  rcases List.eq_nil_or_concat t with rfl | ⟨t0, z, rfl⟩
  · cases hR
  · rw [List.concat_eq_append] at hR hC' ⊢
    rw [flushI, flag_iff, List.nil_append, isRevLocal_iff] at hR
    rw [flushC, flag_iff, List.singleton_append, isRevLocal_iff] at hC'
    have ha_mem : (0 :: t0).getLast (List.cons_ne_nil _ _) ∈ (0 : Int) :: (t0 ++ [z]) :=
      List.mem_append_left [z] (List.getLast_mem _)
    generalize (0 :: t0).getLast _ = a at hR hC' ha_mem
    obtain ⟨n, hn, hs⟩ := hR
    -- the code's look-ahead sees the prefixed `0` first; it lies on the far side of `z`
    have hza : z.natAbs < a.natAbs := by
      by_cases hz0 : z = 0
      · exact absurd ⟨n, by rw [List.find?_cons_of_neg (by simpa using hz0.symm)]; exact hn, hs⟩ hC'
      · have : ¬ ((a < z ∧ 0 < z) ∨ (z < a ∧ z < 0)) :=
          fun h => hC' ⟨0, List.find?_cons_of_pos (by simpa using Ne.symm hz0), h⟩
        omega
    have hbound := findTurns_bound (t0 ++ [z])
    rw [List.getLastD_concat] at hbound
    obtain ⟨pa, hpa, hpale⟩ : ∃ p ∈ findTurns (0 :: (t0 ++ [z])), a.natAbs ≤ p.2.natAbs := by
      rcases hbound a ha_mem with h | h
      · exact h
      · omega
    intro x hx
    rcases hbound x hx with h | h
    · exact h
    · exact ⟨pa, hpa, by omega⟩

end Insert

/-- The first pass flushes when the load sequence has two distinct values. -/
theorem flush_of_twoDistinct (s : List Vec) (h2 : ∃ a ∈ s.map rep, ∃ b ∈ s.map rep, a ≠ b) :
    (adjustFirstRunR (dropTrailingNonReversals s)).2 = true := by
  rw [Insert.adjustR_snd, Insert.dropTrailing_reps]
  exact Insert.flushI_trimI _ h2

end PylifeVerif.HCM
