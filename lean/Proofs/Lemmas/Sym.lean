import Proofs.Lemmas.Turns

/-! Helper lemmas for the symmetry theorems (C03): `findTurns` under maps that keep or reverse the order
(`findTurns_map`; negation, scaling and affine maps are instances), and the NaN index correction.

Namespaces: `C03` for `origIndex`, which the C03 statements mention; `Sym` for the rest, except
`HCM.findTurns_neg`, which stands under the name the HCM proofs use. -/
namespace PylifeVerif.C03

set_option linter.unusedVariables false in
/-- position map of the NaN filter: the position, in the signal with NaNs, of the `i`-th sample that is
not NaN (`getElem?_origIndex`) -/
def origIndex : List (Option Int) → Nat → Nat
  | [], i => i
  | none :: rest, i => origIndex rest i + 1
  | some _ :: rest, 0 => 0
  | some _ :: rest, i+1 => origIndex rest i + 1

end PylifeVerif.C03

namespace PylifeVerif.Sym
open PylifeVerif.Rainflow PylifeVerif.C03
open PylifeVerif.C02 (isRevLocal revList)

/-! A map that keeps or reverses the order keeps the local test: the two neighbours that differ lie on
the same side before and after. -/

section OrderMap
variable (f : Int → Int) (hf : (∀ x y, f x < f y ↔ x < y) ∨ (∀ x y, f x < f y ↔ y < x))
include hf

theorem isRevLocal_map (p v : Int) (post : List Int) :
    isRevLocal (f p) (f v) (post.map f) = isRevLocal p v post := by
  have hinj : ∀ x y, f x = f y ↔ x = y := fun x y => by
    rcases hf with h | h <;> have h1 := h x y <;> have h2 := h y x <;> omega
  unfold isRevLocal
  simp only [hinj, List.find?_map, Function.comp_def, ne_eq]
  split
  · rfl
  · cases post.find? (fun x => decide ¬ x = v) with
    | none => rfl
    | some n =>
      simp only [Option.map_some, gt_iff_lt, decide_eq_decide]
      rcases hf with h | h
      · simp only [h]
      · simp only [h]; omega

theorem revList_map : ∀ (i : Nat) (l : List Int),
    revList i (l.map f) = (revList i l).map fun q => (q.1, f q.2)
  | i, p :: v :: post => by
    have ih := revList_map (i + 1) (v :: post)
    rw [List.map_cons] at ih
    simp only [List.map_cons, revList, isRevLocal_map f hf, List.map_append, ih]
    split <;> rfl
  | _, [] => rfl
  | _, [_] => rfl

theorem findTurns_map (s : List Int) :
    findTurns (s.map f) = (findTurns s).map fun p => (p.1, f p.2) := by
  rw [C02.findTurns_eq_revList, C02.findTurns_eq_revList, revList_map f hf]

end OrderMap

theorem findTurns_affine_ne (a b : Int) (ha : a ≠ 0) (s : List Int) :
    findTurns (s.map fun x => a * x + b) = (findTurns s).map fun p => (p.1, a * p.2 + b) :=
  findTurns_map _ (by
    rcases Int.lt_or_gt_of_ne ha with h | h
    · exact Or.inr fun x y => by rw [Int.add_lt_add_iff_right, Int.mul_lt_mul_left_of_neg h]
    · exact Or.inl fun x y => by rw [Int.add_lt_add_iff_right, Int.mul_lt_mul_left h]) s

theorem _root_.PylifeVerif.HCM.findTurns_neg (s : List Int) :
    findTurns (s.map (- ·)) = (findTurns s).map fun p => (p.1, -p.2) :=
  findTurns_map _ (Or.inr fun _ _ => Int.neg_lt_neg_iff) s

theorem findTurns_scale (c : Int) (hc : c ≠ 0) (s : List Int) :
    findTurns (s.map (c * ·)) = (findTurns s).map fun p => (p.1, c * p.2) := by
  simpa using findTurns_affine_ne c 0 hc s

theorem findTurns_neg_idx (s : List Int) : (findTurns (s.map (- ·))).map (·.1) = (findTurns s).map (·.1) := by
  rw [HCM.findTurns_neg, List.map_map]; rfl

theorem findTurns_scale_idx (c : Int) (hc : c ≠ 0) (s : List Int) :
    (findTurns (s.map (c * ·))).map (·.1) = (findTurns s).map (·.1) := by
  rw [findTurns_scale c hc, List.map_map]; rfl

theorem newTurns_neg (st : TurnState) (samples : List Int) (flush : Bool) :
    newTurns { tail := st.tail.map (- ·), head := st.head } (samples.map (- ·)) flush =
      ({ tail := (newTurns st samples flush).1.tail.map (- ·), head := (newTurns st samples flush).1.head },
        (newTurns st samples flush).2.map fun p => (p.1, -p.2)) :=
  newTurns_map _ HCM.findTurns_neg st samples flush

theorem findTurns_index_lt (t : List Int) : ∀ p ∈ findTurns t, p.1 < t.length :=
  fun p hp => Nat.lt_of_succ_lt (findTurns_idx t p hp).2

/-- the sequential correction applied to one index -/
def corr (nanPos : List Nat) (i : Nat) : Nat :=
  nanPos.foldl (fun i p => if i ≥ p then i + 1 else i) i

theorem correctByNans_eq_map (nanPos : List Nat) : ∀ idx : List Nat,
    correctByNans idx nanPos = idx.map (corr nanPos) := by
  induction nanPos with
  | nil =>
    intro idx
    have : corr [] = id := by funext i; rfl
    simp [correctByNans, this]
  | cons p ps ih =>
    intro idx
    have := ih (idx.map fun i => if i ≥ p then i + 1 else i)
    simp only [correctByNans, List.foldl_cons] at this ⊢
    rw [this]
    simp [corr, Function.comp_def]

/-- NaN positions with the enumeration starting at `k` -/
def nanPosFrom (k : Nat) (s : List (Option Int)) : List Nat :=
  ((s.zipIdx k).filter (fun x => x.1.isNone)).map (·.2)

theorem whereIdx_isNone (s : List (Option Int)) :
    whereIdx (fun (x : Option Int) => x.isNone) s = nanPosFrom 0 s := rfl

theorem nanPosFrom_none (k : Nat) (rest : List (Option Int)) :
    nanPosFrom k (none :: rest) = k :: nanPosFrom (k+1) rest := by
  simp [nanPosFrom, List.zipIdx_cons]

theorem nanPosFrom_some (k : Nat) (v : Int) (rest : List (Option Int)) :
    nanPosFrom k (some v :: rest) = nanPosFrom (k+1) rest := by
  simp [nanPosFrom, List.zipIdx_cons]

theorem nanPosFrom_ge (s : List (Option Int)) (k p : Nat) (hp : p ∈ nanPosFrom k s) : k ≤ p := by
  obtain ⟨x, hx, rfl⟩ := List.mem_map.1 hp
  exact List.le_snd_of_mem_zipIdx (List.mem_filter.1 hx).1

theorem corr_of_lt (L : List Nat) : ∀ j, (∀ p ∈ L, j < p) → corr L j = j := by
  induction L with
  | nil => intro j _; rfl
  | cons q L ih =>
    intro j h
    have hq : j < q := h q (by simp)
    have : ¬ j ≥ q := by omega
    simp only [corr, List.foldl_cons, if_neg this]
    exact ih j (fun p hp => h p (List.mem_cons_of_mem _ hp))

theorem corr_nanPosFrom (s : List (Option Int)) (k i : Nat) (hi : i < (s.filterMap id).length) :
    corr (nanPosFrom k s) (i + k) = origIndex s i + k := by
  fun_induction origIndex s i generalizing k with
  | case1 i => simp at hi
  | case2 rest i ih =>
    have := ih (k+1) (by simpa using hi)
    rw [nanPosFrom_none]
    simp only [corr, List.foldl_cons, if_pos (show i + k ≥ k by omega)] at this ⊢
    rw [show i + k + 1 = i + (k + 1) by omega, this]; omega
  | case3 v rest =>
    rw [nanPosFrom_some, Nat.zero_add]
    exact corr_of_lt _ k (fun p hp => by have := nanPosFrom_ge rest (k+1) p hp; omega)
  | case4 v rest i ih =>
    rw [nanPosFrom_some, show i + 1 + k = i + (k + 1) by omega, ih (k+1) (by simpa using hi)]
    omega

theorem origIndex_shift (A X : List (Option Int)) (j : Nat) :
    origIndex (A ++ X) ((A.filterMap id).length + j) = A.length + origIndex X j := by
  induction A with
  | nil => simp
  | cons a A ih =>
    cases a with
    | none =>
      rw [show (none :: A).filterMap id = A.filterMap id from rfl]
      simp only [List.cons_append, origIndex, List.length_cons, ih]; omega
    | some w =>
      rw [show (some w :: A).filterMap id = w :: A.filterMap id from rfl, List.length_cons,
        Nat.add_right_comm]
      simp only [List.cons_append, origIndex, List.length_cons, ih]; omega

theorem filterMap_split : ∀ (s : List (Option Int)) (i : Nat), i < (s.filterMap id).length →
    ∃ A v B, s = A ++ some v :: B ∧ (A.filterMap id).length = i
  | none :: s, i, h => by
    obtain ⟨A, v, B, rfl, rfl⟩ := filterMap_split s i h
    exact ⟨none :: A, v, B, rfl, rfl⟩
  | some v :: s, 0, _ => ⟨[], v, s, rfl, rfl⟩
  | some w :: s, i + 1, h => by
    obtain ⟨A, v, B, rfl, rfl⟩ := filterMap_split s i (Nat.lt_of_succ_lt_succ h)
    exact ⟨some w :: A, v, B, rfl, rfl⟩

theorem origIndex_at (A : List (Option Int)) (v : Int) (B : List (Option Int)) :
    origIndex (A ++ some v :: B) (A.filterMap id).length = A.length :=
  origIndex_shift A (some v :: B) 0

theorem getElem?_origIndex (s : List (Option Int)) (i : Nat) (v : Int)
    (h : (s.filterMap id)[i]? = some v) : s[origIndex s i]? = some (some v) := by
  obtain ⟨A, w, B, rfl, rfl⟩ := filterMap_split s i (List.getElem?_eq_some_iff.1 h).1
  rw [List.filterMap_append, List.getElem?_append_right (Nat.le_refl _), Nat.sub_self] at h
  rw [origIndex_at, List.getElem?_append_right (Nat.le_refl _), Nat.sub_self, ← Option.some.inj h]
  rfl

end PylifeVerif.Sym
