/-
Helper lemmas for C13 (relational model of the Broadcaster): the key of a joined row, restricted to the levels of an
operand the row stems from, is the own key of that operand's row (`restrict_pairKey_*`), so with distinct keys
(`Tbl.KeysNodup`) the look-up finds the row again (`at_of_mem`); the rows of the join are exactly the rows with one of
three origins (`mem_joinRows`).
-/
import Model.Broadcast
import Mathlib.Data.List.Nodup

namespace PylifeVerif.Broadcast

/-- Decidable equality of `Except` values, which core Lean does not derive; the witness of `Proofs/C13.lean` about `prmTbl`
(`… = .error .valueError`) is closed by `decide` and needs it.  Only the name lives in this namespace: the instance is global. -/
instance instDecEqExcept {ε α : Type} [DecidableEq ε] [DecidableEq α] : DecidableEq (Except ε α)
  | .ok a, .ok b => if h : a = b then isTrue (h ▸ rfl) else isFalse (fun e => h (Except.ok.inj e))
  | .error a, .error b => if h : a = b then isTrue (h ▸ rfl) else isFalse (fun e => h (Except.error.inj e))
  | .ok _, .error _ => isFalse (fun e => nomatch e)
  | .error _, .ok _ => isFalse (fun e => nomatch e)

variable {V : Type}

theorem rget_map (ns : List Name) (f : Name → Option Int) (n : Name) :
    rget ns (ns.map f) n = if n ∈ ns then f n else none := by
  induction ns with
  | nil => simp [rget]
  | cons m ms ih =>
    simp only [List.map_cons, rget, ih, List.mem_cons]
    by_cases h : m = n
    · subst h; simp
    · have h' : ¬ n = m := fun e => h e.symm
      simp [h, h']

theorem restrict_map (ns : List Name) (f : Name → Option Int) (sub : List Name)
    (hsub : ∀ n ∈ sub, n ∈ ns) : restrict ns (ns.map f) sub = sub.map f := by
  unfold restrict
  apply List.map_congr_left
  intro n hn
  rw [rget_map, if_pos (hsub n hn)]

theorem mem_shared {on pn : List Name} {n : Name} : n ∈ shared on pn ↔ n ∈ on ∧ n ∈ pn := by
  simp [shared]

theorem mem_total {on pn : List Name} {n : Name} : n ∈ total on pn ↔ n ∈ on ∨ n ∈ pn := by
  by_cases ho : n ∈ on <;> simp [total, ho]

theorem subset_iff {a b : List Name} : subset a b = true ↔ ∀ n ∈ a, n ∈ b := by
  simp [subset]

theorem mem_resultNames {on pn : List Name} {n : Name} :
    n ∈ resultNames on pn ↔ n ∈ on ∨ n ∈ pn := by
  unfold resultNames
  split
  · next h => exact ⟨Or.inr, fun h' => h'.elim (subset_iff.mp h.2.2 n) id⟩
  · exact mem_total

theorem agree_iff {on pn : List Name} {ko kp : Key} :
    agree on ko pn kp = true ↔ ∀ n, n ∈ on → n ∈ pn → get on ko n = get pn kp n := by
  simp only [agree, List.all_eq_true, mem_shared, beq_iff_eq, and_imp]

theorem agree_of_disjoint {on pn : List Name} (hd : shared on pn = []) (ko kp : Key) :
    agree on ko pn kp = true := by
  simp [agree, hd]

theorem agree_self (on : List Name) (k : Key) : agree on k on k = true := by
  simp [agree]

theorem resultNames_self (on : List Name) : resultNames on on = on := by
  unfold resultNames
  split
  · next h => omega
  · simp [total]

theorem pairKey_self (on : List Name) (k : Key) : pairKey on on k on k = ownKey on k := by
  unfold pairKey ownKey
  apply List.map_congr_left
  intro n hn
  simp [hn]

theorem restrict_map_obj (on pn : List Name) (f : Name → Option Int) :
    restrict (resultNames on pn) ((resultNames on pn).map f) on = on.map f :=
  restrict_map _ _ _ fun _ h => mem_resultNames.mpr (Or.inl h)

theorem restrict_map_prm (on pn : List Name) (f : Name → Option Int) :
    restrict (resultNames on pn) ((resultNames on pn).map f) pn = pn.map f :=
  restrict_map _ _ _ fun _ h => mem_resultNames.mpr (Or.inr h)

theorem restrict_pairKey_obj (on pn : List Name) (ko kp : Key) :
    restrict (resultNames on pn) (pairKey (resultNames on pn) on ko pn kp) on = ownKey on ko := by
  unfold pairKey ownKey
  rw [restrict_map_obj]
  apply List.map_congr_left
  intro n hn
  rw [if_pos hn]

theorem restrict_pairKey_prm {on pn : List Name} {ko kp : Key} (hag : agree on ko pn kp = true) :
    restrict (resultNames on pn) (pairKey (resultNames on pn) on ko pn kp) pn = ownKey pn kp := by
  unfold pairKey ownKey
  rw [restrict_map_prm]
  apply List.map_congr_left
  intro n hn
  split
  · next ho => exact agree_iff.mp hag n ho hn
  · rfl

theorem agree_congr {on pn : List Name} {ko ko' kp kp' : Key} (ho : ownKey on ko' = ownKey on ko)
    (hp : ownKey pn kp' = ownKey pn kp) (hag : agree on ko' pn kp' = true) : agree on ko pn kp = true := by
  apply agree_iff.mpr
  intro n h1 h2
  rw [← List.map_inj_left.mp ho n h1, ← List.map_inj_left.mp hp n h2]
  exact agree_iff.mp hag n h1 h2

/-- no two rows of the operand have the same key (the operand's index is a key SET) -/
def Tbl.KeysNodup (t : Tbl V) : Prop := (t.rows.map fun r => ownKey t.names r.1).Nodup

theorem Tbl.KeysNodup.row_eq {t : Tbl V} (h : t.KeysNodup) {r r' : Key × V} (hr : r ∈ t.rows) (hr' : r' ∈ t.rows)
    (he : ownKey t.names r.1 = ownKey t.names r'.1) : r = r' :=
  List.inj_on_of_nodup_map h hr hr' he

theorem Tbl.KeysNodup.rows_nodup {t : Tbl V} (h : t.KeysNodup) : t.rows.Nodup :=
  List.Nodup.of_map _ h

theorem Tbl.KeysNodup.nodup_map {t : Tbl V} (h : t.KeysNodup) (P : Key × V → Bool) (ns : List Name)
    (f : Key × V → Row V) (hf : ∀ r ∈ t.rows.filter P, restrict ns (f r).key t.names = ownKey t.names r.1) :
    ((t.rows.filter P).map f).Nodup := by
  refine List.Nodup.map_on (fun r hr r' hr' he => ?_) (h.rows_nodup.filter P)
  refine h.row_eq (List.mem_filter.mp hr).1 (List.mem_filter.mp hr').1 ?_
  rw [← hf r hr, ← hf r' hr', he]

theorem at_of_mem {t : Tbl V} (h : t.KeysNodup) {r : Key × V} (hr : r ∈ t.rows) :
    t.at (ownKey t.names r.1) = some r.2 := by
  unfold Tbl.at
  cases hf : t.rows.find? (fun r' => ownKey t.names r'.1 == ownKey t.names r.1) with
  | none => simpa using List.find?_eq_none.mp hf r hr
  | some x =>
    have hx : ownKey t.names x.1 = ownKey t.names r.1 := by simpa using List.find?_some hf
    rw [h.row_eq (List.mem_of_find?_eq_some hf) hr hx]
    rfl

theorem at_eq_none {t : Tbl V} {q : RKey} (h : ∀ r ∈ t.rows, ownKey t.names r.1 ≠ q) :
    t.at q = none := by
  rw [Tbl.at, List.find?_eq_none.mpr fun r hr => by simpa using h r hr]
  rfl

theorem mem_matched {ns : List Name} {obj prm : Tbl V} {r : Row V} :
    r ∈ matched ns obj prm ↔
      ∃ ro ∈ obj.rows, ∃ rp ∈ prm.rows, agree obj.names ro.1 prm.names rp.1 = true ∧
        r = ⟨pairKey ns obj.names ro.1 prm.names rp.1, some ro.2, some rp.2⟩ := by
  simp only [matched, List.mem_flatMap, List.mem_map, List.mem_filter]
  constructor
  · rintro ⟨ro, hro, rp, ⟨hrp, hag⟩, h⟩
    exact ⟨ro, hro, rp, hrp, hag, h.symm⟩
  · rintro ⟨ro, hro, rp, hrp, hag, rfl⟩
    exact ⟨ro, hro, rp, ⟨hrp, hag⟩, rfl⟩

theorem mem_unmatchedObj {obj prm : Tbl V} {ro : Key × V} :
    ro ∈ unmatchedObj obj prm ↔
      ro ∈ obj.rows ∧ ∀ rp ∈ prm.rows, agree obj.names ro.1 prm.names rp.1 = false := by
  simp [unmatchedObj]

theorem mem_unmatchedPrm {obj prm : Tbl V} {rp : Key × V} :
    rp ∈ unmatchedPrm obj prm ↔
      rp ∈ prm.rows ∧ ∀ ro ∈ obj.rows, agree obj.names ro.1 prm.names rp.1 = false := by
  simp [unmatchedPrm]

/-- Partner-less rows of the operand `own` are left out iff no level is shared (cross join) or pandas joins "on a
level" (`dropsUnmatched`). -/
theorem keepsUnmatched_eq_false_iff {own other : List Name} :
    keepsUnmatched own other = false ↔
      shared own other = [] ∨ (own.length = 1 ∧ 2 ≤ other.length ∧ subset own other = true) := by
  simp [keepsUnmatched, dropsUnmatched, and_assoc, imp_iff_not_or]

/-- Where a row of the join comes from: a pair of agreeing rows, or a partner-less row of one operand that is kept
(`mem_joinRows`). -/
inductive RowOrigin (obj prm : Tbl V) (ns : List Name) (r : Row V) : Prop where
  | pair (ro : Key × V) (rp : Key × V) (hro : ro ∈ obj.rows) (hrp : rp ∈ prm.rows)
      (hag : agree obj.names ro.1 prm.names rp.1 = true)
      (hr : r = ⟨pairKey ns obj.names ro.1 prm.names rp.1, some ro.2, some rp.2⟩)
  | objOnly (ro : Key × V) (hro : ro ∈ obj.rows)
      (hno : ∀ rp ∈ prm.rows, agree obj.names ro.1 prm.names rp.1 = false)
      (hkeep : keepsUnmatched obj.names prm.names = true)
      (hr : r = ⟨ns.map (get obj.names ro.1), some ro.2, none⟩)
  | prmOnly (rp : Key × V) (hrp : rp ∈ prm.rows)
      (hno : ∀ ro ∈ obj.rows, agree obj.names ro.1 prm.names rp.1 = false)
      (hkeep : keepsUnmatched prm.names obj.names = true)
      (hr : r = ⟨ns.map (get prm.names rp.1), none, some rp.2⟩)

theorem mem_joinRows {obj prm : Tbl V} {r : Row V} :
    r ∈ joinRows obj prm ↔ RowOrigin obj prm (resultNames obj.names prm.names) r := by
  simp only [joinRows, List.mem_append]
  constructor
  · rintro ((h | h) | h)
    · obtain ⟨ro, hro, rp, hrp, hag, hr⟩ := mem_matched.mp h
      exact .pair ro rp hro hrp hag hr
    · split at h
      · next hs =>
        obtain ⟨ro, hro, hr⟩ := List.mem_map.mp h
        obtain ⟨h1, h2⟩ := mem_unmatchedObj.mp hro
        exact .objOnly ro h1 h2 hs hr.symm
      · cases h
    · split at h
      · next hs =>
        obtain ⟨rp, hrp, hr⟩ := List.mem_map.mp h
        obtain ⟨h1, h2⟩ := mem_unmatchedPrm.mp hrp
        exact .prmOnly rp h1 h2 hs hr.symm
      · cases h
  · rintro (⟨ro, rp, hro, hrp, hag, rfl⟩ | ⟨ro, hro, hno, hk, rfl⟩ | ⟨rp, hrp, hno, hk, rfl⟩)
    · exact Or.inl (Or.inl (mem_matched.mpr ⟨ro, hro, rp, hrp, hag, rfl⟩))
    · rw [if_pos hk]
      exact Or.inl (Or.inr (List.mem_map.mpr ⟨ro, mem_unmatchedObj.mpr ⟨hro, hno⟩, rfl⟩))
    · rw [if_pos hk]
      exact Or.inr (List.mem_map.mpr ⟨rp, mem_unmatchedPrm.mpr ⟨hrp, hno⟩, rfl⟩)

theorem prm_at_objOnly {obj prm : Tbl V} {ro : Key × V}
    (hno : ∀ rp ∈ prm.rows, agree obj.names ro.1 prm.names rp.1 = false) :
    prm.at (prm.names.map (get obj.names ro.1)) = none := by
  apply at_eq_none
  intro rp hrp heq
  have : agree obj.names ro.1 prm.names rp.1 = true :=
    agree_iff.mpr fun n _ h2 => (List.map_inj_left.mp heq n h2).symm
  rw [hno rp hrp] at this
  cases this

theorem obj_at_prmOnly {obj prm : Tbl V} {rp : Key × V}
    (hno : ∀ ro ∈ obj.rows, agree obj.names ro.1 prm.names rp.1 = false) :
    obj.at (obj.names.map (get prm.names rp.1)) = none := by
  apply at_eq_none
  intro ro hro heq
  have : agree obj.names ro.1 prm.names rp.1 = true :=
    agree_iff.mpr fun n h1 _ => List.map_inj_left.mp heq n h1
  rw [hno ro hro] at this
  cases this

end PylifeVerif.Broadcast
