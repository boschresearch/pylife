/-
`_new_turns` and the four-point detector on samples with NaNs
(`newTurnsNan`, `fpRunNan` of `Model/Rainflow/Literal.lean`).

`newTurnsNan` reports the newly decided turns of the cleaned signal at their original positions
(`origIndex`).  On stacks without NaN, `fpCloseN` / `fpFeedN` are `fpClose` / `fpFeed`, so one
`process` call works in the clean world (`fpProcessNan_lift`).  A chunk that ends in NaN closes
nothing provisionally: its turns are fed and that is all.  So the state is the canonical state of the
clean detector at the last chunk end that was not NaN, with the turns decided since fed to it, and a
chunk that ends in a sample again is ONE `process` call of the clean detector for everything since
(`fpCanon_append`).  `Inv` is this invariant of `fpProcessNan`, `fpRunNan_eq` the state at the end.
-/
import Proofs.C03Sym
import Model.Rainflow.Literal

namespace PylifeVerif.Rainflow.Nan
open PylifeVerif.Rainflow PylifeVerif.C03 PylifeVerif.Rainflow.Common

abbrev clean (s : List (Option Int)) : List Int := s.filterMap id

theorem clean_append (P R : List (Option Int)) : clean (P ++ R) = clean P ++ clean R := by
  simp [clean, List.filterMap_append]

theorem origIndex_append (P R : List (Option Int)) (i : Nat) (h : i < (clean P).length) :
    origIndex (P ++ R) i = origIndex P i := by
  obtain ⟨A, v, B, rfl, rfl⟩ := Sym.filterMap_split P i h
  rw [List.append_assoc, List.cons_append, Sym.origIndex_at, Sym.origIndex_at]

theorem map_reidxPt_origIndex_append (P R : List (Option Int)) (l : List Pt)
    (h : ∀ p ∈ l, p.1 < (clean P).length) :
    l.map (reidxPt (origIndex (P ++ R))) = l.map (reidxPt (origIndex P)) :=
  List.map_congr_left fun p hp => by simp only [reidxPt, origIndex_append P R p.1 (h p hp)]

theorem findTurnsNan_eq (s : List (Option Int)) :
    findTurnsNan s = (findTurns (clean s)).map (reidxPt (origIndex s)) :=
  findTurnsNan_reindex s

theorem lastIdx_map_reidxPt (g : Nat → Nat) (l : List Pt) (h : l ≠ []) :
    lastIdx (l.map (reidxPt g)) = g (lastIdx l) := by
  unfold lastIdx
  rw [List.getLast?_map, List.getLast?_eq_some_getLast h]
  rfl

/-- The bookkeeping state of `_new_turns` after the signal `P` (with NaNs) has been fed in any
chunking: the ORIGINAL samples from the last decided turn on, and the number of samples. -/
def canonNanTs (P : List (Option Int)) : TurnStateNan :=
  { tail := P.drop (lastIdx (findTurnsNan P)), head := P.length }

theorem canonNanTs_nil : canonNanTs [] = {} := by
  simp [canonNanTs]

theorem newTurnsNan_def (st : TurnStateNan) (samples : List (Option Int)) (h : samples ≠ []) :
    newTurnsNan st samples =
      ({ tail := (st.tail ++ samples).drop (lastIdx (findTurnsNan (st.tail ++ samples))),
         head := st.head + samples.length },
       (findTurnsNan (st.tail ++ samples)).map fun p => (p.1 + (st.head - st.tail.length), p.2)) := by
  have hemp : samples.isEmpty = false := List.isEmpty_eq_false_iff.2 h
  unfold newTurnsNan
  simp only [hemp, Bool.false_eq_true, if_false]
  rfl

theorem findTurnsNan_append (P ch : List (Option Int)) :
    findTurnsNan (P ++ ch) =
      findTurnsNan P ++ (newTurnsOf (clean P) (clean ch)).map (reidxPt (origIndex (P ++ ch))) := by
  rw [findTurnsNan_eq, findTurnsNan_eq, clean_append, findTurns_restart, List.map_append,
    map_reidxPt_origIndex_append P ch _ (Sym.findTurns_index_lt _)]

/-- One call of `_new_turns` with a non-empty chunk (NaNs allowed anywhere), started in the canonical
state of `P`: the canonical state of `P ++ ch`, and the reported turns are the newly decided turns
of the cleaned signal at their original positions - which do not depend on the samples `R` that
follow. -/
theorem newTurnsNan_canon (P ch R : List (Option Int)) (hch : ch ≠ []) :
    newTurnsNan (canonNanTs P) ch =
      (canonNanTs (P ++ ch),
       (newTurnsOf (clean P) (clean ch)).map (reidxPt (origIndex (P ++ ch ++ R)))) := by
  rw [map_reidxPt_origIndex_append (P ++ ch) R _ fun p hp => Sym.findTurns_index_lt _ p (by
      rw [clean_append, findTurns_restart]; exact List.mem_append_right _ hp),
    newTurnsNan_def _ _ hch]
  -- the tail starts at the last decided turn: position `t` of `P`, position `t'` of `clean P`
  have key : lastIdx (findTurnsNan P) ≤ P.length ∧
      clean (P.drop (lastIdx (findTurnsNan P))) = (clean P).drop (lastIdx (findTurns (clean P))) ∧
      ∀ j, origIndex (P ++ ch) (j + lastIdx (findTurns (clean P))) =
        origIndex (P.drop (lastIdx (findTurnsNan P)) ++ ch) j + lastIdx (findTurnsNan P) := by
    rw [findTurnsNan_eq]
    by_cases hT : findTurns (clean P) = []
    · simp [hT]
    · rw [lastIdx_map_reidxPt _ _ hT]
      -- `P = A ++ some v :: B` with the last decided turn at `v`
      obtain ⟨A, v, B, rfl, hA⟩ := Sym.filterMap_split P _
        (lastIdx_findTurns_lt (clean P) (fun h => hT (by rw [h]; rfl)))
      rw [← hA, Sym.origIndex_at, List.drop_left]
      refine ⟨by simp, by rw [clean_append, List.drop_left], fun j => ?_⟩
      rw [List.append_assoc, Nat.add_comm j, Sym.origIndex_shift, Nat.add_comm]
  generalize ht' : lastIdx (findTurns (clean P)) = t' at key
  generalize ht : lastIdx (findTurnsNan P) = t at key
  obtain ⟨htle, hcl, hidx⟩ := key
  have hdrop : (P ++ ch).drop t = P.drop t ++ ch := List.drop_append_of_le_length htle
  have hturns : shiftPts t (findTurnsNan (P.drop t ++ ch)) =
      (newTurnsOf (clean P) (clean ch)).map (reidxPt (origIndex (P ++ ch))) := by
    rw [findTurnsNan_eq, clean_append, hcl]
    simp only [newTurnsOf, ht', shiftPts, List.map_map]
    apply List.map_congr_left
    intro p _
    simp only [Function.comp, reidxPt, hidx]
  have hlast : lastIdx (findTurnsNan (P ++ ch)) = t + lastIdx (findTurnsNan (P.drop t ++ ch)) := by
    rw [findTurnsNan_append, ← hturns, ← ht, lastIdx_append_shiftPts]
  have hoff : (canonNanTs P).head - (canonNanTs P).tail.length = t := by
    simp only [canonNanTs, ht, List.length_drop]; omega
  rw [hoff, ← hturns]
  simp only [canonNanTs, ht]
  rw [hlast, ← List.drop_drop, hdrop]
  simp [List.length_append, shiftPts]

/-- a point of the clean signal as a point of the signal with NaNs: position through `g` (`origIndex`),
value not NaN -/
def liftPt (g : Nat → Nat) (p : Pt) : PtN := (g p.1, some p.2)

theorem fpCloseN_some (c b a : PtN) (rest : List PtN) (d : Option Int) (cyc : Cycle)
    (h : closeCondN a b c d = some cyc) :
    fpCloseN (c :: b :: a :: rest) d = (cyc :: (fpCloseN (a :: rest) d).1, (fpCloseN (a :: rest) d).2) := by
  rw [fpCloseN]; simp [h]

theorem fpCloseN_none (c b a : PtN) (rest : List PtN) (d : Option Int)
    (h : closeCondN a b c d = none) :
    fpCloseN (c :: b :: a :: rest) d = ([], c :: b :: a :: rest) := by
  rw [fpCloseN]; simp [h]

theorem closeCondN_nan (a b c : PtN) : closeCondN a b c none = none := by
  unfold closeCondN
  split <;> simp_all

theorem fpCloseN_nan (st : List PtN) : fpCloseN st none = ([], st) := by
  match st with
  | [] => simp [fpCloseN]
  | [_] => simp [fpCloseN]
  | [_, _] => simp [fpCloseN]
  | c :: b :: a :: rest => exact fpCloseN_none c b a rest none (closeCondN_nan a b c)

theorem closeCondN_lift (g : Nat → Nat) (a b c : Pt) (d : Int) :
    closeCondN (liftPt g a) (liftPt g b) (liftPt g c) (some d) =
      if absDiff b.2 c.2 ≤ absDiff a.2 b.2 ∧ absDiff b.2 c.2 ≤ absDiff c.2 d then
        some (reidxCycle g (b, c)) else none := by
  simp [closeCondN, liftPt, reidxCycle, reidxPt]

theorem fpCloseN_lift (g : Nat → Nat) (st : List Pt) (d : Int) :
    fpCloseN (st.map (liftPt g)) (some d) =
      ((fpClose st d).1.map (reidxCycle g), (fpClose st d).2.map (liftPt g)) := by
  fun_induction fpClose st d with
  | case1 c b a rest d h r ih =>
    simp only [List.map_cons] at ih ⊢
    rw [fpCloseN_some _ _ _ _ _ (reidxCycle g (b, c)) (by rw [closeCondN_lift, if_pos h]), ih]
  | case2 c b a rest d h =>
    simp only [List.map_cons]
    rw [fpCloseN_none _ _ _ _ _ (by rw [closeCondN_lift, if_neg h])]
    simp
  | case3 st d h =>
    match st, h with
    | [], _ => simp [fpCloseN]
    | [_], _ => simp [fpCloseN]
    | [_, _], _ => simp [fpCloseN]
    | c :: b :: a :: rest, h => exact absurd rfl (h c b a rest)

theorem fpFeedN_lift (g : Nat → Nat) (N : List Pt) : ∀ st : List Pt,
    fpFeedN (st.map (liftPt g)) (N.map (liftPt g)) =
      ((fpFeed st N).1.map (reidxCycle g), (fpFeed st N).2.map (liftPt g)) := by
  induction N with
  | nil => intro st; simp [fpFeedN, fpFeed]
  | cons p N ih =>
    intro st
    simp only [List.map_cons, fpFeedN, fpPushN, fpFeed, fpPush]
    have h1 : (liftPt g p).2 = some p.2 := rfl
    rw [h1, fpCloseN_lift]
    have := ih (p :: (fpClose st p.2).2)
    simp only [List.map_cons] at this
    rw [this]
    simp

/-- `process` on a state whose stack holds no NaN, given what `_new_turns` reports: feeding and
closing are those of the clean detector; only the last sample of the chunk may be NaN. -/
theorem fpProcessNan_lift (g : Nat → Nat) (st : DetStateNan) (s0 : Option Int)
    (tl : List (Option Int)) (B N : List Pt) (ts' : TurnStateNan)
    (hbase : (if st.last.isNone then [((0 : Nat), s0)] else st.stack) = B.map (liftPt g))
    (hturns : newTurnsNan st.ts (s0 :: tl) = (ts', N.map (reidxPt g))) :
    fpProcessNan st (s0 :: tl) =
      { ts := ts',
        stack := (fpCloseN ((fpFeed B N).2.map (liftPt g)) ((s0 :: tl).getLast?.getD none)).2,
        last := some ((s0 :: tl).getLast?.getD none),
        cycles := st.cycles ++ (fpFeed B N).1.map (reidxCycle g) ++
          (fpCloseN ((fpFeed B N).2.map (liftPt g)) ((s0 :: tl).getLast?.getD none)).1,
        chunks := st.chunks ++ [(s0 :: tl).length] } := by
  have hlift : (N.map (reidxPt g)).map (fun p => (p.1, some p.2)) = N.map (liftPt g) := by
    simp [List.map_map, reidxPt, liftPt, Function.comp_def]
  simp only [fpProcessNan, hturns, hbase, hlift, fpFeedN_lift]

theorem clean_head? (s : List (Option Int)) (x : Int) (h : s.head? = some (some x)) :
    (clean s).head? = some x := by
  cases s with
  | nil => simp at h
  | cons y Y => rw [Option.some.inj h]; rfl

theorem clean_getLast? (s : List (Option Int)) (d : Int) (h : s.getLast? = some (some d)) :
    (clean s).getLast? = some d := by
  obtain ⟨A, rfl⟩ := List.getLast?_eq_some_iff.mp h
  simp [clean]

/-- State of `fpProcessNan` after the samples `P` (a prefix of the whole signal, whose first sample
is `x0`, not NaN), in ANY chunking.  `g` maps clean positions to original positions.  `P0` are the
samples up to the last chunk end that was not NaN (none yet: `P0 = []`), `Q` the samples since, all
in chunks that end in NaN: their decided turns have been fed, nothing has been closed with them. -/
structure Inv (g : Nat → Nat) (x0 : Int) (P : List (Option Int)) (st : DetStateNan) : Prop where
  ts : st.ts = canonNanTs P
  lastSome : P ≠ [] → st.last = some (P.getLast?.getD none)
  body : ∃ (P0 Q : List (Option Int)) (ch0 : List Nat), P = P0 ++ Q ∧
    (Q ≠ [] → Q.getLast? = some none) ∧
    (if st.last.isNone then [((0 : Nat), some x0)] else st.stack) =
      (fpFeed (baseOf x0 (fpCanon (clean P0) ch0)) (newTurnsOf (clean P0) (clean Q))).2.map
        (liftPt g) ∧
    st.cycles = ((fpCanon (clean P0) ch0).cycles ++
      (fpFeed (baseOf x0 (fpCanon (clean P0) ch0)) (newTurnsOf (clean P0) (clean Q))).1).map
        (reidxCycle g)

theorem inv_init (g : Nat → Nat) (hg : g 0 = 0) (x0 : Int) : Inv g x0 [] {} := by
  refine ⟨by simp [canonNanTs], fun h => absurd rfl h, [], [], [], rfl, by simp, ?_, ?_⟩
  · simp [clean, newTurnsOf_nil_right, fpFeed, baseOf, fpCanon_nil, liftPt, hg]
  · simp [clean, newTurnsOf_nil_right, fpFeed, fpCanon_nil]

theorem inv_step (flat : List (Option Int)) (x0 : Int) (hflat : flat.head? = some (some x0))
    (P ch R : List (Option Int)) (hPR : P ++ ch ++ R = flat)
    (hch : ch ≠ []) (st : DetStateNan) (h : Inv (origIndex flat) x0 P st) :
    Inv (origIndex flat) x0 (P ++ ch) (fpProcessNan st ch) := by
  obtain ⟨hts, hlS, P0, Q, ch0, hP, hQ, hbase, hcyc⟩ := h
  cases ch with
  | nil => exact absurd rfl hch
  | cons s0 tl =>
    have hhead : (P ++ s0 :: tl).head? = some (some x0) := by
      rw [← hPR, List.head?_append_of_ne_nil _ (by simp)] at hflat
      exact hflat
    have hs0 : P = [] → s0 = some x0 := fun hP => by
      rw [hP] at hhead
      exact Option.some.inj hhead
    let B := baseOf x0 (fpCanon (clean P0) ch0)
    let S := fpFeed B (newTurnsOf (clean P0) (clean Q))
    have hbase' : (if st.last.isNone then [((0 : Nat), s0)] else st.stack) =
        S.2.map (liftPt (origIndex flat)) := by
      rw [← hbase]
      by_cases hP : P = []
      · rw [hs0 hP]
      · rw [hlS hP]; simp
    let N := newTurnsOf (clean P) (clean (s0 :: tl))
    have hturns : newTurnsNan st.ts (s0 :: tl) =
        (canonNanTs (P ++ s0 :: tl), N.map (reidxPt (origIndex flat))) := by
      rw [hts, ← hPR]; exact newTurnsNan_canon P (s0 :: tl) R hch
    have hN : newTurnsOf (clean P0) (clean (Q ++ s0 :: tl)) =
        newTurnsOf (clean P0) (clean Q) ++ N := by
      rw [clean_append, newTurnsOf_append, ← clean_append, ← hP]
    obtain ⟨v, hv⟩ : ∃ v, (s0 :: tl).getLast? = some v :=
      ⟨_, List.getLast?_eq_some_getLast (List.cons_ne_nil _ _)⟩
    have hlast : ∀ A : List (Option Int), (A ++ s0 :: tl).getLast? = some v := fun A => by
      rw [List.getLast?_append_of_ne_nil _ (List.cons_ne_nil _ _), hv]
    rw [fpProcessNan_lift _ st s0 tl S.2 N _ hbase' hturns, hv, Option.getD_some]
    refine ⟨rfl, fun _ => by rw [hlast P]; rfl, ?_⟩
    cases v with
    | none =>
      -- the chunk ends in NaN: nothing is closed, the new turns stay pending
      refine ⟨P0, Q ++ s0 :: tl, ch0, by rw [hP, List.append_assoc], fun _ => hlast Q, ?_, ?_⟩
      · simp only [Option.isNone_some, Bool.false_eq_true, if_false, fpCloseN_nan, hN,
          fpFeed_append]; rfl
      · simp only [fpCloseN_nan, List.append_nil, hN, fpFeed_append, hcyc, List.map_append,
          List.append_assoc]; rfl
    | some d =>
      -- the chunk ends in a sample: one `process` call of the clean detector for all since `P0`
      have hcan := fpCanon_append (clean P0) (clean (Q ++ s0 :: tl)) ch0 x0 d
        (by rw [← clean_append, ← List.append_assoc, ← hP]; exact clean_head? _ x0 hhead)
        (clean_getLast? _ d (hlast Q))
      rw [← clean_append, ← List.append_assoc, ← hP, hN] at hcan
      refine ⟨P ++ s0 :: tl, [], ch0 ++ [(clean (Q ++ s0 :: tl)).length], by simp, by simp, ?_, ?_⟩
      · simp only [Option.isNone_some, Bool.false_eq_true, if_false, fpCloseN_lift, clean,
          List.filterMap_nil, newTurnsOf_nil_right, fpFeed_nil, hcan, baseOf, fpFeed_append]; rfl
      · simp only [fpCloseN_lift, clean, List.filterMap_nil, newTurnsOf_nil_right, fpFeed_nil,
          List.append_nil, hcan, fpFeed_append, hcyc, List.append_assoc, List.map_append]; rfl

theorem inv_run (flat : List (Option Int)) (x0 : Int) (hflat : flat.head? = some (some x0))
    (cs : List (List (Option Int))) (hne : ∀ c ∈ cs, c ≠ [])
    (hcs : cs.flatten = flat) :
    Inv (origIndex flat) x0 flat (cs.foldl fpProcessNan {}) ∧
      (cs.foldl fpProcessNan {}).chunks = cs.map List.length := by
  have h0 : Inv (origIndex flat) x0 [] {} :=
    inv_init _ (by cases flat with
      | nil => simp at hflat
      | cons y Y => rw [Option.some.inj hflat]; rfl) x0
  have := foldl_chunks fpProcessNan
    (fun pre st => (∀ R, pre.flatten ++ R = flat → Inv (origIndex flat) x0 pre.flatten st) ∧
      st.chunks = pre.map List.length)
    (fun pre c st hc hst => ⟨fun R hR => by
      rw [List.flatten_append, List.flatten_singleton] at hR ⊢
      exact inv_step flat x0 hflat _ c R hR hc st
        (hst.1 (c ++ R) (by rw [← List.append_assoc]; exact hR)), by
      obtain ⟨s0, tl, rfl⟩ := List.exists_cons_of_ne_nil hc
      rw [List.map_append, ← hst.2]; rfl⟩)
    cs hne [] {} ⟨fun _ _ => h0, rfl⟩
  rw [List.nil_append] at this
  exact ⟨hcs ▸ this.1 [] (by rw [List.append_nil, hcs]), this.2⟩

/-- **The four-point detector on chunks with NaNs whose first and last sample are not NaN**: the
state of the one-piece run on the cleaned signal, seen at the original positions. -/
theorem fpRunNan_eq (cs : List (List (Option Int))) (hne : ∀ c ∈ cs, c ≠ [])
    (x0 xl : Int) (hfirst : cs.flatten.head? = some (some x0))
    (hlast : cs.flatten.getLast? = some (some xl)) :
    fpRunNan cs =
      { ts := canonNanTs cs.flatten,
        stack := (fpRun [clean cs.flatten]).stack.map (liftPt (origIndex cs.flatten)),
        last := some (some xl),
        cycles := (fpRun [clean cs.flatten]).cycles.map (reidxCycle (origIndex cs.flatten)),
        chunks := cs.map List.length } := by
  obtain ⟨F', hflat⟩ : ∃ F', cs.flatten = some x0 :: F' := by
    cases hf : cs.flatten with
    | nil => simp [hf] at hfirst
    | cons y Y =>
      rw [hf] at hfirst
      simp only [List.head?_cons, Option.some.injEq] at hfirst
      exact ⟨Y, by rw [hfirst]⟩
  have hne0 : cs.flatten ≠ [] := by rw [hflat]; simp
  obtain ⟨⟨hts, hlS, P0, Q, ch0, hP, hQ, hstack, hcyc⟩, hchunks⟩ := inv_run _ x0 hfirst cs hne rfl
  -- the last chunk ends in a sample: nothing is pending
  have hQ0 : Q = [] := by
    by_contra hq
    rw [hP, List.getLast?_append_of_ne_nil _ hq, hQ hq] at hlast
    simp at hlast
  rw [hQ0, List.append_nil] at hP
  have hal : (cs.foldl fpProcessNan {}).last = some (some xl) := by
    rw [hlS hne0, hlast]; rfl
  have hcl : clean cs.flatten = x0 :: clean F' := by rw [hflat]; simp [clean]
  have hb : fpRun [clean cs.flatten] = fpCanon (x0 :: clean F') [(x0 :: clean F').length] := by
    rw [hcl]; simpa using fpRun_canon [x0 :: clean F']
  rw [hal] at hstack
  rw [← hP, hcl, hQ0] at hstack hcyc
  simp only [clean, List.filterMap_nil, newTurnsOf_nil_right, fpFeed_nil, List.append_nil,
    Option.isNone_some, Bool.false_eq_true, if_false] at hstack hcyc
  rw [hb]
  show (⟨_, _, _, _, _⟩ : DetStateNan) = _
  rw [hts, hstack, hal, hcyc, hchunks]
  rfl

end PylifeVerif.Rainflow.Nan
