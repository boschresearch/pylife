/-
One-point load sequences, and what an inserted non-reversal sample does to the decisions of the two-pass driver.
The HCM loop only sees the values of the turning points that `newTurns` hands to it, so the records of the two passes
`passes law fl s` are a function of the fed values `fedG f t` of the trimmed sequence `t` and the first-run flush flag
`f` (`passes_one`, the one-point instance of `twoProc_core` in `HCMFed.lean`).  An inserted non-reversal sample
(`InsOK`) moves the turning points by the index map `bump` (`findTurns_ins` of `Insertion.lean`); so the trimmed
sequences are equal or related by the same insertion (`trim_ins`, `trim_end`), no flush flag sees the sample
(`flushZ_ins`) and the fed values stay (`fedG_ins`).
-/
import Proofs.Lemmas.HCMFed
import Proofs.Lemmas.Insertion
import Proofs.C04Basic

namespace PylifeVerif.HCM.Insert
open PylifeVerif.HCM PylifeVerif.Rainflow
open PylifeVerif.C02 (isRevLocal revList isRevLocal_cons_self isRevLocal_cons_ne)

section OnePoint
open PylifeVerif.C04 (one one_rep)

/-- the two passes on the one-point sequence of `s`; the first pass flushes iff `fl` says so on the
trimmed sequence -/
def passes (law : Law) (fl : List Int → Bool) (s : List Int) : State :=
  twoProc law fl (fun x => [x]) (trimI s)

theorem passes_one (law : Law) (fl : List Int → Bool) (s : List Int) (hs : s ≠ []) :
    core (passes law fl s) =
      feed law (feed law {} 1 (one (fedG (fl (trimI s)) (trimI s)).1)) 1 (one (fedG (fl (trimI s)) (trimI s)).2) :=
  twoProc_core law fl (fun x => [x]) 1 Int.one_ne_zero (fun x => (Int.one_mul x).symm) 1 (fun _ => rfl) _
    (trimI_ne_nil s hs)

theorem twoPass_one_eq (law : Law) (s : List Int) (hs : s ≠ []) :
    twoPassR law (one s) = passes law flushI s ∧ twoPass law (one s) = passes law flushC s :=
  twoPass_eq_twoProc_one law s hs

end OnePoint

theorem vals_bump (k : Nat) (l : List Pt) : vals (l.map (bump k)) = vals l := by
  simp [vals, bump, Function.comp_def]

theorem isRevLocal_ins_app (u x v : Int) : ∀ (Wa Wb : List Int), InsOK (x :: Wa) v Wb →
    isRevLocal u x (Wa ++ v :: Wb) = isRevLocal u x (Wa ++ Wb)
  | [], Wb, ⟨y, hy, h⟩ => by
    obtain rfl : x = y := by simpa using hy
    exact isRevLocal_ins u x v Wb h
  | w :: Wa, Wb, h => by
    by_cases hw : w = x
    · subst hw
      rw [List.cons_append, List.cons_append, isRevLocal_cons_self, isRevLocal_cons_self]
      exact isRevLocal_ins_app u w v Wa Wb (h.of_last (List.getLast?_cons_cons).symm)
    · rw [List.cons_append, List.cons_append, isRevLocal_cons_ne hw, isRevLocal_cons_ne hw]

theorem filter_bumpN (k n0 : Nat) (h : k ≤ n0) (l : List Nat) :
    (l.map (bumpN k)).filter (· < n0 + 1) = (l.filter (· < n0)).map (bumpN k) := by
  have hp : ∀ j, bumpN k j < n0 + 1 ↔ j < n0 := fun j => by unfold bumpN; split_ifs <;> omega
  rw [List.filter_map]
  simp only [Function.comp_def, hp]

theorem mem_map_bumpN_succ (k n : Nat) (h : k ≤ n) (l : List Nat) : n + 1 ∈ l.map (bumpN k) ↔ n ∈ l := by
  rw [List.mem_map]
  constructor
  · rintro ⟨j, hj, e⟩
    unfold bumpN at e
    split_ifs at e
    · omega
    · obtain rfl : j = n := by omega
      exact hj
  · exact fun hn => ⟨n, hn, if_neg (by omega)⟩

/-! The driver reads a doubled signal - `s ++ s` for the trimming, `(0 :: t) ++ (Z ++ t)` for the flag - through the
turning points inside its first block.  What follows the block is seen only through the local test at its last sample
(`blockIdx_congr`), which does not see a non-reversal (`isRevLocal_ins_app`); so an insertion into both copies is one
insertion into the block (`blockIdx_ins`, from `findTurns_ins`). -/

def blockIdx (X W : List Int) : List Nat := ((findTurns (X ++ W)).map (·.1)).filter (· < X.length)

theorem blockIdx_congr {X : List Int} {x : Int} (hx : X.getLast? = some x) {W W' : List Int}
    (h : ∀ u, isRevLocal u x W = isRevLocal u x W') : blockIdx X W = blockIdx X W' := by
  obtain ⟨u, c, -, -, hs⟩ := findTurns_split X x hx
  have hr : ∀ B, ((revList X.length (x :: B)).map (·.1)).filter (· < X.length) = [] := fun B => by
    rw [List.filter_eq_nil_iff]
    intro t ht
    obtain ⟨q, hq, rfl⟩ := List.mem_map.mp ht
    have := (revList_idx _ _ q hq).1
    simpa using this
  unfold blockIdx
  rw [hs, hs, h u]
  simp only [List.map_append, List.filter_append, hr]

theorem blockIdx_ins (A B W : List Int) (v : Int) (h : InsOK A v (B ++ W)) :
    blockIdx (A ++ v :: B) W = (blockIdx (A ++ B) W).map (bumpN A.length) := by
  unfold blockIdx
  rw [List.append_assoc, List.cons_append, findTurns_ins A (B ++ W) v h, idx_bump, ← List.append_assoc,
    show (A ++ v :: B).length = (A ++ B).length + 1 by simp only [List.length_append, List.length_cons]; omega]
  exact filter_bumpN _ _ (by simp only [List.length_append]; omega) _

/-! Trimming: interior insertion, and a sample at the end (an insertion at the junction of the repetition). -/

theorem idxf_eq_blockIdx (s : List Int) : idxf s = blockIdx s s := rfl

theorem idxf_ins (A B : List Int) (v : Int) (h : InsOK A v B) :
    idxf (A ++ v :: B) = (idxf (A ++ B)).map (bumpN A.length) := by
  obtain ⟨b, hb⟩ : ∃ b, (A ++ v :: B).getLast? = some b := ⟨_, List.getLast?_eq_some_getLast (by simp)⟩
  rw [idxf_eq_blockIdx, blockIdx_congr hb fun u => isRevLocal_ins_app u b v A B (h.prepend [b]),
    blockIdx_ins A B _ v (h.append_right _)]
  rfl

/-- Either the inserted sample is trimmed away, or the trimmed
sequences are related by the same insertion. -/
theorem trim_ins (A B : List Int) (v : Int) (h : InsOK A v B) (hB : B ≠ []) :
    trimI (A ++ v :: B) = trimI (A ++ B) ∨
    ∃ B1, B1 ≠ [] ∧ trimI (A ++ v :: B) = A ++ v :: B1 ∧ trimI (A ++ B) = A ++ B1 ∧ InsOK A v B1 := by
  have hg' : (idxf (A ++ v :: B)).getLast? = (idxf (A ++ B)).getLast?.map (bumpN A.length) := by
    rw [idxf_ins A B v h, List.getLast?_map]
  cases hg : (idxf (A ++ B)).getLast? with
  | none =>
    rw [hg] at hg'
    exact Or.inr ⟨B, hB, trimI_of_none _ hg', trimI_of_none _ hg, h⟩
  | some t0 =>
    rw [hg] at hg'
    rw [trimI_of_last _ _ hg, trimI_of_last _ _ hg']
    by_cases hk : t0 < A.length
    · left
      rw [show bumpN A.length t0 = t0 from if_pos hk, List.take_append_of_le_length (by omega),
        List.take_append_of_le_length (by omega)]
    · right
      have e : t0 + 1 + 1 - A.length = (t0 + 1 - A.length) + 1 := by omega
      refine ⟨B.take (t0 + 1 - A.length), ?_, ?_, ?_, h.take _ (by omega)⟩
      · exact fun h0 => (List.take_eq_nil_iff.mp h0).elim (by omega) hB
      · rw [show bumpN A.length t0 = t0 + 1 from if_neg hk, List.take_append,
          List.take_of_length_le (by omega), e, List.take_succ_cons]
      · rw [List.take_append, List.take_of_length_le (by omega)]

theorem idxf_end (s : List Int) (v : Int) (h : InsOK s v s) : idxf (s ++ [v]) = idxf s := by
  rw [idxf_eq_blockIdx, blockIdx_congr (W' := s) (List.getLast?_concat ..) fun u => by
      unfold isRevLocal; rw [find?_ne_skip, List.append_nil],
    blockIdx_ins s [] s v h, List.append_nil]
  exact map_bumpN_of_lt _ _ fun t ht => (idxf_mem s t ht).2

theorem trim_end (s : List Int) (v : Int) (h : InsOK s v s) (h2 : ∃ p ∈ s, ∃ q ∈ s, p ≠ q) :
    trimI (s ++ [v]) = trimI s := by
  obtain ⟨t, hg⟩ : ∃ t, (idxf s).getLast? = some t := ⟨_, List.getLast?_eq_some_getLast (idxf_ne_nil s h2)⟩
  have hlt := (idxf_mem _ t (List.mem_of_getLast? hg)).2
  rw [trimI_of_last _ t ((idxf_end s v h).symm ▸ hg), trimI_of_last _ t hg,
    List.take_append_of_le_length (by omega)]

theorem flushZ_eq_blockIdx (Z t : List Int) : flushZ Z t = (blockIdx (0 :: t) (Z ++ t)).contains t.length := by
  unfold flushZ blockIdx
  rw [Bool.eq_iff_iff, List.contains_iff_mem, List.contains_iff_mem, List.mem_filter]
  simp

/-- No flush flag sees a sample inserted into the sequence that is no reversal behind `0 :: A` (first copy) nor
behind `Z ++ A` (second copy).  `A = []`: a sample in front of the sequence. -/
theorem flushZ_ins (Z A B : List Int) (v : Int) (hB : B ≠ []) (h1 : InsOK (0 :: A) v B)
    (h2 : ∀ b, InsOK (b :: (Z ++ A)) v B) : flushZ Z (A ++ v :: B) = flushZ Z (A ++ B) := by
  obtain ⟨b, hb⟩ : ∃ b, (0 :: (A ++ v :: B)).getLast? = some b :=
    ⟨_, List.getLast?_eq_some_getLast (List.cons_ne_nil _ _)⟩
  have hBl := List.length_pos_of_ne_nil hB
  rw [flushZ_eq_blockIdx, flushZ_eq_blockIdx, ← List.append_assoc Z, ← List.append_assoc Z,
    blockIdx_congr hb fun u => isRevLocal_ins_app u b v (Z ++ A) B (h2 b), ← List.cons_append,
    blockIdx_ins (0 :: A) B _ v (h1.append_right _), Bool.eq_iff_iff, List.contains_iff_mem, List.contains_iff_mem,
    show (A ++ v :: B).length = (A ++ B).length + 1 by simp only [List.length_append, List.length_cons]; omega]
  exact mem_map_bumpN_succ _ _ (by simp only [List.length_append, List.length_cons]; omega) _

theorem flag_ins (Z A B : List Int) (v : Int) (h : InsOK A v B) (hB : B ≠ []) :
    flushZ Z (A ++ v :: B) = flushZ Z (A ++ B) :=
  flushZ_ins Z A B v hB (h.prepend [0]) fun b => h.prepend (b :: Z)

theorem flushC_prepend (t : List Int) (v : Int) (h0 : InsOK [0] v t) (ht : t ≠ []) :
    flushC (v :: t) = flushC t :=
  flushZ_ins [0] [] t v ht h0 fun b => h0.prepend [b]

theorem vals_findTurns_ins (A B : List Int) (v : Int) (h : InsOK A v B) :
    vals (findTurns (A ++ v :: B)) = vals (findTurns (A ++ B)) := by
  rw [findTurns_ins A B v h, vals_bump]

/-- the values of the turning points of a doubled signal with the sample inserted into both copies: behind `X` and
behind `Y`, where the second insertion has `X ++ B` in front of it -/
theorem vals_ins2 (X Y B : List Int) (v : Int) (hX : InsOK X v B) (hY : InsOK (B ++ Y) v B) :
    vals (findTurns ((X ++ v :: B) ++ (Y ++ v :: B))) = vals (findTurns ((X ++ B) ++ (Y ++ B))) := by
  have e1 : (X ++ v :: B) ++ (Y ++ v :: B) = X ++ v :: (B ++ (Y ++ v :: B)) := by simp
  have e2 : X ++ (B ++ (Y ++ v :: B)) = (X ++ (B ++ Y)) ++ v :: B := by simp
  have e3 : (X ++ (B ++ Y)) ++ B = (X ++ B) ++ (Y ++ B) := by simp
  rw [e1, vals_findTurns_ins X _ v (hX.append_right _), e2, vals_findTurns_ins _ B v (hY.prepend X), e3]

theorem fedG_ins (f : Bool) (A B : List Int) (v : Int) (h : InsOK A v B) (hB : B ≠ []) :
    fedG f (A ++ v :: B) = fedG f (A ++ B) := by
  have hX : InsOK (0 :: A) v B := h.prepend [0]
  refine fedG_congr f (by simp) (by simp [hB]) ?_ (vals_findTurns_ins (0 :: A) B v hX)
    (vals_findTurns_ins (_ :: A) B v (h.prepend [_])) (vals_ins2 (0 :: A) A B v hX (h.prepend B))
  rw [List.getLast_append_of_ne_nil _ (List.cons_ne_nil _ _), List.getLast_cons hB,
    List.getLast_append_of_ne_nil _ hB]

end PylifeVerif.HCM.Insert
