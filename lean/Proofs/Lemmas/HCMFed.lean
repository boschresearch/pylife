/-
What the two passes of the HCM detector are fed: the first-node loads handed to the loop are `fedG f t`,
a function of the first-node loads `t` of the trimmed sequence and the first-run flush flag `f`, for any
number of points.  On proportionally loaded points the records of the two passes are a function of these values
(`twoProc_core`).  Consecutive fed loads differ (`fedG_chain`); a constant sequence feeds one value; `fedG`
reads `t` through turning-point values only (`fedG_congr`).
-/
import Proofs.Lemmas.HCMFlush
import Mathlib.Data.List.Chain

namespace PylifeVerif.HCM
open PylifeVerif.Rainflow
open PylifeVerif.C02 (isRevLocal)

theorem foldl_turnStep_snd (law : Law) (loads : List Vec) : ∀ acc : State × Int,
    (loads.foldl (turnStep law) acc).2 = (loads.map rep).getLastD acc.2 := by
  induction loads with
  | nil => intro acc; rfl
  | cons l ls ih => intro acc; simp only [List.foldl_cons, List.map_cons, List.getLastD_cons]; rw [ih]; rfl

theorem process_prevLoad (law : Law) (st : State) (samples : List Vec) (flush : Bool) :
    (process law st samples flush).prevLoad =
      ((procLoads st samples flush).map rep).getLastD st.prevLoad := by
  rw [process_eq]; exact foldl_turnStep_snd law _ _

/-- a flushing first pass ends with a step: the hypothesis of `last_turn_ne_last` -/
theorem Insert.flushZ_step (Z t : List Int) (h : Insert.flushZ Z t = true) :
    ∃ w0 a l, a ≠ l ∧ (0 :: t) = w0 ++ [a, l] := by
  rw [Insert.flushZ, List.contains_iff_mem, List.mem_map] at h
  rcases List.eq_nil_or_concat t with rfl | ⟨Q0, l, rfl⟩
  · obtain ⟨p, hp, hpk⟩ := h
    exact absurd (findTurns_idx _ p hp).1 (by rw [hpk]; exact Nat.lt_irrefl _)
  · rw [List.concat_eq_append, ← List.cons_append, List.append_assoc, List.singleton_append,
      show (Q0 ++ [l]).length = (0 :: Q0).length by simp, findTurns_at_iff _ (List.cons_ne_nil _ _),
      isRevLocal_iff] at h
    obtain ⟨n, _, hs⟩ := h
    refine ⟨(0 :: Q0).dropLast, (0 :: Q0).getLast (List.cons_ne_nil _ _), l, by omega, ?_⟩
    rw [List.concat_eq_append, ← List.cons_append]
    conv_lhs => rw [← List.dropLast_append_getLast (List.cons_ne_nil 0 Q0)]
    rw [List.append_assoc]; rfl

theorem procLoads_nil (st : State) (flush : Bool) : procLoads st [] flush = [] := by
  unfold procLoads; simp [newTurns]

namespace Insert

def vals (l : List Pt) : List Int := l.map (·.2)

/-- the turn bookkeeping after the first pass over the trimmed, zero-prefixed value sequence `t`,
run with flush flag `f` -/
def ts1 (f : Bool) (t : List Int) : TurnState := (newTurns {} (0 :: t) f).1

/-- the values of the turning points that the two passes feed to the HCM loop, first-run flag `f` -/
def fedG (f : Bool) (t : List Int) : List Int × List Int :=
  ((newTurns {} (0 :: t) f).2.map (·.2), (newTurns (ts1 f t) t true).2.map (·.2))

theorem ts1_eq (f : Bool) (t : List Int) :
    (ts1 f t).tail = (if f then [(0 :: t).getLast (List.cons_ne_nil _ _)]
      else (0 :: t).drop (lastIdx (findTurns (0 :: t)))) ∧ (ts1 f t).head = t.length + 1 := by
  unfold ts1
  rw [newTurns_chunk [] 0 _ (List.cons_ne_nil _ _)]
  cases f <;> simp

/-- hypotheses of `procLoads_rep` for the second pass -/
theorem ts1_ok (f : Bool) (t : List Int) :
    (ts1 f t).tail.length ≤ (ts1 f t).head ∧
    ∀ q ∈ findTurns ((ts1 f t).tail ++ t), q.1 < (ts1 f t).tail.length →
      (0 :: t).getLast (List.cons_ne_nil _ _) = q.2 := by
  obtain ⟨ht, hh⟩ := ts1_eq f t
  rw [ht, hh]
  cases f with
  | true =>
    simp only [if_true, List.length_singleton]
    refine ⟨by omega, fun q hq hlt => ?_⟩
    have := (findTurns_idx _ q hq).1
    omega
  | false =>
    simp only [Bool.false_eq_true, if_false]
    refine ⟨by simp only [List.length_drop, List.length_cons]; omega, fun q hq hlt => ?_⟩
    have hlt' := lastIdx_findTurns_lt (0 :: t) (List.cons_ne_nil _ _)
    have hne : (0 :: t).drop (lastIdx (findTurns (0 :: t))) ≠ [] := by
      intro h; have := congrArg List.length h; simp at this; simp at hlt'; omega
    rw [tail_turn_value _ hne (findTurns_drop_lastIdx _) t q hq hlt, List.getLast_drop]

theorem fedG1_eq (f : Bool) (t : List Int) :
    (fedG f t).1 = vals (findTurns (0 :: t)) ++
      (if f then [(0 :: t).getLast (List.cons_ne_nil _ _)] else []) := by
  unfold fedG
  rw [newTurns_chunk [] 0 _ (List.cons_ne_nil _ _)]
  cases f <;> simp [vals]

theorem fedG2_eq (f : Bool) (t : List Int) (ht : t ≠ []) :
    (fedG f t).2 = vals (findTurns ((if f then [(0 :: t).getLast (List.cons_ne_nil _ _)]
      else (0 :: t).drop (lastIdx (findTurns (0 :: t)))) ++ t)) ++ [t.getLast ht] := by
  unfold fedG
  rw [newTurns_chunk _ _ _ ht, (ts1_eq f t).1]
  simp [vals]

theorem vals_shiftPts (k : Nat) (l : List Pt) : vals (shiftPts k l) = vals l := by
  simp [vals, shiftPts, Function.comp_def]

/-- the values that an extension newly decides are fixed by the values before and after it -/
theorem vals_restart_congr {p c p' c' : List Int}
    (h1 : vals (findTurns p) = vals (findTurns p'))
    (h2 : vals (findTurns (p ++ c)) = vals (findTurns (p' ++ c'))) :
    vals (findTurns (p.drop (lastIdx (findTurns p)) ++ c)) =
      vals (findTurns (p'.drop (lastIdx (findTurns p')) ++ c')) := by
  have e : ∀ p c : List Int, vals (findTurns (p ++ c)) =
      vals (findTurns p) ++ vals (findTurns (p.drop (lastIdx (findTurns p)) ++ c)) := by
    intro p c
    rw [findTurns_restart p c, vals, List.map_append]
    exact congrArg _ (vals_shiftPts _ _)
  rw [e p c, e p' c', h1] at h2
  exact List.append_cancel_left h2

/-- The fed values read the sequence through its last sample and the turning-point values of three
signals: the zero-prefixed sequence, the sequence behind its last sample, and the zero-prefixed sequence
continued by the sequence. -/
theorem fedG_congr (f : Bool) {t t' : List Int} (ht : t ≠ []) (ht' : t' ≠ [])
    (hl : t.getLast ht = t'.getLast ht')
    (h1 : vals (findTurns (0 :: t)) = vals (findTurns (0 :: t')))
    (h2 : vals (findTurns (t'.getLast ht' :: t)) = vals (findTurns (t'.getLast ht' :: t')))
    (h3 : vals (findTurns ((0 :: t) ++ t)) = vals (findTurns ((0 :: t') ++ t'))) :
    fedG f t = fedG f t' := by
  have hl0 : (0 :: t).getLast (List.cons_ne_nil _ _) = t'.getLast ht' := by rw [List.getLast_cons ht, hl]
  refine Prod.ext ?_ ?_
  · rw [fedG1_eq, fedG1_eq, h1, hl0, List.getLast_cons ht']
  · rw [fedG2_eq _ _ ht, fedG2_eq _ _ ht', hl, hl0, List.getLast_cons ht']
    cases f with
    | true => exact congrArg (· ++ _) h2
    | false => exact congrArg (· ++ _) (vals_restart_congr h1 h3)

theorem procLoads_fed1 (s1 : List Vec) (t : List Int) (hs1 : s1.map rep = 0 :: t) (f : Bool) :
    (procLoads {} s1 f).map rep = (fedG f t).1 := by
  have hne1 : s1 ≠ [] := by intro h; rw [h] at hs1; cases hs1
  rw [procLoads_init s1 hne1 f, fedG1_eq]
  simp only [hs1, vals]

theorem procLoads_fed2 (law : Law) (s1 s' : List Vec) (hs1 : s1.map rep = 0 :: s'.map rep) (f : Bool) :
    (procLoads (process law {} s1 f) s' true).map rep = (fedG f (s'.map rep)).2 := by
  by_cases hne : s' = []
  · subst hne; rw [procLoads_nil]; rfl
  have hts : (process law {} s1 f).ts = ts1 f (s'.map rep) := by
    rw [process_ts, hs1]; rfl
  have hls : rep (process law {} s1 f).lastSample = (0 :: s'.map rep).getLast (List.cons_ne_nil _ _) := by
    obtain ⟨x, xs, rfl⟩ : ∃ x xs, s1 = x :: xs := by
      cases s1 with
      | nil => cases hs1
      | cons x xs => exact ⟨x, xs, rfl⟩
    rw [process_lastSample, List.getLastD_cons, ← List.getLast_eq_getLastD (List.cons_ne_nil x xs),
      ← List.getLast_map (f := rep) (by simp)]
    simp only [hs1]
  obtain ⟨hlen, hfit⟩ := ts1_ok f (s'.map rep)
  rw [procLoads_rep _ _ _ (by rw [hts]) hlen s' hne true (fun p hp hlt => hls.trans (hfit p hp hlt)),
    fedG2_eq _ _ (by simpa using hne), (ts1_eq f _).1]
  rfl

theorem fedG_scale (c : Int) (hc : c ≠ 0) (f : Bool) (t : List Int) :
    fedG f (t.map (c * ·)) = ((fedG f t).1.map (c * ·), (fedG f t).2.map (c * ·)) := by
  have h0 : (0 : Int) :: t.map (c * ·) = (0 :: t).map (c * ·) := by simp
  have key := newTurns_map (c * ·) (Sym.findTurns_scale c hc)
  have k1 : newTurns {} ((0 :: t).map (c * ·)) f = _ := key {} (0 :: t) f
  unfold fedG ts1
  rw [h0, k1, key _ t true]
  simp [List.map_map, Function.comp_def]

/-- The records are a function of the fed values, for any number of proportionally loaded points: the two passes on
the loads `f x` of a trimmed base signal are the HCM loop run on `f` of the fed values.  Which vector is handed to the
loop needs no index: it is a sample or the stored last sample, so `f y`, and its first node (`procLoads_fed1`,
`procLoads_fed2`) tells `y` (`procLoads_eq_map`). -/
theorem twoProc_core (law : Law) (fl : List Int → Bool) (f : Int → Vec) (c : Int) (hc : c ≠ 0)
    (hrep : ∀ x, rep (f x) = c * x) (n : Nat) (hn : ∀ x, (f x).length = n) (t : List Int) (ht : t ≠ []) :
    core (twoProc law fl f t) =
      feed law (feed law {} n ((fedG (fl t) t).1.map f)) n ((fedG (fl t) t).2.map f) := by
  unfold twoProc
  generalize fl t = b
  have hr0 : ((0 :: t).map f).map rep = 0 :: (t.map f).map rep := by
    rw [List.map_cons, List.map_cons, hrep, Int.mul_zero]
  have hrt : (t.map f).map rep = t.map (c * ·) := map_rep f c hrep t
  have e1 : procLoads {} ((0 :: t).map f) b = (fedG b t).1.map f :=
    procLoads_eq_map f c hc hrep {} 0 (0 :: t) b (Nat.le_refl _) (fun h => absurd h (Nat.lt_irrefl 0)) _
      (by rw [procLoads_fed1 _ _ (hr0.trans (by rw [hrt])), fedG_scale c hc])
  have hl1 : (process law {} ((0 :: t).map f) b).lastSample = f ((0 :: t).getLast (List.cons_ne_nil _ _)) := by
    rw [process_lastSample, List.getLastD_eq_getLast?, List.getLast?_map,
      List.getLast?_eq_some_getLast (List.cons_ne_nil _ _)]
    rfl
  have e2 : procLoads (process law {} ((0 :: t).map f) b) (t.map f) true = (fedG b t).2.map f :=
    procLoads_eq_map f c hc hrep _ _ t true (by rw [process_ts]; exact (newTurns_idx _ _ _ (Nat.le_refl _)).2)
      (fun _ => hl1) _ (by rw [procLoads_fed2 law _ _ hr0, hrt, fedG_scale c hc])
  have hn2 : ((t.map f).headD []).length = n := by
    obtain ⟨x, xs, rfl⟩ := List.exists_cons_of_ne_nil ht
    exact hn x
  rw [process_core law _ _ _ (process_inv law _ _ _ Inv.init), hn2, e2, process_core law _ _ _ Inv.init,
    show (((0 :: t).map f).headD []).length = n from hn 0, e1]
  rfl

/-- Consecutive fed values differ in both passes (the last one of pass 2 aside), provided a
flushing first pass ends with a non-zero step. -/
theorem fedG_chain (f : Bool) (t : List Int)
    (hstep : f = true → ∃ w0 a l, a ≠ l ∧ (0 :: t) = w0 ++ [a, l]) :
    C04.AdjNe (0 :: (fedG f t).1) ∧ C04.AdjNe ((fedG f t).1.getLastD 0 :: (fedG f t).2.dropLast) := by
  by_cases ht : t = []
  · subst ht
    cases f with
    | false => exact ⟨.singleton _, .singleton _⟩
    | true =>
      obtain ⟨w0, a, l, _, hw⟩ := hstep rfl
      have := congrArg List.length hw
      simp at this
  rw [fedG1_eq, fedG2_eq f t ht, List.dropLast_concat]
  cases f with
  | false =>
    simp only [Bool.false_eq_true, if_false, List.append_nil]
    obtain ⟨rest, hdrop⟩ := drop_lastIdx_head 0 t
    exact ⟨findTurns_adjNe 0 _, by rw [hdrop]; exact findTurns_adjNe _ _⟩
  | true =>
    obtain ⟨w0, a, l, hal, hw⟩ := hstep rfl
    have hl : (0 :: t).getLast (List.cons_ne_nil _ _) = l := by simp only [hw]; simp
    simp only [if_true, hl, vals]
    refine ⟨List.IsChain.append (l₁ := 0 :: _) (findTurns_adjNe 0 _) (.singleton l) ?_, ?_⟩
    · rw [List.getLast?_cons, ← List.getLastD_eq_getLast?]
      rintro _ ⟨⟩ _ ⟨⟩
      exact last_turn_ne_last 0 t w0 a l hal hw
    · rw [List.getLastD_concat]
      exact findTurns_adjNe l _

theorem fedG_const (f : Bool) (s : List Int) (a : Int) (hs : s ≠ []) (h : ∀ x ∈ s, x = a) :
    fedG f s = (if f then [a] else [], [a]) := by
  have hl : s.getLast hs = a := h _ (List.getLast_mem hs)
  have hl0 : (0 :: s).getLast (List.cons_ne_nil _ _) = a := by rw [List.getLast_cons hs, hl]
  have h0 : findTurns (0 :: s) = [] := findTurns_cons_const 0 a s h
  have hss : ∀ x ∈ s ++ s, x = a := fun x hx => (List.mem_append.mp hx).elim (h x) (h x)
  refine Prod.ext ?_ ?_
  · rw [fedG1_eq, h0, hl0]
    cases f <;> rfl
  · rw [fedG2_eq _ _ hs, hl, hl0, h0]
    cases f
    · simp only [Bool.false_eq_true, if_false, lastIdx_nil, List.drop_zero, List.cons_append]
      rw [findTurns_cons_const 0 a (s ++ s) hss]
      rfl
    · simp only [if_true, List.cons_append, List.nil_append]
      rw [findTurns_const a (a :: s) (fun x hx => (List.mem_cons.mp hx).elim id (h x))]
      rfl

end Insert
open PylifeVerif.HCM.Insert

theorem fed_chains (law : Law) (s1 s' : List Vec) (hs1 : s1.map rep = 0 :: s'.map rep) (f : Bool)
    (hstep : f = true → ∃ w0 a l, a ≠ l ∧ (0 :: s'.map rep) = w0 ++ [a, l]) :
    C04.AdjNe (0 :: (procLoads {} s1 f).map rep) ∧
    C04.AdjNe ((process law {} s1 f).prevLoad ::
      ((procLoads (process law {} s1 f) s' true).map rep).dropLast) := by
  rw [process_prevLoad, procLoads_fed1 s1 _ hs1, procLoads_fed2 law s1 s' hs1]
  exact fedG_chain f _ hstep

end PylifeVerif.HCM
