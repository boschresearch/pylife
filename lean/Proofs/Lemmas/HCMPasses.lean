/-
The two passes of the HCM detector on a one-point sequence with the first-run flush flag left to a
policy `fl` (`passes`; `twoPassR` is `passes _ flushI`, the code `twoPass` is `passes _ flushC`):
constant sequences record nothing; for every policy that does not see an inserted non-reversal
sample, such a sample changes nothing that is recorded - in the interior (`passes_insert_interior`), at the end
(`passes_append`) and in front (`passes_prepend`).

The sample in front is the case `A = []` that `InsOK A v B` excludes: the sample `v` in front of the trimmed sequence
`t` is an interior insertion behind the block `[0]` in the first pass (`InsOK [0] v t`) and an interior insertion at
the junction of the repetition (`InsOK t v t`).
-/
import Proofs.Lemmas.HCMInsert

namespace PylifeVerif.HCM.Insert
open PylifeVerif.HCM PylifeVerif.Rainflow
open PylifeVerif.C04 (one)

/-- A turning point that closes nothing (at most `ir` residuals) and does not leave the primary path beyond the largest
load so far: nothing is recorded, `ir` stays, it becomes one more residual. -/
theorem turnStep_quiet (law : Law) (st : State) (pl : Int) (load : Vec) (h : Inv st) (hle : st.res.length ≤ st.ir)
    (hm : st.res.length = st.ir → (rep load).natAbs ≤ st.loadMax) :
    (turnStep law (st, pl) load).1.recs = st.recs ∧ (turnStep law (st, pl) load).1.ir = st.ir ∧
    (turnStep law (st, pl) load).1.res.length = st.res.length + 1 ∧
    (turnStep law (st, pl) load).1.loadMax = max st.loadMax (rep load).natAbs := by
  obtain ⟨p, hp⟩ : ∃ p, placeSample law st load =
      (noteStrain { st with fed := st.fed ++ [(st.run, load)] } p, p) := by
    have e := (placeSample_eq law st load h).trans
      (place_stop law load { st with fed := st.fed ++ [(st.run, load)] } h.1 (closings_of_le _ _ _ _ hle))
    by_cases hlt : st.res.length < st.ir
    · simp only [outcome_primary (rep load) st.ir st.loadMax hlt] at e
      exact ⟨_, e⟩
    · obtain ⟨top, tl, hr⟩ := List.exists_cons_of_ne_nil (l := st.res) (by
        intro h0; rw [h0] at hlt; exact hlt h.2)
      simp only [outcome_secondary (rep load) st.ir st.loadMax hr (Nat.le_of_not_lt hlt)
        (fun hc => Nat.not_le_of_gt hc.2 (hm hc.1))] at e
      exact ⟨_, e⟩
  rw [turnStep_stages, afterSample_eq, hp]
  unfold updateLF
  split <;> exact ⟨rfl, rfl, rfl, rfl⟩

theorem feed_quiet (law : Law) (st : State) (n : Nat) (l : Vec) (h : Inv st) (hle : st.res.length ≤ st.ir)
    (hm : st.res.length = st.ir → (rep l).natAbs ≤ st.loadMax) :
    (feed law st n [l]).recs = st.recs ∧ (feed law st n [l]).ir = st.ir ∧
    (feed law st n [l]).res.length = st.res.length + 1 ∧
    (feed law st n [l]).loadMax = max st.loadMax (rep l).natAbs ∧ Inv (feed law st n [l]) := by
  have hi : Inv (prep st n) := by rw [prep_eq]; exact h
  have q := turnStep_quiet law (prep st n) st.prevLoad l hi (by rw [prep_eq]; exact hle) (by rw [prep_eq]; exact hm)
  unfold feed
  rw [List.foldl_cons, List.foldl_nil]
  refine ⟨q.1.trans ?_, q.2.1.trans ?_, q.2.2.1.trans ?_, q.2.2.2.trans ?_,
    turnStep_inv law (prep st n) st.prevLoad l hi⟩ <;> rw [prep_eq]

/-- what a constant sequence of value `a` feeds (`fedG_const`): `a` to pass 2, and to pass 1 nothing or, if it
flushes, `a`; the one `a` is placed on the primary path, a second one within the largest load -/
theorem const_feed (law : Law) (a : Int) (L1 : List Int) (h : L1 = [] ∨ L1 = [a]) :
    (feed law (feed law {} 1 (one L1)) 1 (one [a])).recs = [] := by
  rcases h with rfl | rfl
  · exact (feed_quiet law (feed law {} 1 []) 1 [a] Inv.init (Nat.zero_le 1) (fun h => absurd h Nat.zero_ne_one)).1
  · obtain ⟨b1, b2, b3, b4, b5⟩ := feed_quiet law {} 1 [a] Inv.init (Nat.zero_le 1) (fun h => absurd h Nat.zero_ne_one)
    exact ((feed_quiet law _ 1 [a] b5 (by rw [b3, b2]; exact Nat.le_refl 1)
      (fun _ => by rw [b4]; exact Nat.le_max_right _ _)).1).trans b1

theorem trimI_const (s : List Int) (a : Int) (h : ∀ x ∈ s, x = a) : trimI s = s := by
  refine trimI_of_none s ?_
  unfold idxf
  rw [findTurns_const a (s ++ s) (fun x hx => (List.mem_append.mp hx).elim (h x) (h x))]
  rfl

variable (law : Law) (fl : List Int → Bool)

theorem passes_recs (s : List Int) (hs : s ≠ []) :
    (passes law fl s).recs =
      (feed law (feed law {} 1 (one (fedG (fl (trimI s)) (trimI s)).1)) 1
        (one (fedG (fl (trimI s)) (trimI s)).2)).recs := by
  rw [← core_recs, passes_one law fl s hs]

theorem passes_of_fed (s s0 : List Int) (hs : s ≠ []) (hs0 : s0 ≠ [])
    (h : fedG (fl (trimI s)) (trimI s) = fedG (fl (trimI s0)) (trimI s0)) :
    (passes law fl s).recs = (passes law fl s0).recs := by
  rw [passes_recs law fl s hs, passes_recs law fl s0 hs0, h]

theorem passes_ins (hfl : ∀ A B v, InsOK A v B → B ≠ [] → fl (A ++ v :: B) = fl (A ++ B))
    (A B : List Int) (v : Int) (h : InsOK A v B) (hB : B ≠ []) :
    (passes law fl (A ++ v :: B)).recs = (passes law fl (A ++ B)).recs := by
  apply passes_of_fed law fl _ _ (by simp) (by simp [hB])
  rcases trim_ins A B v h hB with h1 | ⟨B1, hB1, h1, h2, h3⟩
  · rw [h1]
  · rw [h1, h2, hfl A B1 v h3 hB1, fedG_ins _ A B1 v h3 hB1]

/-- a non-reversal sample at the end of a non-constant sequence is trimmed away -/
theorem passes_ins_end (s : List Int) (v : Int) (h : InsOK s v s) (h2 : ∃ p ∈ s, ∃ q ∈ s, p ≠ q) :
    (passes law fl (s ++ [v])).recs = (passes law fl s).recs := by
  apply passes_of_fed law fl _ _ (by simp) h.ne_nil
  rw [trim_end s v h h2]

theorem passes_const (s : List Int) (a : Int) (hs : s ≠ []) (h : ∀ x ∈ s, x = a) :
    (passes law fl s).recs = [] := by
  rw [passes_recs law fl s hs, trimI_const s a h, fedG_const _ s a hs h]
  generalize fl s = f
  exact const_feed law a _ (by cases f; exact Or.inl rfl; exact Or.inr rfl)

theorem passes_insert_interior
    (hfl : ∀ A B v, InsOK A v B → B ≠ [] → fl (A ++ v :: B) = fl (A ++ B))
    (pre post : List Int) (x y v : Int) (hv : (x ≤ v ∧ v ≤ y) ∨ (y ≤ v ∧ v ≤ x)) :
    (passes law fl (pre ++ x :: v :: y :: post)).recs =
      (passes law fl (pre ++ x :: y :: post)).recs := by
  by_cases hne : v ≠ y ∨ v = x
  · have e1 : pre ++ x :: v :: y :: post = (pre ++ [x]) ++ v :: (y :: post) := by simp
    have e0 : pre ++ x :: y :: post = (pre ++ [x]) ++ (y :: post) := by simp
    rw [e1, e0]
    exact passes_ins law fl hfl _ _ v (.of_between post (by simp) hv hne) (by simp)
  · -- a repetition of `y` that differs from `x`: an insertion behind `y`, or trimmed away at the end
    obtain ⟨rfl, hvx⟩ : v = y ∧ v ≠ x := by omega
    have e1 : pre ++ x :: v :: v :: post = (pre ++ [x, v]) ++ v :: post := by simp
    have e0 : pre ++ x :: v :: post = (pre ++ [x, v]) ++ post := by simp
    have hI : ∀ B, InsOK (pre ++ [x, v]) v B := fun B =>
      ⟨v, by rw [List.getLast?_append_of_ne_nil _ (by simp)]; rfl, Or.inl rfl⟩
    rw [e1, e0]
    by_cases hp : post = []
    · subst hp
      rw [List.append_nil]
      exact passes_ins_end law fl _ v (hI _) ⟨x, by simp, v, by simp, fun h => hvx h.symm⟩
    · exact passes_ins law fl hfl _ _ v (hI _) hp

theorem passes_append (s : List Int) (a z v : Int) (hs : s.head? = some a)
    (hz : s.getLast? = some z) (hv : (a ≤ v ∧ v ≤ z) ∨ (z ≤ v ∧ v ≤ a)) (hne : v ≠ a ∨ v = z) :
    (passes law fl (s ++ [v])).recs = (passes law fl s).recs := by
  obtain ⟨s', rfl⟩ : ∃ s', s = a :: s' := by
    cases s with
    | nil => simp at hs
    | cons a' s' => exact ⟨s', by rw [Option.some.inj hs]⟩
  by_cases h2 : ∃ p ∈ a :: s', ∃ q ∈ a :: s', p ≠ q
  · -- `v` is no reversal at the junction of the repetition and is trimmed away
    exact passes_ins_end law fl _ v (.of_between s' hz hv.symm hne) h2
  · -- constant sequence: nothing is recorded at all
    have hall : ∀ x ∈ a :: s', x = a := fun x hx =>
      Classical.byContradiction fun hxa => h2 ⟨x, hx, a, List.mem_cons_self, hxa⟩
    have hva : v = a := by
      have := hall z (List.mem_of_getLast? hz)
      omega
    rw [passes_const law fl _ a (by simp) hall, passes_const law fl _ a (by simp)
      (fun x hx => (List.mem_append.mp hx).elim (hall x)
        fun hx' => (List.mem_singleton.mp hx').trans hva)]

theorem fedG_prepend (f : Bool) (t : List Int) (v : Int) (h0 : InsOK [0] v t) (hz : InsOK t v t) :
    fedG f (v :: t) = fedG f t := by
  have ht : t ≠ [] := hz.ne_nil
  refine fedG_congr f (List.cons_ne_nil _ _) ht (List.getLast_cons ht) (vals_findTurns_ins [0] t v h0)
    (vals_findTurns_ins [_] t v (hz.of_last ?_)) (vals_ins2 [0] [] t v h0 ((List.append_nil t).symm ▸ hz))
  rw [List.getLast?_eq_some_getLast ht]
  rfl

theorem idxf_prepend (a : Int) (s' : List Int) (v : Int)
    (hz : InsOK (a :: s') v (a :: s')) :
    ∃ E' : List Nat, (E' = [] ∨ E' = [1]) ∧
      idxf (v :: a :: s') = E' ++ (idxf (a :: s')).map (bumpN 0) := by
  obtain ⟨z, hzl, hzv⟩ := hz
  obtain ⟨E, hE, he⟩ := findTurns_prepend v a (s' ++ a :: s')
  have e1 : blockIdx (v :: a :: s') (v :: a :: s') = blockIdx (v :: a :: s') (a :: s') :=
    blockIdx_congr (List.getLast?_cons_cons.trans hzl) fun u => isRevLocal_ins u z v _ hzv
  have key : idxf (v :: a :: s') =
      ((((E ++ findTurns ((a :: s') ++ (a :: s'))).map (·.1)).filter (· < (a :: s').length))).map (bumpN 0) := by
    rw [idxf_eq_blockIdx, e1]
    unfold blockIdx
    rw [show (v :: a :: s') ++ (a :: s') = v :: a :: (s' ++ a :: s') from rfl, he,
      shift_bump 0 _ (fun _ _ => Nat.zero_le _), idx_bump,
      show (v :: a :: s').length = (a :: s').length + 1 from rfl, filter_bumpN 0 _ (Nat.zero_le _)]
    rfl
  rw [key, List.map_append, List.filter_append, List.map_append]
  rcases hE with rfl | rfl
  · exact ⟨[], Or.inl rfl, rfl⟩
  · exact ⟨[1], Or.inr rfl, rfl⟩

theorem trim_prepend (a : Int) (s' : List Int) (v : Int)
    (hz : InsOK (a :: s') v (a :: s')) (hne : idxf (a :: s') ≠ []) :
    trimI (v :: a :: s') = v :: trimI (a :: s') := by
  obtain ⟨E', _, he⟩ := idxf_prepend a s' v hz
  cases hg : (idxf (a :: s')).getLast? with
  | none => rw [List.getLast?_eq_none_iff] at hg; exact absurd hg hne
  | some t =>
    have hg' : (idxf (v :: a :: s')).getLast? = some (t + 1) := by
      rw [he, List.getLast?_append_of_ne_nil _ (by simpa using hne), List.getLast?_map, hg]
      rfl
    rw [trimI_of_last _ _ hg', trimI_of_last _ _ hg, List.take_succ_cons]

/-- What trimming cuts off runs monotonically into the next copy (`trimI_cut`), so the last sample lies
between the last sample kept and the first. -/
theorem trim_last (a : Int) (s' : List Int) (z : Int) (hz : (a :: s').getLast? = some z)
    (hza : z ≠ a) :
    ∃ r z1, trimI (a :: s') = a :: r ∧ (a :: r).getLast? = some z1 ∧
      ((z1 ≤ z ∧ z ≤ a) ∨ (a ≤ z ∧ z ≤ z1)) := by
  obtain ⟨c, P, z1, d, hq, htr, -, hnil⟩ :=
    trimI_cut (a :: s') ⟨z, List.mem_of_getLast? hz, a, List.mem_cons_self, hza⟩
  rw [List.cons_append] at hq
  obtain ⟨rfl, rfl⟩ := List.cons.inj hq
  refine ⟨P ++ [z1], z1, htr, by rw [← List.cons_append, List.getLast?_concat], ?_⟩
  rw [← List.cons_append, List.getLast?_append_of_ne_nil _ (List.cons_ne_nil _ _)] at hz
  rcases List.mem_cons.mp (List.mem_of_getLast? hz) with rfl | hzd
  · omega
  · rcases between_of_findTurns_nil z1 d a hnil with h | h <;> have := h z hzd <;> omega

theorem passes_prepend
    (hfl : ∀ A B v, InsOK A v B → B ≠ [] → fl (A ++ v :: B) = fl (A ++ B))
    (hfl0 : ∀ t v, InsOK [0] v t → InsOK t v t → fl (v :: t) = fl t)
    (s : List Int) (a z v : Int) (hs : s.head? = some a) (hz : s.getLast? = some z)
    (h0 : (0 ≤ v ∧ v ≤ a) ∨ (a ≤ v ∧ v ≤ 0)) (hl : (z ≤ v ∧ v ≤ a) ∨ (a ≤ v ∧ v ≤ z)) :
    (passes law fl (v :: s)).recs = (passes law fl s).recs := by
  cases s with
  | nil => simp at hs
  | cons a' s' =>
    have ha : a' = a := by simpa using hs
    subst ha
    by_cases hva : v = a'
    · -- a repetition of the first sample
      subst hva
      by_cases hs' : s' = []
      · subst hs'
        rw [passes_const law fl [v, v] v (by simp) (by simp),
          passes_const law fl [v] v (by simp) (by simp)]
      · exact passes_ins law fl hfl [v] s' v ⟨v, rfl, Or.inl rfl⟩ hs'
    · -- strictly off the first sample: 0 and the last sample lie on the same side of it as `v`
      have hza : z ≠ a' := by omega
      apply passes_of_fed law fl _ _ (by simp) (by simp)
      rw [trim_prepend a' s' v (.of_between s' hz hl (Or.inl hva))
        (idxf_ne_nil _ ⟨z, List.mem_of_getLast? hz, a', List.mem_cons_self, hza⟩)]
      obtain ⟨r, z1, htr, hz1, hb⟩ := trim_last a' s' z hz hza
      rw [htr]
      have hI0 : InsOK [0] v (a' :: r) := .of_between r rfl h0 (Or.inl hva)
      have hIz : InsOK (a' :: r) v (a' :: r) := .of_between r hz1 (by omega) (Or.inl hva)
      rw [hfl0 _ v hI0 hIz, fedG_prepend _ _ v hI0 hIz]

end PylifeVerif.HCM.Insert
