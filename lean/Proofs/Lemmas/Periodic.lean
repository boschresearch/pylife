/-
C04 (`periodicRainflow`): the four-point rule as a rewriting system on strictly alternating words.

`Step w e w'` removes the inner pair `c b` of a window `d c b a` of `w` that satisfies the four-point
condition and emits `e = (min b c, max b c)`.  On alternating words two different steps commute
(`Step.diamond`), so the normal form and the multiset of emitted cycles are unique (`nf_unique`); the fold of
`periodicRainflow` computes them.  An irreducible alternating word that starts and ends at an element of
largest absolute value is `x y` with `x ≠ y`, or `x m x` (`collapse_cases`); hence the count is the same
wherever the cyclic word is closed at such an element (`closed_perm_cut`, `closed_perm`, `prf_closed`, `prf_rotate`).
-/
import Model.HCMSpec
import Proofs.Lemmas.PeriodicAlt
import Proofs.Lemmas.Argmax
import Mathlib.Data.List.Rotate

namespace PylifeVerif.C04
open PylifeVerif.Rainflow PylifeVerif.HCM PylifeVerif.HCM.Spec

/-- four-point condition on the window `d c b a`, in the order of `reduce4v` -/
def C4 (d c b a : Int) : Prop := absDiff b c ≤ absDiff a b ∧ absDiff b c ≤ absDiff c d

inductive Step : List Int → (Int × Int) → List Int → Prop
  | here (d c b a : Int) (rest : List Int) : C4 d c b a →
      Step (d :: c :: b :: a :: rest) (min b c, max b c) (d :: a :: rest)
  | cons (x : Int) {w : List Int} {e : Int × Int} {w' : List Int} : Step w e w' → Step (x :: w) e (x :: w')

inductive Steps : List Int → List (Int × Int) → List Int → Prop
  | refl (w : List Int) : Steps w [] w
  | head {w : List Int} {e : Int × Int} {w' : List Int} {E : List (Int × Int)} {w'' : List Int} :
      Step w e w' → Steps w' E w'' → Steps w (e :: E) w''

def Irred (w : List Int) : Prop := ∀ e w', ¬ Step w e w'

theorem Step.prefix {w w' : List Int} {e : Int × Int} (u : List Int) (h : Step w e w') :
    Step (u ++ w) e (u ++ w') := by
  induction u with
  | nil => exact h
  | cons x u ih => exact Step.cons x ih

theorem step_iff {w w' : List Int} {e : Int × Int} : Step w e w' ↔
    ∃ u d c b a rest, C4 d c b a ∧ w = u ++ d :: c :: b :: a :: rest ∧ w' = u ++ d :: a :: rest ∧
      e = (min b c, max b c) := by
  constructor
  · intro h
    induction h with
    | here d c b a rest hc => exact ⟨[], d, c, b, a, rest, hc, rfl, rfl, rfl⟩
    | cons x _ ih =>
      obtain ⟨u, d, c, b, a, rest, hc, rfl, rfl, rfl⟩ := ih
      exact ⟨x :: u, d, c, b, a, rest, hc, rfl, rfl, rfl⟩
  · rintro ⟨u, d, c, b, a, rest, hc, rfl, rfl, rfl⟩
    exact (Step.here d c b a rest hc).prefix u

theorem Step.suffix {w w' : List Int} {e : Int × Int} (v : List Int) (h : Step w e w') :
    Step (w ++ v) e (w' ++ v) := by
  obtain ⟨u, d, c, b, a, rest, hc, rfl, rfl, rfl⟩ := step_iff.1 h
  simpa using (Step.here d c b a (rest ++ v) hc).prefix u

theorem C4.symm {d c b a : Int} (hc : C4 d c b a) : C4 a b c d := by
  unfold C4 at hc ⊢
  rw [absDiff_comm c b, absDiff_comm d c, absDiff_comm b a]
  exact ⟨hc.2, hc.1⟩

theorem Step.reverse {w w' : List Int} {e : Int × Int} (h : Step w e w') :
    Step w.reverse e w'.reverse := by
  obtain ⟨u, d, c, b, a, rest, hc, rfl, rfl, rfl⟩ := step_iff.1 h
  have := ((Step.here a b c d [] hc.symm).prefix rest.reverse).suffix u.reverse
  rw [Int.min_comm c b, Int.max_comm c b] at this
  simpa using this

theorem Step.head_eq {w w' : List Int} {e : Int × Int} (h : Step w e w') :
    ∃ x t t', w = x :: t ∧ w' = x :: t' := by
  obtain ⟨u, d, c, b, a, rest, -, rfl, rfl, -⟩ := step_iff.1 h
  cases u with
  | nil => exact ⟨d, _, _, rfl, rfl⟩
  | cons x u => exact ⟨x, _, _, rfl, rfl⟩

theorem Step.mem {w w' : List Int} {e : Int × Int} (h : Step w e w') : ∀ z ∈ w', z ∈ w := by
  obtain ⟨u, d, c, b, a, rest, -, rfl, rfl, -⟩ := step_iff.1 h
  exact fun z hz => List.Sublist.subset (by simp) hz

theorem Step.length {w w' : List Int} {e : Int × Int} (h : Step w e w') : w.length = w'.length + 2 := by
  obtain ⟨u, d, c, b, a, rest, -, rfl, rfl, -⟩ := step_iff.1 h
  simp only [List.length_append, List.length_cons]
  omega

theorem Step.four_le {w w' : List Int} {e : Int × Int} (h : Step w e w') : 4 ≤ w.length := by
  obtain ⟨u, d, c, b, a, rest, -, rfl, -, -⟩ := step_iff.1 h
  simp only [List.length_append, List.length_cons]
  omega

theorem Step.alt {w w' : List Int} {e : Int × Int} (h : Step w e w') : ∀ up, Alt up w → Alt up w' := by
  obtain ⟨u, d, c, b, a, rest, hc, rfl, rfl, -⟩ := step_iff.1 h
  exact fun up hA => alt_pop u up d c b a rest hA hc.1

theorem Steps.lift {P : List Int → Prop} (hP : ∀ {w e w'}, Step w e w' → P w → P w')
    {w w' : List Int} {E : List (Int × Int)} (h : Steps w E w') : P w → P w' := by
  induction h with
  | refl w => exact id
  | head s _ ih => exact fun hw => ih (hP s hw)

theorem Steps.map (f : List Int → List Int) (hf : ∀ {w e w'}, Step w e w' → Step (f w) e (f w'))
    {w w' : List Int} {E : List (Int × Int)} (h : Steps w E w') : Steps (f w) E (f w') := by
  induction h with
  | refl w => exact Steps.refl _
  | head s _ ih => exact Steps.head (hf s) ih

theorem Steps.trans {w w' w'' : List Int} {E F : List (Int × Int)} (h : Steps w E w') (h' : Steps w' F w'') :
    Steps w (E ++ F) w'' := by
  induction h with
  | refl w => exact h'
  | head s _ ih => exact Steps.head s (ih h')

theorem Steps.prefix {w w' : List Int} {E : List (Int × Int)} (u : List Int) (h : Steps w E w') :
    Steps (u ++ w) E (u ++ w') :=
  Steps.map (u ++ ·) (Step.prefix u) h

theorem Steps.suffix {w w' : List Int} {E : List (Int × Int)} (v : List Int) (h : Steps w E w') :
    Steps (w ++ v) E (w' ++ v) :=
  Steps.map (· ++ v) (Step.suffix v) h

theorem Steps.reverse {w w' : List Int} {E : List (Int × Int)} (h : Steps w E w') :
    Steps w.reverse E w'.reverse :=
  Steps.map List.reverse Step.reverse h

theorem Irred.reverse {w : List Int} (h : Irred w) : Irred w.reverse := by
  intro e w' s
  have := s.reverse
  rw [List.reverse_reverse] at this
  exact h _ _ this

theorem Steps.head_eq {w N : List Int} {E : List (Int × Int)} (h : Steps w E N) (x : Int) (t : List Int)
    (hw : w = x :: t) : ∃ N', N = x :: N' :=
  Steps.lift (P := fun v => ∃ v', v = x :: v') (fun s ⟨v', hv⟩ => by
    obtain ⟨x', t1, t2, h1, h2⟩ := s.head_eq
    rw [hv] at h1
    injection h1 with h1 _
    exact ⟨t2, h1 ▸ h2⟩) h ⟨t, hw⟩

theorem Steps.last_eq {N : List Int} {E : List (Int × Int)} (t : List Int) (y : Int)
    (h : Steps (t ++ [y]) E N) : ∃ N', N = N' ++ [y] := by
  have := h.reverse
  obtain ⟨N', hN⟩ := this.head_eq y t.reverse (by simp)
  refine ⟨N'.reverse, ?_⟩
  have := congrArg List.reverse hN
  simpa using this

theorem Steps.mem {w w' : List Int} {E : List (Int × Int)} (h : Steps w E w') : ∀ z ∈ w', z ∈ w :=
  Steps.lift (P := fun v => ∀ z ∈ v, z ∈ w) (fun s hw z hz => hw z (s.mem z hz)) h fun _ hz => hz

theorem Steps.alt {w w' : List Int} {E : List (Int × Int)} (h : Steps w E w') (up : Bool) : Alt up w → Alt up w' :=
  Steps.lift (P := Alt up) (fun s => s.alt up) h

theorem Steps.zig {w w' : List Int} {E : List (Int × Int)} (h : Steps w E w') (hz : Zig w) : Zig w' := by
  obtain ⟨up, hz⟩ := hz
  exact ⟨up, h.alt up hz⟩

theorem diamond_here (d c b a : Int) (rest : List Int) (hc : C4 d c b a) {e2 : Int × Int} {w2 : List Int}
    (h2 : Step (d :: c :: b :: a :: rest) e2 w2) (up : Bool) (hA : Alt up (d :: c :: b :: a :: rest)) :
    ((min b c, max b c) = e2 ∧ d :: a :: rest = w2) ∨
      ∃ w3, Step (d :: a :: rest) e2 w3 ∧ Step w2 (min b c, max b c) w3 := by
  have p1 := zig_peak [] d c b _ ⟨up, hA⟩
  have p2 := zig_peak [d] c b a _ ⟨up, hA⟩
  cases h2 with
  | here _ _ _ _ _ _ => exact Or.inl ⟨rfl, rfl⟩
  | cons _ s2 =>
    cases s2 with
    | here _ _ _ a' rest' hc2 =>
      -- the windows `d c b a` and `c b a a'` overlap: both conditions together force `a = c`
      have hac : a = c := by
        unfold C4 absDiff at hc hc2
        omega
      subst hac
      exact Or.inl ⟨by rw [Int.min_comm, Int.max_comm], rfl⟩
    | cons _ s3 =>
      cases s3 with
      | here _ _ a' a'' rest'' hc3 =>
        -- adjacent windows `d c b a` and `b a a' a''`: each stays closable after the other is removed
        have p3 := zig_peak [d, c] b a a' _ ⟨up, hA⟩
        have p4 := zig_peak [d, c, b] a a' a'' _ ⟨up, hA⟩
        unfold C4 absDiff at hc hc3
        refine Or.inr ⟨d :: a'' :: rest'', Step.here _ _ _ _ _ ?_, Step.here _ _ _ _ _ ?_⟩
        · unfold C4 absDiff
          omega
        · unfold C4 absDiff
          omega
      | cons _ s4 =>
        right
        obtain ⟨x, t, t', h5, h6⟩ := s4.head_eq
        injection h5 with h5 h5'
        subst h5 h5' h6
        exact ⟨d :: a :: t', Step.cons d s4, Step.here d c b a t' hc⟩

theorem Step.diamond {w w1 : List Int} {e1 : Int × Int} (h1 : Step w e1 w1) :
    ∀ {e2 : Int × Int} {w2 : List Int}, Step w e2 w2 → ∀ up, Alt up w →
      (e1 = e2 ∧ w1 = w2) ∨ ∃ w3, Step w1 e2 w3 ∧ Step w2 e1 w3 := by
  induction h1 with
  | here d c b a rest hc =>
    intro e2 w2 h2 up hA
    exact diamond_here d c b a rest hc h2 up hA
  | cons x s1 ih =>
    intro e2 w2 h2 up hA
    cases h2 with
    | here d c b a rest hc =>
      rcases diamond_here _ c b a rest hc (Step.cons _ s1) up hA with ⟨h, h'⟩ | ⟨w3, h, h'⟩
      · exact Or.inl ⟨h.symm, h'.symm⟩
      · exact Or.inr ⟨w3, h', h⟩
    | cons _ s2 =>
      rcases ih s2 (!up) (alt_tl up x _ hA) with ⟨h, h'⟩ | ⟨w3, h, h'⟩
      · exact Or.inl ⟨h, by rw [h']⟩
      · exact Or.inr ⟨x :: w3, Step.cons x h, Step.cons x h'⟩

theorem exists_nf (w : List Int) : ∃ E N, Steps w E N ∧ Irred N := by
  induction hn : w.length using Nat.strong_induction_on generalizing w with
  | _ n ih =>
    by_cases hI : Irred w
    · exact ⟨[], w, Steps.refl w, hI⟩
    · unfold Irred at hI
      push Not at hI
      obtain ⟨e, w', s⟩ := hI
      have := s.length
      obtain ⟨E, N, hS, hN⟩ := ih w'.length (by omega) w' rfl
      exact ⟨e :: E, N, Steps.head s hS, hN⟩

/-- Newman's argument from the diamond property, by induction on the length of the word. -/
theorem nf_unique {w : List Int} {up : Bool} (hA : Alt up w) {E1 E2 : List (Int × Int)} {N1 N2 : List Int}
    (h1 : Steps w E1 N1) (hI1 : Irred N1) (h2 : Steps w E2 N2) (hI2 : Irred N2) :
    N1 = N2 ∧ E1.Perm E2 := by
  induction hn : w.length using Nat.strong_induction_on generalizing w E1 E2 N1 N2 with
  | _ n ih =>
    cases h1 with
    | refl _ =>
      cases h2 with
      | refl _ => exact ⟨rfl, List.Perm.refl _⟩
      | head s _ => exact absurd s (hI1 _ _)
    | head s1 S1 =>
      cases h2 with
      | refl _ => exact absurd s1 (hI2 _ _)
      | head s2 S2 =>
        have l1 := s1.length
        have l2 := s2.length
        rcases s1.diamond s2 up hA with ⟨he, hw'⟩ | ⟨w3, s12, s21⟩
        · subst he hw'
          obtain ⟨hN, hE⟩ := ih _ (by omega) (s1.alt up hA) S1 hI1 S2 hI2 rfl
          exact ⟨hN, hE.cons _⟩
        · obtain ⟨G, N3, hG, hI3⟩ := exists_nf w3
          obtain ⟨hN1, hE1⟩ := ih _ (by omega) (s1.alt up hA) S1 hI1 (Steps.head s12 hG) hI3 rfl
          obtain ⟨hN2, hE2⟩ := ih _ (by omega) (s2.alt up hA) S2 hI2 (Steps.head s21 hG) hI3 rfl
          exact ⟨hN1.trans hN2.symm,
            ((hE1.cons _).trans (List.Perm.swap _ _ _)).trans (hE2.cons _).symm⟩

theorem steps_reduce4v (st : List Int) : Steps st (reduce4v st).1 (reduce4v st).2 := by
  fun_induction reduce4v st with
  | case1 d c b a rest h r ih => exact Steps.head (Step.here d c b a rest h) ih
  | case2 d c b a rest h => exact Steps.refl _
  | case3 st h => exact Steps.refl _

theorem irred_cons (x : Int) (w : List Int) (hw : Irred w)
    (hx : ∀ c b a rest, w = c :: b :: a :: rest → ¬ C4 x c b a) : Irred (x :: w) := by
  intro e w' s
  cases s with
  | here _ c b a rest hc => exact hx c b a rest rfl hc
  | cons _ s' => exact hw _ _ s'

theorem Irred.tail {x : Int} {w : List Int} (h : Irred (x :: w)) : Irred w :=
  fun e w' s => h e (x :: w') (Step.cons x s)

theorem irred_reduce4v (st : List Int) (h : Irred st.tail) : Irred (reduce4v st).2 := by
  fun_induction reduce4v st with
  | case1 d c b a rest hc r ih =>
    apply ih
    exact h.tail.tail
  | case2 d c b a rest hc =>
    apply irred_cons _ _ h
    intro c' b' a' rest' heq
    cases heq
    exact hc
  | case3 st hst =>
    cases st with
    | nil => intro e w' s; cases s
    | cons x w =>
      apply irred_cons _ _ h
      intro c b a rest heq
      simp only [List.tail_cons] at heq
      exact (hst x c b a rest (by rw [heq])).elim

/-- the fold of `periodicRainflow`, as a recursion -/
def run : List Int → List Int → List (Int × Int) × List Int
  | S, [] => ([], S)
  | S, p :: rem =>
    let r := reduce4v (p :: S)
    let r' := run r.2 rem
    (r.1 ++ r'.1, r'.2)

theorem foldl_eq_run (word : List Int) : ∀ (E0 : List (Int × Int)) (S : List Int),
    word.foldl (fun (acc : List (Int × Int) × List Int) p =>
      let r := reduce4v (p :: acc.2)
      (acc.1 ++ r.1, r.2)) (E0, S) = (E0 ++ (run S word).1, (run S word).2) := by
  induction word with
  | nil => intro E0 S; simp [run]
  | cons p rem ih =>
    intro E0 S
    simp only [List.foldl_cons, run]
    rw [ih]
    simp

theorem run_steps (rem : List Int) : ∀ S : List Int,
    Steps (S.reverse ++ rem) (run S rem).1 (run S rem).2.reverse := by
  induction rem with
  | nil => intro S; simpa [run] using Steps.refl S.reverse
  | cons p rem ih =>
    intro S
    have h1 := ((steps_reduce4v (p :: S)).reverse).suffix rem
    have h2 := ih (reduce4v (p :: S)).2
    have := h1.trans h2
    simpa [run] using this

theorem run_irred (rem : List Int) : ∀ S : List Int, Irred S → Irred (run S rem).2 := by
  induction rem with
  | nil => intro S h; simpa [run] using h
  | cons p rem ih =>
    intro S h
    simp only [run]
    exact ih _ (irred_reduce4v (p :: S) h)

/-- the closing part of `periodicRainflow` on the closed word `c` -/
def outOf (c : List Int) : List (Int × Int) :=
  let r := c.foldl (fun (acc : List (Int × Int) × List Int) p =>
      let r := reduce4v (p :: acc.2)
      (acc.1 ++ r.1, r.2)) ([], [])
  match r.2 with
  | [c, b, _] => r.1 ++ [(min b c, max b c)]
  | _ => r.1

/-- `periodicRainflow` on the cyclic reversal word (`periodicRainflow_eq`) -/
def prf (rev : List Int) : List (Int × Int) :=
  if rev.length < 2 then [] else
  let k := argmaxAbs rev
  outOf (rev.drop k ++ rev.take k ++ [rev.getD k 0])

theorem periodicRainflow_eq (s : List Int) : periodicRainflow s = prf (cyclicReversals s) := by
  unfold periodicRainflow
  -- with `cyclicReversals s` in place the unifier unfolds it before it compares the two sides
  generalize cyclicReversals s = rev
  rfl

theorem irred_nil : Irred [] := fun e w' s => by cases s

theorem outOf_perm (c : List Int) (hz : Zig c) (E : List (Int × Int)) (x m y : Int)
    (h : Steps c E [x, m, y]) : (outOf c).Perm (E ++ [(min m y, max m y)]) := by
  obtain ⟨up, hA⟩ := hz
  have hs := run_steps c []
  have hi := (run_irred c [] irred_nil).reverse
  simp only [List.reverse_nil, List.nil_append] at hs
  have h3 : Irred [x, m, y] := fun e w' s => by have := s.four_le; simp at this
  obtain ⟨hN, hE⟩ := nf_unique hA hs hi h h3
  have hN' : (run [] c).2 = [y, m, x] := by
    have := congrArg List.reverse hN
    simpa using this
  unfold outOf
  rw [foldl_eq_run]
  simp only [List.nil_append, hN']
  exact hE.append_right _

theorem between (rest : List Int) : ∀ (a b c : Int) (up : Bool), Irred (a :: b :: c :: rest) →
    Alt up (a :: b :: c :: rest) → absDiff b c ≤ absDiff a b → ∀ z ∈ rest, min b c < z ∧ z < max b c := by
  induction rest with
  | nil => intro _ _ _ _ _ _ _ z hz; cases hz
  | cons d rest ih =>
    intro a b c up hI hA h z hz
    have hn : ¬ C4 a b c d := fun hc => hI _ _ (Step.here a b c d rest hc)
    have p1 := zig_peak [] a b c _ ⟨up, hA⟩
    have p2 := zig_peak [a] b c d _ ⟨up, hA⟩
    -- the next element cannot leave the range of `b c` (else `b c` could be removed), so the ranges shrink
    have hd : min b c < d ∧ d < max b c ∧ absDiff c d ≤ absDiff b c := by
      unfold C4 absDiff at *
      omega
    rcases List.mem_cons.1 hz with rfl | hz
    · exact ⟨hd.1, hd.2.1⟩
    · have := ih b c d (!up) hI.tail (alt_tl up a _ hA) hd.2.2 z hz
      omega

theorem collapse_cases (x y : Int) (N' : List Int) (hI : Irred (x :: (N' ++ [y])))
    (hz : Zig (x :: (N' ++ [y]))) (hmax : ∀ z ∈ N', z.natAbs ≤ x.natAbs) (hxy : y.natAbs = x.natAbs) :
    (N' = [] ∧ x ≠ y) ∨ ∃ m, N' = [m] ∧ y = x := by
  match N', hI, hz, hmax with
  | [], _, hz, _ => exact Or.inl ⟨rfl, zig_ne x y [] hz⟩
  | [m], _, hz, hmax =>
    have := zig_peak [] x m y [] hz
    have := hmax m (by simp)
    exact Or.inr ⟨m, rfl, by omega⟩
  | b :: c :: rest, hI, ⟨up, hA⟩, hmax =>
    exfalso
    have hb := hmax b (by simp)
    have hc := hmax c (by simp)
    have := zig_peak [] x b c (rest ++ [y]) ⟨up, hA⟩
    have := between (rest ++ [y]) x b c up hI hA (by unfold absDiff; omega) y (by simp)
    omega

theorem collapse (x y : Int) (N' : List Int) (hI : Irred (x :: (N' ++ [y]))) (hz : Zig (x :: (N' ++ [y])))
    (hmax : ∀ z ∈ N', z.natAbs ≤ x.natAbs) (hxy : y.natAbs = x.natAbs) : N'.length ≤ 1 := by
  rcases collapse_cases x y N' hI hz hmax hxy with ⟨rfl, _⟩ | ⟨m, rfl, _⟩
  · exact Nat.zero_le _
  · exact Nat.le_refl _

theorem Steps.two_le {w N : List Int} {E : List (Int × Int)} (h : Steps w E N) (hw : 2 ≤ w.length) :
    2 ≤ N.length :=
  Steps.lift (P := fun v => 2 ≤ v.length) (fun s _ => by have := s.length; have := s.four_le; omega) h hw

theorem Steps.ends {x y : Int} {t N : List Int} {E : List (Int × Int)} (h : Steps (x :: (t ++ [y])) E N) :
    ∃ N', N = x :: (N' ++ [y]) := by
  obtain ⟨N1, rfl⟩ := h.head_eq x _ rfl
  obtain ⟨N2, h2⟩ := Steps.last_eq (x :: t) y h
  have := h.two_le (by simp)
  cases N2 with
  | nil =>
    cases h2
    simp at this
  | cons z N2 =>
    cases h2
    exact ⟨N2, rfl⟩

/-- what is left in `closed_perm_cut` when the base value `x` recurs inside the window (a tie of the largest load): one more
step to `x u x`, and the count comes out the same whichever of `m`, `m'` goes first -/
theorem five_nf (x m m' : Int) : ∃ E u, Steps [x, m, x, m', x] E [x, u, x] ∧
    (E ++ [(min u x, max u x)]).Perm [(min m x, max m x), (min m' x, max m' x)] := by
  by_cases h : absDiff x m ≤ absDiff m' x
  · refine ⟨[(min x m, max x m)], m', Steps.head (Step.here x m x m' [x] ⟨h, ?_⟩) (Steps.refl _), ?_⟩
    · unfold absDiff; omega
    · rw [Int.min_comm x m, Int.max_comm x m]
      exact List.Perm.refl _
  · refine ⟨[(min m' x, max m' x)], m,
      Steps.head (Step.cons x (Step.here m x m' x [] ⟨?_, ?_⟩)) (Steps.refl _), ?_⟩
    · unfold absDiff; omega
    · unfold absDiff at *; omega
    · exact List.Perm.swap _ _ _

/-- Two closed words of the same cyclic alternating word, both started at an element of
largest absolute value, are counted to the same multiset of cycles.  Reduce `x P y` and `y Q x` to
normal form first: what is left of either closed word is `x y x` / `y x y` (when `x ≠ y`) or
`x m x m' x` / `x m' x m x` (when `x = y`). -/
theorem closed_perm_cut (x y : Int) (P Q : List Int)
    (hz1 : Zig (x :: (P ++ y :: (Q ++ [x])))) (hz2 : Zig (y :: (Q ++ x :: (P ++ [y]))))
    (hmax : ∀ z ∈ x :: (P ++ y :: (Q ++ [x])), z.natAbs ≤ x.natAbs) (hxy : x.natAbs ≤ y.natAbs) :
    (outOf (x :: (P ++ y :: (Q ++ [x])))).Perm (outOf (y :: (Q ++ x :: (P ++ [y])))) := by
  have hxy : y.natAbs = x.natAbs := Nat.le_antisymm (hmax y (by simp)) hxy
  have e1 : x :: (P ++ y :: (Q ++ [x])) = (x :: (P ++ [y])) ++ (Q ++ [x]) := by simp
  have hzP : Zig (x :: (P ++ [y])) := zig_infix [] (x :: (P ++ [y])) (Q ++ [x]) (by simpa using hz1)
  have hzQ : Zig (y :: (Q ++ [x])) := zig_infix (x :: P) (y :: (Q ++ [x])) [] (by simpa using hz1)
  obtain ⟨EP, NP, hSP, hIP⟩ := exists_nf (x :: (P ++ [y]))
  obtain ⟨EQ, NQ, hSQ, hIQ⟩ := exists_nf (y :: (Q ++ [x]))
  obtain ⟨NP', rfl⟩ := hSP.ends
  obtain ⟨NQ', rfl⟩ := hSQ.ends
  have hmP : ∀ z ∈ NP', z.natAbs ≤ x.natAbs := fun z hz =>
    hmax z (e1 ▸ List.mem_append_left _ (hSP.mem z (by simp [hz])))
  have hmQ : ∀ z ∈ NQ', z.natAbs ≤ y.natAbs := fun z hz =>
    hxy ▸ hmax z (List.mem_append_right (x :: P) (hSQ.mem z (by simp [hz])))
  have A : Steps (x :: (P ++ y :: (Q ++ [x]))) (EP ++ EQ) (x :: (NP' ++ y :: (NQ' ++ [x]))) := by
    have a1 := hSP.suffix (Q ++ [x])
    have a2 := hSQ.prefix (x :: NP')
    simp only [List.cons_append, List.append_assoc] at a1 a2
    exact a1.trans a2
  have B : Steps (y :: (Q ++ x :: (P ++ [y]))) (EQ ++ EP) (y :: (NQ' ++ x :: (NP' ++ [y]))) := by
    have b1 := hSQ.suffix (P ++ [y])
    have b2 := hSP.prefix (y :: NQ')
    simp only [List.cons_append, List.append_assoc] at b1 b2
    exact b1.trans b2
  rcases collapse_cases x y NP' hIP (hSP.zig hzP) hmP hxy with ⟨rfl, hne⟩ | ⟨m, rfl, rfl⟩
  · rcases collapse_cases y x NQ' hIQ (hSQ.zig hzQ) hmQ hxy.symm with ⟨rfl, _⟩ | ⟨_, _, h⟩
    · have oA := outOf_perm _ hz1 _ x y x A
      have oB := outOf_perm _ hz2 _ y x y B
      refine oA.trans (List.Perm.trans ?_ oB.symm)
      rw [Int.min_comm y x, Int.max_comm y x]
      exact List.Perm.append_right _ List.perm_append_comm
    · exact absurd h hne
  · rcases collapse_cases y y NQ' hIQ (hSQ.zig hzQ) hmQ rfl with ⟨_, hne⟩ | ⟨m', rfl, _⟩
    · exact absurd rfl hne
    · obtain ⟨E5, u, hS5, hP5⟩ := five_nf y m m'
      obtain ⟨E5', u', hS5', hP5'⟩ := five_nf y m' m
      have oA := outOf_perm _ hz1 _ y u y (A.trans hS5)
      have oB := outOf_perm _ hz2 _ y u' y (B.trans hS5')
      refine oA.trans (List.Perm.trans ?_ oB.symm)
      rw [List.append_assoc (EP ++ EQ), List.append_assoc (EQ ++ EP)]
      exact List.Perm.append List.perm_append_comm
        ((hP5.trans (List.Perm.swap _ _ _)).trans hP5'.symm)

theorem argmaxAbs_spec (W : List Int) (hW : W ≠ []) :
    ∃ h : argmaxAbs W < W.length, ∀ z ∈ W, z.natAbs ≤ (W[argmaxAbs W]).natAbs := by
  obtain ⟨h, hm⟩ := ThreePoint.argmax_spec (W.map fun x => (x.natAbs : Int)) (by simpa using hW)
  have h' : argmaxAbs W < W.length := by simpa [argmaxAbs] using h
  refine ⟨h', fun z hz => ?_⟩
  have := hm (z.natAbs : Int) (List.mem_map.2 ⟨z, hz, rfl⟩)
  rw [getElem!_pos (W.map fun x => (x.natAbs : Int)) _ h, List.getElem_map] at this
  unfold argmaxAbs
  omega

theorem rot_split {W A : List Int} {x : Int} (h : W ~r (x :: A)) :
    ∃ U V, W = U ++ x :: V ∧ A = V ++ U := by
  obtain ⟨n, hn⟩ := h
  rw [List.rotate_eq_drop_append_take_mod] at hn
  have hW := (List.take_append_drop (n % W.length) W).symm
  cases hd : W.drop (n % W.length) with
  | nil =>
    rw [hd, List.nil_append] at hn
    rw [hd, List.append_nil, hn] at hW
    exact ⟨[], A, hW, (List.append_nil A).symm⟩
  | cons y V =>
    rw [hd, List.cons_append] at hn
    rw [hd] at hW
    injection hn with h1 h2
    exact ⟨_, V, h1 ▸ hW, h2.symm⟩

theorem zig_closed {W A : List Int} {x : Int} (hz : Zig (W ++ W)) (h : W ~r (x :: A)) :
    Zig (x :: (A ++ [x])) := by
  obtain ⟨U, V, rfl, rfl⟩ := rot_split h
  exact zig_infix U _ V (by simpa using hz)

theorem closed_perm {W A B : List Int} {x y : Int} (hz : Zig (W ++ W))
    (hx : W ~r (x :: A)) (hy : W ~r (y :: B))
    (hmx : ∀ z ∈ W, z.natAbs ≤ x.natAbs) (hmy : ∀ z ∈ W, z.natAbs ≤ y.natAbs) :
    (outOf (x :: (A ++ [x]))).Perm (outOf (y :: (B ++ [y]))) := by
  have hz1 := zig_closed hz hx
  have hz2 := zig_closed hz hy
  have hxy := hmy x (hx.mem_iff.2 (by simp))
  have hmx' : ∀ z ∈ x :: (A ++ [x]), z.natAbs ≤ x.natAbs := by
    intro z hz'
    rw [← List.cons_append, List.mem_append, List.mem_singleton] at hz'
    rcases hz' with h | rfl
    · exact hmx z (hx.mem_iff.2 h)
    · exact Nat.le_refl _
  obtain ⟨U, V, hU, rfl⟩ := rot_split (hx.symm.trans hy)
  cases U with
  | nil =>
    cases hU
    rw [List.append_nil]
  | cons x' P =>
    cases hU
    have := closed_perm_cut x y P V (by simpa using hz1) (by simpa using hz2) (by simpa using hmx') hxy
    simpa using this

theorem prf_eq_outOf (W : List Int) (h : 2 ≤ W.length) :
    ∃ M A, W ~r (M :: A) ∧ (∀ z ∈ W, z.natAbs ≤ M.natAbs) ∧ prf W = outOf (M :: (A ++ [M])) := by
  obtain ⟨hk, hmk⟩ := argmaxAbs_spec W (by intro h0; simp [h0] at h)
  refine ⟨W[argmaxAbs W], W.drop (argmaxAbs W + 1) ++ W.take (argmaxAbs W), ?_, hmk, ?_⟩
  · rw [← List.cons_append, ← List.drop_eq_getElem_cons hk]
    exact ⟨argmaxAbs W, List.rotate_eq_drop_append_take (Nat.le_of_lt hk)⟩
  · unfold prf
    rw [if_neg (by omega)]
    show outOf (W.drop (argmaxAbs W) ++ W.take (argmaxAbs W) ++ [W.getD (argmaxAbs W) 0]) = _
    rw [List.getD_eq_getElem?_getD, List.getElem?_eq_getElem hk, Option.getD_some,
      List.drop_eq_getElem_cons hk, List.cons_append, List.cons_append, List.append_assoc]

theorem prf_closed {W A : List Int} {x : Int} (h2 : 2 ≤ W.length) (hz : Zig (W ++ W))
    (hx : W ~r (x :: A)) (hmx : ∀ z ∈ W, z.natAbs ≤ x.natAbs) :
    (outOf (x :: (A ++ [x]))).Perm (prf W) := by
  obtain ⟨M, B, r, m, e⟩ := prf_eq_outOf W h2
  rw [e]
  exact closed_perm hz hx r hmx m

theorem prf_rotate (W : List Int) (hz : 2 ≤ W.length → Zig (W ++ W)) (j : Nat) :
    (prf (W.rotate j)).Perm (prf W) := by
  by_cases hn : 2 ≤ W.length
  · obtain ⟨M, A, r, m, e⟩ := prf_eq_outOf (W.rotate j) (by simpa using hn)
    rw [e]
    exact prf_closed hn (hz hn) ((List.IsRotated.forall W j).symm.trans r)
      fun z hz' => m z (List.mem_rotate.2 hz')
  · unfold prf
    rw [if_pos (by simpa using hn), if_pos (by omega)]

end PylifeVerif.C04
