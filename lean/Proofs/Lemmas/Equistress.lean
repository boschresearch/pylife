/-
C17 (equivalent stresses) over ℝ: what the model functions compute, the symmetric tensor of the six components, and the
contract of `eigvalsh`, `IsEigTriple`.  The principal form of Mises and the scaling of the triple rest on the diagonal form
in principal axes (`IsEigTriple.exists_orth_diagonal`, from Mathlib's spectral theorem); `smulV` / `smulW`, `principalMises`,
`hydroShift` / `shiftW` are what the scaling, principal-form and tie-set theorems of C17 are stated with.
-/
import Model.Equistress
import Proofs.RealNum
import Mathlib.Analysis.Matrix.Spectrum
import Mathlib.LinearAlgebra.Matrix.Charpoly.Basic
import Mathlib.LinearAlgebra.Matrix.Trace
import Mathlib.LinearAlgebra.Matrix.Notation
import Mathlib.Data.Fin.Tuple.Sort
import Mathlib.Tactic.Ring
import Mathlib.Tactic.Linarith
import Mathlib.Tactic.NormNum

namespace PylifeVerif.Equistress
open Matrix

/-- the symmetric 3×3 tensor assembled by `eigenval` from the six components -/
def tensor (v : Voigt ℝ) : Matrix (Fin 3) (Fin 3) ℝ :=
  !![v.s11, v.s12, v.s13; v.s12, v.s22, v.s23; v.s13, v.s23, v.s33]

theorem lit_half : (0.5 : ℝ) = 1 / 2 := PylifeVerif.lit_half
theorem lit_three : (3.0 : ℝ) = 3 := PylifeVerif.lit_three

-- Identities between 3×3 matrices are computed on the literals (`Matrix.mul_fin_three` and the like), not entry by entry.
theorem transpose_fin_three_of (a b c d e f g h i : ℝ) :
    !![a, b, c; d, e, f; g, h, i]ᵀ = !![a, d, g; b, e, h; c, f, i] := by
  rw [Matrix.eta_fin_three (!![a, b, c; d, e, f; g, h, i]ᵀ)]
  rfl

theorem tensor_symm (v : Voigt ℝ) : (tensor v)ᵀ = tensor v :=
  transpose_fin_three_of _ _ _ _ _ _ _ _ _

theorem tensor_isHermitian (v : Voigt ℝ) : (tensor v).IsHermitian := by
  unfold Matrix.IsHermitian
  rw [conjTranspose_eq_transpose_of_trivial, tensor_symm]

theorem trace_tensor (v : Voigt ℝ) : (tensor v).trace = v.s11 + v.s22 + v.s33 :=
  Matrix.trace_fin_three_of _ _ _ _ _ _ _ _ _

theorem trace_tensor_sq (v : Voigt ℝ) :
    (tensor v * tensor v).trace =
      v.s11 ^ 2 + v.s22 ^ 2 + v.s33 ^ 2 + 2 * (v.s12 ^ 2 + v.s13 ^ 2 + v.s23 ^ 2) := by
  rw [tensor, Matrix.mul_fin_three, Matrix.trace_fin_three_of]
  ring

theorem misesRadicand_real (v : Voigt ℝ) :
    misesRadicand v = ((v.s11 - v.s22) ^ 2 + (v.s22 - v.s33) ^ 2 + (v.s33 - v.s11) ^ 2) / 2
      + 3 * (v.s12 ^ 2 + v.s13 ^ 2 + v.s23 ^ 2) := by
  rw [misesRadicand, lit_half, lit_three]
  simp only [sq]
  ring

theorem misesRadicandExpanded_eq (v : Voigt ℝ) : misesRadicandExpanded v = misesRadicand v := by
  rw [misesRadicandExpanded, misesRadicand, lit_half, lit_three]
  simp only [sq]
  ring

theorem mises_real (v : Voigt ℝ) :
    mises v = Real.sqrt (((v.s11 - v.s22) ^ 2 + (v.s22 - v.s33) ^ 2 + (v.s33 - v.s11) ^ 2) / 2
      + 3 * (v.s12 ^ 2 + v.s13 ^ 2 + v.s23 ^ 2)) := by
  rw [mises, transc_sqrt, misesRadicand_real]

theorem misesRadicand_nonneg (v : Voigt ℝ) : 0 ≤ misesRadicand v := by
  rw [misesRadicand_real]; positivity

theorem mises_nonneg (v : Voigt ℝ) : 0 ≤ mises v :=
  Real.sqrt_nonneg _

theorem isZero_real (x : ℝ) : isZero x = true ↔ x = 0 := by
  rw [isZero, lit_zero, Bool.and_eq_true, decide_eq_true_eq, decide_eq_true_eq, ← le_antisymm_iff]

theorem max2_real (a b : ℝ) : max2 a b = max a b := by
  unfold max2; split_ifs with h
  · exact (max_eq_right h.le).symm
  · exact (max_eq_left (not_lt.mp h)).symm

theorem min2_real (a b : ℝ) : min2 a b = min a b := by
  unfold min2; split_ifs with h
  · exact (min_eq_right h.le).symm
  · exact (min_eq_left (not_lt.mp h)).symm

theorem amax3_real (a b c : ℝ) : amax3 a b c = max (max a b) c := by
  rw [amax3, max2_real, max2_real]

theorem amin3_real (a b c : ℝ) : amin3 a b c = min (min a b) c := by
  rw [amin3, min2_real, min2_real]

theorem max_abs_sub_eq (a b c : ℝ) :
    max (max |a - b| |a - c|) |b - c| = max (max a b) c - min (min a b) c := by
  -- Subtraction distributes over `max` and `min`: the right side is the largest of the nine differences `x − y`,
  -- three of which are `0`; the left side is the largest of the other six, and is `≥ 0`.
  have h0 : 0 ≤ max (max |a - b| |a - c|) |b - c| := (abs_nonneg _).trans (le_max_right _ _)
  rw [← max_eq_left h0]
  simp only [← max_sub_sub_right, ← max_sub_sub_left, abs_eq_max_neg, neg_sub, sub_self, max_assoc,
    max_left_comm, max_comm, max_self]

theorem tresca_real (w : Principal ℝ) : tresca w = maxPrincipal w - minPrincipal w := by
  rw [tresca, maxPrincipal, minPrincipal, amax3_real, amax3_real, amin3_real]
  exact max_abs_sub_eq _ _ _

theorem tresca_nonneg (w : Principal ℝ) : 0 ≤ tresca w := by
  rw [tresca, amax3_real]
  exact (abs_nonneg _).trans (le_max_right _ _)

theorem signOrOne_real (x : ℝ) :
    (let sgn := (Transc.sign x : ℝ); if isZero sgn then (1.0 : ℝ) else sgn) = if 0 ≤ x then 1 else -1 := by
  simp only [transc_sign, isZero_real, lit_one]
  rcases lt_trichotomy x 0 with h | h | h
  · simp [not_lt.mpr h.le, h, not_le.mpr h]
  · simp [h]
  · simp [h, h.le]

theorem signTrace_real (v : Voigt ℝ) :
    signTrace v = if 0 ≤ v.s11 + v.s22 + v.s33 then 1 else -1 :=
  signOrOne_real _

/-- `sgn + int(sgn == 0)` is the other spelling of "`sgn`, with `0` replaced by `1`" (`signOrOne_real`) -/
theorem signAbsMax_real (w : Principal ℝ) :
    signAbsMax w = if 0 ≤ maxPrincipal w + minPrincipal w then 1 else -1 := by
  rw [← signOrOne_real, signAbsMax]
  dsimp only
  split_ifs with h
  · rw [(isZero_real _).1 h, zero_add]
  · rw [lit_zero, add_zero]

theorem absMaxPrincipal_real (w : Principal ℝ) :
    absMaxPrincipal w = if 0 ≤ maxPrincipal w + minPrincipal w then maxPrincipal w else minPrincipal w := by
  unfold absMaxPrincipal
  rw [signAbsMax_real]
  by_cases h : 0 ≤ maxPrincipal w + minPrincipal w
  · simp [h, lit_one, lit_zero]
  · have : ¬ ((1 : ℝ) ≤ 0) := by norm_num
    simp [h, lit_one, lit_zero, this]

/-- a sign `±1` times a magnitude `m ≥ 0`: what each of the four signed variants is -/
theorem signMul_def (p : Prop) [Decidable p] {m : ℝ} (hm : 0 ≤ m) :
    (if p then (1 : ℝ) else -1) * m = (if p then m else -m) ∧ |(if p then (1 : ℝ) else -1) * m| = m := by
  split_ifs
  · rw [one_mul]
    exact ⟨rfl, abs_of_nonneg hm⟩
  · rw [neg_one_mul, abs_neg]
    exact ⟨rfl, abs_of_nonneg hm⟩

theorem nonneg_iff_of_abs_sub_lt {x y : ℝ} (h : |y - x| < |x|) : 0 ≤ y ↔ 0 ≤ x := by
  rcases le_or_gt 0 x with hx | hx
  · rw [abs_of_nonneg hx, abs_lt] at h
    exact ⟨fun _ => hx, fun _ => by linarith⟩
  · rw [abs_of_neg hx, abs_lt] at h
    exact ⟨fun hy => by linarith, fun hx' => absurd hx' (not_le.2 hx)⟩

theorem orth_mul_transpose {Q : Matrix (Fin 3) (Fin 3) ℝ} (hQ : Qᵀ * Q = 1) : Q * Qᵀ = 1 :=
  mul_eq_one_comm.mp hQ

theorem trace_conj {Q : Matrix (Fin 3) (Fin 3) ℝ} (hQ : Qᵀ * Q = 1) (A : Matrix (Fin 3) (Fin 3) ℝ) :
    (Q * A * Qᵀ).trace = A.trace := by
  rw [Matrix.trace_mul_comm, ← Matrix.mul_assoc, hQ, Matrix.one_mul]

theorem conj_mul_conj {Q : Matrix (Fin 3) (Fin 3) ℝ} (hQ : Qᵀ * Q = 1) (A B : Matrix (Fin 3) (Fin 3) ℝ) :
    (Q * A * Qᵀ) * (Q * B * Qᵀ) = Q * (A * B) * Qᵀ := by
  calc (Q * A * Qᵀ) * (Q * B * Qᵀ) = Q * A * (Qᵀ * Q) * B * Qᵀ := by
        simp only [Matrix.mul_assoc]
    _ = Q * (A * B) * Qᵀ := by rw [hQ]; simp only [Matrix.mul_assoc, Matrix.one_mul]

theorem trace_sq_conj {Q : Matrix (Fin 3) (Fin 3) ℝ} (hQ : Qᵀ * Q = 1) (A : Matrix (Fin 3) (Fin 3) ℝ) :
    ((Q * A * Qᵀ) * (Q * A * Qᵀ)).trace = (A * A).trace := by
  rw [conj_mul_conj hQ, trace_conj hQ]

theorem charpoly_conj {Q : Matrix (Fin 3) (Fin 3) ℝ} (hQ : Qᵀ * Q = 1) (A : Matrix (Fin 3) (Fin 3) ℝ) :
    (Q * A * Qᵀ).charpoly = A.charpoly := by
  rw [Matrix.charpoly_mul_comm, ← Matrix.mul_assoc, hQ, Matrix.one_mul]

open Polynomial in
/-- `w` is the ascending triple of eigenvalues of `A` counted with multiplicity: the roots of the
characteristic polynomial. -/
def IsEigTriple (A : Matrix (Fin 3) (Fin 3) ℝ) (w : Principal ℝ) : Prop :=
  w.w0 ≤ w.w1 ∧ w.w1 ≤ w.w2 ∧ A.charpoly = (X - C w.w0) * (X - C w.w1) * (X - C w.w2)

open Polynomial in
theorem roots_of_triple (a b c : ℝ) :
    ((X - C a) * (X - C b) * (X - C c) : ℝ[X]).roots = ({a, b, c} : Multiset ℝ) := by
  rw [← roots_multiset_prod_X_sub_C ({a, b, c} : Multiset ℝ)]
  simp [Multiset.insert_eq_cons, mul_assoc]

theorem sorted_triple_unique {a b c a' b' c' : ℝ} (h1 : a ≤ b) (h2 : b ≤ c) (h1' : a' ≤ b')
    (h2' : b' ≤ c') (h : ({a, b, c} : Multiset ℝ) = {a', b', c'}) : a = a' ∧ b = b' ∧ c = c' := by
  have hp : List.Perm [a, b, c] [a', b', c'] := Multiset.coe_eq_coe.mp h
  have hs : ∀ {x y z : ℝ}, x ≤ y → y ≤ z → List.Pairwise (· ≤ ·) [x, y, z] := fun hxy hyz => by
    simp
    exact ⟨⟨hxy, hxy.trans hyz⟩, hyz⟩
  have := hp.eq_of_pairwise (fun _ _ _ _ hab hba => le_antisymm hab hba) (hs h1 h2) (hs h1' h2')
  simpa using this

theorem IsEigTriple.unique {A : Matrix (Fin 3) (Fin 3) ℝ} {w w' : Principal ℝ}
    (h : IsEigTriple A w) (h' : IsEigTriple A w') : w = w' := by
  obtain ⟨h1, h2, h3⟩ := h
  obtain ⟨h1', h2', h3'⟩ := h'
  have hr := roots_of_triple w'.w0 w'.w1 w'.w2
  rw [← h3', h3, roots_of_triple] at hr
  cases w
  cases w'
  rw [Principal.mk.injEq]
  exact sorted_triple_unique h1 h2 h1' h2' hr

theorem IsEigTriple.conj {A : Matrix (Fin 3) (Fin 3) ℝ} {w : Principal ℝ} (h : IsEigTriple A w)
    {Q : Matrix (Fin 3) (Fin 3) ℝ} (hQ : Qᵀ * Q = 1) : IsEigTriple (Q * A * Qᵀ) w :=
  ⟨h.1, h.2.1, (charpoly_conj hQ A).trans h.2.2⟩

theorem IsEigTriple.multiset {A : Matrix (Fin 3) (Fin 3) ℝ} (hA : A.IsHermitian) {w : Principal ℝ}
    (h : IsEigTriple A w) :
    ({w.w0, w.w1, w.w2} : Multiset ℝ) = Multiset.map hA.eigenvalues Finset.univ.val := by
  rw [← roots_of_triple, ← h.2.2, hA.roots_charpoly_eq_eigenvalues]
  simp

theorem tensor_diag (a b c : ℝ) : tensor ⟨a, b, c, 0, 0, 0⟩ = diagonal ![a, b, c] := by
  rw [Matrix.diagonal_fin_three]
  rfl

theorem isEigTriple_diagonal {a b c : ℝ} (h1 : a ≤ b) (h2 : b ≤ c) :
    IsEigTriple (diagonal ![a, b, c]) ⟨a, b, c⟩ := by
  refine ⟨h1, h2, ?_⟩
  rw [Matrix.charpoly_diagonal, Fin.prod_univ_three]
  rfl

theorem exists_eigTriple_orth_diagonal {A : Matrix (Fin 3) (Fin 3) ℝ} (hA : A.IsHermitian) :
    ∃ (w : Principal ℝ) (U : Matrix (Fin 3) (Fin 3) ℝ), IsEigTriple A w ∧ Uᵀ * U = 1 ∧
      A = U * diagonal ![w.w0, w.w1, w.w2] * Uᵀ := by
  -- Mathlib's diagonalisation `A = V diag(e) V⋆`, the columns of `V` reordered by the permutation that sorts `e`
  obtain ⟨d, U, hd, hU, hUA⟩ : ∃ (d : Fin 3 → ℝ) (U : Matrix (Fin 3) (Fin 3) ℝ),
      Monotone d ∧ Uᵀ * U = 1 ∧ A = U * diagonal d * Uᵀ := by
    have hstar : star (hA.eigenvectorUnitary : Matrix (Fin 3) (Fin 3) ℝ) = (hA.eigenvectorUnitary : Matrix _ _ ℝ)ᵀ := by
      rw [Matrix.star_eq_conjTranspose, conjTranspose_eq_transpose_of_trivial]
    refine ⟨_, (hA.eigenvectorUnitary : Matrix _ _ ℝ).submatrix id (Tuple.sort hA.eigenvalues),
      Tuple.monotone_sort hA.eigenvalues, ?_, ?_⟩
    · rw [transpose_submatrix, ← submatrix_mul _ _ _ _ _ Function.bijective_id, ← hstar, Unitary.coe_star_mul_self,
        submatrix_one_equiv]
    · rw [← submatrix_diagonal_equiv, transpose_submatrix, submatrix_mul_equiv, submatrix_mul_equiv,
        submatrix_id_id, ← hstar]
      exact hA.spectral_theorem.trans (Unitary.conjStarAlgAut_apply _ _)
  rw [show d = ![d 0, d 1, d 2] by ext i; fin_cases i <;> rfl] at hUA
  exact ⟨⟨d 0, d 1, d 2⟩, U, hUA ▸ (isEigTriple_diagonal (hd (by decide)) (hd (by decide))).conj hU, hU, hUA⟩

theorem IsEigTriple.exists_orth_diagonal {A : Matrix (Fin 3) (Fin 3) ℝ} (hA : A.IsHermitian) {w : Principal ℝ}
    (h : IsEigTriple A w) :
    ∃ U : Matrix (Fin 3) (Fin 3) ℝ, Uᵀ * U = 1 ∧ A = U * diagonal ![w.w0, w.w1, w.w2] * Uᵀ := by
  obtain ⟨w', U, h', hU⟩ := exists_eigTriple_orth_diagonal hA
  obtain rfl : w' = w := h'.unique h
  exact ⟨U, hU⟩

def smulV (c : ℝ) (v : Voigt ℝ) : Voigt ℝ :=
  ⟨c * v.s11, c * v.s22, c * v.s33, c * v.s12, c * v.s13, c * v.s23⟩

def smulW (c : ℝ) (w : Principal ℝ) : Principal ℝ := ⟨c * w.w0, c * w.w1, c * w.w2⟩

/-- Through the diagonal form in principal axes, hence `IsHermitian` (unlike `conj` and `sub_scalar`, which the
characteristic polynomial alone gives): this way `c = 0` is no case of its own. -/
theorem IsEigTriple.smul {A : Matrix (Fin 3) (Fin 3) ℝ} (hA : A.IsHermitian) {w : Principal ℝ}
    (h : IsEigTriple A w) {c : ℝ} (hc : 0 ≤ c) :
    IsEigTriple (c • A) (smulW c w) := by
  obtain ⟨U, hU, hUA⟩ := h.exists_orth_diagonal hA
  have e : c • A = U * diagonal ![c * w.w0, c * w.w1, c * w.w2] * Uᵀ := by
    conv_lhs => rw [hUA]
    rw [← Matrix.smul_mul, ← Matrix.mul_smul, ← Matrix.diagonal_smul, Matrix.smul_vec3]
    rfl
  rw [e]
  exact (isEigTriple_diagonal (mul_le_mul_of_nonneg_left h.1 hc) (mul_le_mul_of_nonneg_left h.2.1 hc)).conj hU

theorem IsEigTriple.eigenvalue_iff {A : Matrix (Fin 3) (Fin 3) ℝ} {w : Principal ℝ}
    (h : IsEigTriple A w) (μ : ℝ) :
    (∃ x : Fin 3 → ℝ, x ≠ 0 ∧ A *ᵥ x = μ • x) ↔ μ = w.w0 ∨ μ = w.w1 ∨ μ = w.w2 := by
  have h1 : (∃ x : Fin 3 → ℝ, x ≠ 0 ∧ A *ᵥ x = μ • x) ↔
      ∃ x : Fin 3 → ℝ, x ≠ 0 ∧ (Matrix.scalar (Fin 3) μ - A) *ᵥ x = 0 := by
    refine exists_congr fun x => and_congr_right fun _ => ?_
    rw [Matrix.sub_mulVec, sub_eq_zero, Matrix.scalar_apply, ← Matrix.smul_one_eq_diagonal, Matrix.smul_mulVec,
      Matrix.one_mulVec]
    exact eq_comm
  rw [h1, Matrix.exists_mulVec_eq_zero_iff, ← Matrix.eval_charpoly, h.2.2]
  simp only [Polynomial.eval_mul, Polynomial.eval_sub, Polynomial.eval_X, Polynomial.eval_C,
    mul_eq_zero, sub_eq_zero, or_assoc]

theorem tensor_smulV (c : ℝ) (v : Voigt ℝ) : tensor (smulV c v) = c • tensor v := by
  simp [tensor, smulV, Matrix.smul_of]

theorem signTrace_smulV {c : ℝ} (hc : 0 < c) (v : Voigt ℝ) : signTrace (smulV c v) = signTrace v := by
  have e : (smulV c v).s11 + (smulV c v).s22 + (smulV c v).s33 = c * (v.s11 + v.s22 + v.s33) := by
    simp only [smulV]; ring
  rw [signTrace_real, signTrace_real, e]
  simp only [mul_nonneg_iff_of_pos_left hc]

/-! A factor `c ≥ 0` goes through `max` and `min`, hence through every function of the triple built from them,
whatever the order of the three values. -/

theorem maxPrincipal_smulW {c : ℝ} (hc : 0 ≤ c) (w : Principal ℝ) :
    maxPrincipal (smulW c w) = c * maxPrincipal w := by
  rw [maxPrincipal, maxPrincipal, amax3_real, amax3_real, mul_max_of_nonneg _ _ hc, mul_max_of_nonneg _ _ hc]
  rfl

theorem minPrincipal_smulW {c : ℝ} (hc : 0 ≤ c) (w : Principal ℝ) :
    minPrincipal (smulW c w) = c * minPrincipal w := by
  rw [minPrincipal, minPrincipal, amin3_real, amin3_real, mul_min_of_nonneg _ _ hc, mul_min_of_nonneg _ _ hc]
  rfl

theorem tresca_smulW {c : ℝ} (hc : 0 ≤ c) (w : Principal ℝ) : tresca (smulW c w) = c * tresca w := by
  rw [tresca_real, tresca_real, maxPrincipal_smulW hc, minPrincipal_smulW hc, mul_sub]

theorem signAbsMax_smulW {c : ℝ} (hc : 0 < c) (w : Principal ℝ) : signAbsMax (smulW c w) = signAbsMax w := by
  rw [signAbsMax_real, signAbsMax_real, maxPrincipal_smulW hc.le, minPrincipal_smulW hc.le, ← mul_add]
  simp only [mul_nonneg_iff_of_pos_left hc]

theorem absMaxPrincipal_smulW {c : ℝ} (hc : 0 < c) (w : Principal ℝ) :
    absMaxPrincipal (smulW c w) = c * absMaxPrincipal w := by
  rw [absMaxPrincipal_real, absMaxPrincipal_real, maxPrincipal_smulW hc.le, minPrincipal_smulW hc.le, ← mul_add, mul_ite]
  simp only [mul_nonneg_iff_of_pos_left hc]

/-- von Mises stress from the principal stress differences -/
noncomputable def principalMises (w : Principal ℝ) : ℝ :=
  Real.sqrt (((w.w0 - w.w1) ^ 2 + (w.w1 - w.w2) ^ 2 + (w.w2 - w.w0) ^ 2) / 2)

theorem mises_diag (a b c : ℝ) : mises ⟨a, b, c, 0, 0, 0⟩ = principalMises ⟨a, b, c⟩ := by
  rw [mises_real, principalMises]
  simp only [ne_eq, OfNat.ofNat_ne_zero, not_false_eq_true, zero_pow, add_zero, mul_zero]

theorem isEigTriple_diag {a b c : ℝ} (h1 : a ≤ b) (h2 : b ≤ c) :
    IsEigTriple (tensor ⟨a, b, c, 0, 0, 0⟩) ⟨a, b, c⟩ :=
  tensor_diag a b c ▸ isEigTriple_diagonal h1 h2

/-- a rotation about the third axis (3-4-5 triangle), used in the non-vacuity examples -/
noncomputable def exQ : Matrix (Fin 3) (Fin 3) ℝ := !![3/5, -4/5, 0; 4/5, 3/5, 0; 0, 0, 1]

theorem exQ_orth : exQᵀ * exQ = 1 := by
  rw [exQ, transpose_fin_three_of, Matrix.mul_fin_three, Matrix.one_fin_three]
  norm_num

def exS : Voigt ℝ := ⟨1, 2, 3, 4, 5, 6⟩
noncomputable def exT : Voigt ℝ := ⟨-11/5, 26/5, 3, -8/5, -9/5, 38/5⟩

theorem exT_eq : tensor exT = exQ * tensor exS * exQᵀ := by
  rw [exQ, transpose_fin_three_of, tensor, tensor, exS, exT, Matrix.mul_fin_three, Matrix.mul_fin_three]
  norm_num

/-- the tensor with a hydrostatic pressure `p` superposed (every normal component lowered by `p`) -/
def hydroShift (p : ℝ) (v : Voigt ℝ) : Voigt ℝ :=
  ⟨v.s11 - p, v.s22 - p, v.s33 - p, v.s12, v.s13, v.s23⟩

def shiftW (p : ℝ) (w : Principal ℝ) : Principal ℝ := ⟨w.w0 - p, w.w1 - p, w.w2 - p⟩

/-! The two sign indicators - the trace, and `w₂ + w₀` of the ascending triple - under the hydrostatic shift: each is
linear in `p`, so exactly one `p` puts a tensor on the indicator's tie set (indicator `= 0`, where the sign flips). -/

theorem trace_hydroShift (p : ℝ) (v : Voigt ℝ) :
    (hydroShift p v).s11 + (hydroShift p v).s22 + (hydroShift p v).s33 = v.s11 + v.s22 + v.s33 - 3 * p := by
  simp only [hydroShift]; ring

theorem shiftW_indicator (p : ℝ) (w : Principal ℝ) :
    (shiftW p w).w2 + (shiftW p w).w0 = w.w2 + w.w0 - 2 * p := by
  simp only [shiftW]; ring

theorem abs_sub_sub_self_le {δ : ℝ} (hδ : 0 ≤ δ) (x : ℝ) : |x - δ - x| ≤ δ := by
  rw [sub_sub_cancel_left, abs_neg, abs_of_nonneg hδ]

theorem abs_sub_self_le {δ : ℝ} (hδ : 0 ≤ δ) (x : ℝ) : |x - x| ≤ δ := by
  rw [sub_self, abs_zero]
  exact hδ

theorem tensor_hydroShift (p : ℝ) (v : Voigt ℝ) :
    tensor (hydroShift p v) = tensor v - Matrix.scalar (Fin 3) p := by
  rw [tensor, tensor, hydroShift, Matrix.scalar_apply, Matrix.diagonal_fin_three]
  simp

open Polynomial in
theorem IsEigTriple.sub_scalar {A : Matrix (Fin 3) (Fin 3) ℝ} {w : Principal ℝ}
    (h : IsEigTriple A w) (p : ℝ) : IsEigTriple (A - Matrix.scalar (Fin 3) p) (shiftW p w) := by
  obtain ⟨h1, h2, h3⟩ := h
  refine ⟨sub_le_sub_right h1 p, sub_le_sub_right h2 p, ?_⟩
  rw [Matrix.charpoly_sub_scalar, h3]
  simp only [shiftW, mul_comp, sub_comp, X_comp, C_comp, C_sub]
  ring

theorem pureShear_eigTriple (τ : ℝ) (hτ : 0 ≤ τ) :
    IsEigTriple (tensor ⟨0, 0, 0, τ, 0, 0⟩) ⟨-τ, 0, τ⟩ := by
  refine ⟨by simp only; linarith, hτ, ?_⟩
  simp [Matrix.charpoly, Matrix.charmatrix, Matrix.det_fin_three, tensor]
  ring

end PylifeVerif.Equistress
