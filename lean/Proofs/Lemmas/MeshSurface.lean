/-
`surfaceFlags` (the function the driver runs on `(node_id, element_id)` rows) on the hexahedral block mesh
`blockRows`: the number of distinct element ids among the rows of a grid node is `incidentCount`, hence a node
is flagged exactly when it is not interior — for rows in any order and any injective numbering of nodes/elements.
-/
import Proofs.Lemmas.MeshPipeline
import Mathlib.Data.List.Basic
import Mathlib.Data.List.Nodup
import Mathlib.Data.List.ProdSigma
import Mathlib.Tactic.IntervalCases

namespace PylifeVerif.Mesh

theorem add_mul_inj (n a a' q q' : Nat) (ha : a < n) (ha' : a' < n) (h : a + n * q = a' + n * q') :
    a = a' ∧ q = q' := by
  have h1 : (a + n * q) % n = (a' + n * q') % n := by rw [h]
  rw [Nat.add_mul_mod_self_left, Nat.add_mul_mod_self_left, Nat.mod_eq_of_lt ha, Nat.mod_eq_of_lt ha'] at h1
  subst h1
  refine ⟨rfl, ?_⟩
  have h2 : n * q = n * q' := by omega
  exact Nat.eq_of_mul_eq_mul_left (by omega) h2

theorem gridNode_inj (nx ny i j k i' j' k' : Nat) (hi : i ≤ nx) (hj : j ≤ ny) (hi' : i' ≤ nx) (hj' : j' ≤ ny)
    (h : gridNode nx ny i j k = gridNode nx ny i' j' k') : i = i' ∧ j = j' ∧ k = k' := by
  unfold gridNode at h
  obtain ⟨h1, h2⟩ := add_mul_inj (nx + 1) i i' _ _ (by omega) (by omega) h
  obtain ⟨h3, h4⟩ := add_mul_inj (ny + 1) j j' _ _ (by omega) (by omega) h2
  exact ⟨h1, h3, h4⟩

theorem gridElem_inj (nx ny a b c a' b' c' : Nat) (ha : a < nx) (hb : b < ny) (ha' : a' < nx) (hb' : b' < ny)
    (h : gridElem nx ny a b c = gridElem nx ny a' b' c') : a = a' ∧ b = b' ∧ c = c' := by
  unfold gridElem at h
  obtain ⟨h1, h2⟩ := add_mul_inj nx a a' _ _ ha ha' h
  obtain ⟨h3, h4⟩ := add_mul_inj ny b b' _ _ hb hb' h2
  exact ⟨h1, h3, h4⟩

theorem mem_hexOffsets (d : Nat × Nat × Nat) : d ∈ hexOffsets ↔ d.1 ≤ 1 ∧ d.2.1 ≤ 1 ∧ d.2.2 ≤ 1 := by
  obtain ⟨d1, d2, d3⟩ := d
  constructor
  · intro h
    simp only [hexOffsets, List.mem_cons, Prod.mk.injEq, List.mem_nil_iff, or_false] at h
    simp only
    omega
  · rintro ⟨h1, h2, h3⟩
    simp only at h1 h2 h3
    interval_cases d1 <;> interval_cases d2 <;> interval_cases d3 <;> simp [hexOffsets]

/-- The rows of the block: cell `(a, b, c)` paired with each of its eight corner nodes `(i, j, k)`. -/
theorem mem_blockRows (nx ny nz : Nat) (nid eid : Nat → Int) (r : Int × Int) :
    r ∈ blockRows nx ny nz nid eid ↔
      ∃ c, c < nz ∧ ∃ b, b < ny ∧ ∃ a, a < nx ∧ ∃ i j k, (a ≤ i ∧ i ≤ a + 1) ∧ (b ≤ j ∧ j ≤ b + 1) ∧
        (c ≤ k ∧ k ≤ c + 1) ∧ r = (nid (gridNode nx ny i j k), eid (gridElem nx ny a b c)) := by
  simp only [blockRows, List.mem_flatMap, List.mem_range, List.mem_map, mem_hexOffsets]
  constructor
  · rintro ⟨c, hc, b, hb, a, ha, ⟨d1, d2, d3⟩, ⟨h1, h2, h3⟩, rfl⟩
    simp only at h1 h2 h3
    exact ⟨c, hc, b, hb, a, ha, a + d1, b + d2, c + d3, by omega, by omega, by omega, rfl⟩
  · rintro ⟨c, hc, b, hb, a, ha, i, j, k, hi, hj, hk, rfl⟩
    refine ⟨c, hc, b, hb, a, ha, (i - a, j - b, k - c), ⟨?_, ?_, ?_⟩, ?_⟩
    · simp only; omega
    · simp only; omega
    · simp only; omega
    rw [show a + (i - a) = i by omega, show b + (j - b) = j by omega, show c + (k - c) = k by omega]

/-- The cells of one axis that touch grid line `i` (the list counted by `axisCount`). -/
def axisCells (n i : Nat) : List Nat := (List.range n).filter (fun a => a == i || a + 1 == i)

theorem axisCells_length (n i : Nat) : (axisCells n i).length = axisCount n i := rfl

theorem axisCells_nodup (n i : Nat) : (axisCells n i).Nodup := List.nodup_range.filter _

theorem mem_axisCells (n i a : Nat) : a ∈ axisCells n i ↔ a < n ∧ (a = i ∨ a + 1 = i) := by
  simp [axisCells]

/-- The cells of the block that meet at grid node `(i, j, k)`, as `(c, b, a)` triples. -/
def incidentCells (nx ny nz i j k : Nat) : List (Nat × Nat × Nat) :=
  axisCells nz k ×ˢ (axisCells ny j ×ˢ axisCells nx i)

theorem incidentCells_length (nx ny nz i j k : Nat) :
    (incidentCells nx ny nz i j k).length = incidentCount nx ny nz i j k := by
  simp only [incidentCells, List.length_product, axisCells_length, incidentCount]
  rw [Nat.mul_comm (axisCount ny j), Nat.mul_comm (axisCount nz k)]

theorem incidentCells_nodup (nx ny nz i j k : Nat) : (incidentCells nx ny nz i j k).Nodup :=
  (axisCells_nodup nz k).product ((axisCells_nodup ny j).product (axisCells_nodup nx i))

theorem mem_incidentCells (nx ny nz i j k : Nat) (t : Nat × Nat × Nat) :
    t ∈ incidentCells nx ny nz i j k ↔
      (t.1 < nz ∧ (t.1 = k ∨ t.1 + 1 = k)) ∧ (t.2.1 < ny ∧ (t.2.1 = j ∨ t.2.1 + 1 = j)) ∧
        (t.2.2 < nx ∧ (t.2.2 = i ∨ t.2.2 + 1 = i)) := by
  obtain ⟨c, b, a⟩ := t
  simp only [incidentCells, List.mem_product, mem_axisCells]

def incidentElems (nx ny nz : Nat) (eid : Nat → Int) (i j k : Nat) : List Int :=
  (incidentCells nx ny nz i j k).map fun t => eid (gridElem nx ny t.2.2 t.2.1 t.1)

theorem incidentElems_nodup (nx ny nz : Nat) (eid : Nat → Int) (he : Function.Injective eid) (i j k : Nat) :
    (incidentElems nx ny nz eid i j k).Nodup := by
  apply List.Nodup.map_on _ (incidentCells_nodup nx ny nz i j k)
  rintro ⟨c, b, a⟩ h ⟨c', b', a'⟩ h' heq
  rw [mem_incidentCells] at h h'
  simp only at h h' heq
  obtain ⟨h1, h2, h3⟩ := gridElem_inj nx ny a b c a' b' c' h.2.2.1 h.2.1.1 h'.2.2.1 h'.2.1.1 (he heq)
  subst h1 h2 h3
  rfl

theorem incidentElems_length (nx ny nz : Nat) (eid : Nat → Int) (i j k : Nat) :
    (incidentElems nx ny nz eid i j k).length = incidentCount nx ny nz i j k := by
  simp only [incidentElems, List.length_map, incidentCells_length]

theorem mem_rows_of_node (nx ny nz : Nat) (nid eid : Nat → Int) (hn : Function.Injective nid)
    (i j k : Nat) (hi : i ≤ nx) (hj : j ≤ ny) (e : Int) :
    e ∈ ((blockRows nx ny nz nid eid).filter (·.1 == nid (gridNode nx ny i j k))).map (·.2) ↔
      e ∈ incidentElems nx ny nz eid i j k := by
  simp only [List.mem_map, List.mem_filter, mem_blockRows, incidentElems, mem_incidentCells, beq_iff_eq]
  constructor
  · rintro ⟨⟨n, e'⟩, ⟨⟨c, hc, b, hb, a, ha, i', j', k', hi', hj', hk', hr⟩, hnode⟩, rfl⟩
    obtain ⟨rfl, rfl⟩ := Prod.mk.inj hr
    obtain ⟨rfl, rfl, rfl⟩ := gridNode_inj nx ny i' j' k' i j k (by omega) (by omega) hi hj (hn hnode)
    refine ⟨(c, b, a), ?_, rfl⟩
    simp only
    omega
  · rintro ⟨⟨c, b, a⟩, ⟨⟨hc, hck⟩, ⟨hb, hbj⟩, ⟨ha, hai⟩⟩, rfl⟩
    simp only at hc hck hb hbj ha hai
    exact ⟨(nid (gridNode nx ny i j k), eid (gridElem nx ny a b c)),
      ⟨⟨c, hc, b, hb, a, ha, i, j, k, by omega, by omega, by omega, rfl⟩, rfl⟩, rfl⟩

theorem blockRows_incident (nx ny nz : Nat) (nid eid : Nat → Int)
    (hn : Function.Injective nid) (he : Function.Injective eid) (i j k : Nat) (hi : i ≤ nx) (hj : j ≤ ny) :
    (sortedUnique (((blockRows nx ny nz nid eid).filter (·.1 == nid (gridNode nx ny i j k))).map (·.2))).length
      = incidentCount nx ny nz i j k := by
  rw [sortedUnique_length_eq_of_nodup _ _ (incidentElems_nodup nx ny nz eid he i j k)
    (mem_rows_of_node nx ny nz nid eid hn i j k hi hj), incidentElems_length]

theorem axisCount_eq (n i : Nat) :
    axisCount n i = (if i < n then 1 else 0) + (if 1 ≤ i ∧ i ≤ n then 1 else 0) := by
  unfold axisCount
  induction n with
  | zero => simp; omega
  | succ n ih =>
    rw [List.range_succ, List.filter_append, List.length_append, ih]
    by_cases h1 : n = i
    · subst h1; simp; split_ifs <;> omega
    · by_cases h2 : n + 1 = i
      · subst h2; simp
      · simp [h1, h2]; split_ifs <;> omega

theorem axisCount_le_two (n i : Nat) : axisCount n i ≤ 2 := by
  rw [axisCount_eq]; split_ifs <;> omega

theorem axisCount_eq_two_iff (n i : Nat) : axisCount n i = 2 ↔ 0 < i ∧ i < n := by
  rw [axisCount_eq]; split_ifs <;> omega

theorem incidentCount_le (nx ny nz i j k : Nat) : incidentCount nx ny nz i j k ≤ 8 := by
  unfold incidentCount
  calc axisCount nx i * axisCount ny j * axisCount nz k ≤ 2 * 2 * 2 :=
        Nat.mul_le_mul (Nat.mul_le_mul (axisCount_le_two _ _) (axisCount_le_two _ _)) (axisCount_le_two _ _)
    _ = 8 := rfl

/-- Eight elements meet exactly at the interior nodes. -/
theorem incidentCount_eq_eight_iff (nx ny nz i j k : Nat) :
    incidentCount nx ny nz i j k = 8 ↔ (0 < i ∧ i < nx) ∧ (0 < j ∧ j < ny) ∧ (0 < k ∧ k < nz) := by
  rw [← axisCount_eq_two_iff, ← axisCount_eq_two_iff, ← axisCount_eq_two_iff]
  unfold incidentCount
  have hx := axisCount_le_two nx i
  have hy := axisCount_le_two ny j
  have hz := axisCount_le_two nz k
  generalize axisCount nx i = x at *
  generalize axisCount ny j = y at *
  generalize axisCount nz k = z at *
  constructor
  · intro h
    interval_cases x <;> interval_cases y <;> interval_cases z <;> omega
  · rintro ⟨rfl, rfl, rfl⟩; rfl

theorem mem_surfaceFlags (rows : List (Int × Int)) (id : Int) (b : Bool) :
    (id, b) ∈ surfaceFlags rows ↔
      id ∈ rows.map (·.1) ∧ b = decide ((sortedUnique ((rows.filter (·.1 == id)).map (·.2))).length < 8) := by
  simp only [surfaceFlags, List.mem_map, mem_sortedUnique, Prod.mk.injEq]
  constructor
  · rintro ⟨id', ⟨r, hr, rfl⟩, rfl, rfl⟩
    exact ⟨⟨r, hr, rfl⟩, rfl⟩
  · rintro ⟨⟨r, hr, rfl⟩, rfl⟩
    exact ⟨r.1, ⟨r, hr, rfl⟩, rfl, rfl⟩

/-- The flags do not depend on the order of the rows: `np.unique` of the node ids and of each node's element ids does not. -/
theorem surfaceFlags_perm (rows rows' : List (Int × Int)) (h : rows.Perm rows') :
    surfaceFlags rows = surfaceFlags rows' := by
  unfold surfaceFlags
  rw [sortedUnique_congr _ _ fun x => (h.map _).mem_iff]
  exact List.map_congr_left fun id _ => by
    rw [sortedUnique_congr _ _ fun x => ((h.filter _).map _).mem_iff]

/-- The model's surface flags on a block mesh, rows in ANY order: the node at grid position (i,j,k) is flagged
iff it is not interior. -/
theorem surfaceFlags_block (nx ny nz : Nat) (nid eid : Nat → Int)
    (hn : Function.Injective nid) (he : Function.Injective eid)
    (rows : List (Int × Int)) (hperm : rows.Perm (blockRows nx ny nz nid eid))
    (i j k : Nat) (hi : i ≤ nx) (hj : j ≤ ny) (b : Bool)
    (hmem : (nid (gridNode nx ny i j k), b) ∈ surfaceFlags rows) :
    b = true ↔ ¬ ((0 < i ∧ i < nx) ∧ (0 < j ∧ j < ny) ∧ (0 < k ∧ k < nz)) := by
  rw [surfaceFlags_perm _ _ hperm] at hmem
  obtain ⟨_, hb⟩ := (mem_surfaceFlags _ _ b).1 hmem
  rw [blockRows_incident nx ny nz nid eid hn he i j k hi hj] at hb
  rw [← incidentCount_eq_eight_iff, hb, decide_eq_true_eq]
  have := incidentCount_le nx ny nz i j k
  omega

/-- every grid node of a block with at least one cell per axis has a row in the result -/
theorem surfaceFlags_block_covers (nx ny nz : Nat) (nid eid : Nat → Int)
    (rows : List (Int × Int)) (hperm : rows.Perm (blockRows nx ny nz nid eid))
    (hx : 0 < nx) (hy : 0 < ny) (hz : 0 < nz)
    (i j k : Nat) (hi : i ≤ nx) (hj : j ≤ ny) (hk : k ≤ nz) :
    ∃ b, (nid (gridNode nx ny i j k), b) ∈ surfaceFlags rows := by
  rw [surfaceFlags_perm _ _ hperm]
  refine ⟨_, (mem_surfaceFlags _ _ _).2 ⟨?_, rfl⟩⟩
  -- a cell that has the node as a corner
  refine List.mem_map.2 ⟨(nid (gridNode nx ny i j k), eid (gridElem nx ny (min i (nx - 1)) (min j (ny - 1))
    (min k (nz - 1)))), ?_, rfl⟩
  rw [mem_blockRows]
  exact ⟨min k (nz - 1), by omega, min j (ny - 1), by omega, min i (nx - 1), by omega, i, j, k, by omega, by omega,
    by omega, rfl⟩

/-- The result has no other rows: every id in it is the id of a grid node. -/
theorem surfaceFlags_block_ids (nx ny nz : Nat) (nid eid : Nat → Int)
    (rows : List (Int × Int)) (hperm : rows.Perm (blockRows nx ny nz nid eid))
    (id : Int) (b : Bool) (hmem : (id, b) ∈ surfaceFlags rows) :
    ∃ i j k, i ≤ nx ∧ j ≤ ny ∧ k ≤ nz ∧ id = nid (gridNode nx ny i j k) := by
  rw [surfaceFlags_perm _ _ hperm] at hmem
  obtain ⟨hid, _⟩ := (mem_surfaceFlags _ _ b).1 hmem
  obtain ⟨r, hr, rfl⟩ := List.mem_map.1 hid
  rw [mem_blockRows] at hr
  obtain ⟨c, hc, b', hb, a, ha, i, j, k, hi, hj, hk, rfl⟩ := hr
  exact ⟨i, j, k, by omega, by omega, by omega, rfl⟩

/-- A 2×2×2 block with node ids `3 n + 7` and element ids `100 − e` (descending!): 27 nodes, exactly one of them
(the centre, grid number 13, id 46) is not flagged. -/
example :
    (surfaceFlags (blockRows 2 2 2 (fun n => 3 * (n : Int) + 7) (fun e => 100 - (e : Int)))).length = 27 ∧
    (surfaceFlags (blockRows 2 2 2 (fun n => 3 * (n : Int) + 7) (fun e => 100 - (e : Int)))).filter (!·.2)
      = [(46, false)] ∧ gridNode 2 2 1 1 1 = 13 := by
  decide +kernel

example :
    surfaceFlags (blockRows 2 2 2 (fun n => 3 * (n : Int) + 7) (fun e => 100 - (e : Int))).reverse
      = surfaceFlags (blockRows 2 2 2 (fun n => 3 * (n : Int) + 7) (fun e => 100 - (e : Int))) :=
  surfaceFlags_perm _ _ (List.reverse_perm _)

theorem nid_example_inj : Function.Injective (fun n : Nat => 3 * (n : Int) + 7) := by
  intro a b h; simp only at h; omega

theorem eid_example_inj : Function.Injective (fun e : Nat => 100 - (e : Int)) := by
  intro a b h; simp only at h; omega

/-- `surfaceFlags_block` instantiated: reversed rows of a 3×2×4 block; the node (1,1,2) is interior, the node
(3,1,2) is not, whatever Boolean the result carries for them. -/
example (b : Bool)
    (h : ((fun n : Nat => 3 * (n : Int) + 7) (gridNode 3 2 1 1 2), b) ∈
      surfaceFlags (blockRows 3 2 4 (fun n => 3 * (n : Int) + 7) (fun e => 100 - (e : Int))).reverse) :
    b = false := by
  have := surfaceFlags_block 3 2 4 _ _ nid_example_inj eid_example_inj _ (List.reverse_perm _) 1 1 2
    (by omega) (by omega) b h
  cases b
  · rfl
  · exact absurd (this.1 rfl) (by omega)

example (b : Bool)
    (h : ((fun n : Nat => 3 * (n : Int) + 7) (gridNode 3 2 3 1 2), b) ∈
      surfaceFlags (blockRows 3 2 4 (fun n => 3 * (n : Int) + 7) (fun e => 100 - (e : Int))).reverse) :
    b = true :=
  (surfaceFlags_block 3 2 4 _ _ nid_example_inj eid_example_inj _ (List.reverse_perm _) 3 1 2
    (by omega) (by omega) b h).2 (by omega)

/-- and such rows exist (`surfaceFlags_block_covers`) -/
example : ∃ b, ((fun n : Nat => 3 * (n : Int) + 7) (gridNode 3 2 1 1 2), b) ∈
    surfaceFlags (blockRows 3 2 4 (fun n => 3 * (n : Int) + 7) (fun e => 100 - (e : Int))).reverse :=
  surfaceFlags_block_covers 3 2 4 _ _ _ (List.reverse_perm _) (by omega) (by omega) (by omega) 1 1 2
    (by omega) (by omega) (by omega)

end PylifeVerif.Mesh
