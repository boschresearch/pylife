/-
Property C15: the integral that `pf_norm_load` really evaluates is taken over a finite WINDOW of the standardised load
variable (`t ∈ [-16, 16]` by default) and, in its complement branch, as `Φ(u) − Φ(l) − ∫ pdf · sf`, which is the same
integral (`window_sf_identity`).  A window integral lies below the whole-line value by at most the load's mass outside the
window (`window_truncation_affine`: for a load of any median and scatter; the standardised variable and the load variable
itself are instances); for the default window that mass is bounded explicitly (`stdNormalCdf_neg16_lt`).
-/
import Proofs.Lemmas.GaussianDensity
import Mathlib.Probability.Moments.Basic
import Mathlib.Analysis.Complex.ExponentialBounds

namespace PylifeVerif.GaussianOverlap

open MeasureTheory ProbabilityTheory

theorem continuous_integrand (Δ ss ls : ℝ) :
    Continuous fun t : ℝ => normPdf 1 t * stdNormalCdf ((ls * t - Δ) / ss) :=
  (continuous_normPdf 1).mul (stdNormalCdf_continuous.comp (by fun_prop))

/-- whole-line overlap integral in the standardised load variable `t = x / ls` (as an identity it holds for every real `ls`) -/
theorem gaussian_overlap_standardised (Δ ss ls : ℝ) (hss : 0 < ss) :
    ∫ t, normPdf 1 t * stdNormalCdf ((ls * t - Δ) / ss) = stdNormalCdf (-Δ / Real.sqrt (ls ^ 2 + ss ^ 2)) := by
  simpa only [sub_zero, mul_zero, zero_sub, one_pow, mul_one] using gaussian_overlap 0 1 ls Δ ss one_pos hss

example : ∫ t, normPdf 1 t * stdNormalCdf ((0.1 * t - 0.1) / 0.05)
    = stdNormalCdf (-0.1 / Real.sqrt (0.1 ^ 2 + 0.05 ^ 2)) :=
  gaussian_overlap_standardised 0.1 0.05 0.1 (by norm_num)

/-- the complement branch of `pf_norm_load`: window mass minus the integral over the survival function is the integral
over the distribution function (no hypothesis on the parameters) -/
theorem window_sf_identity (Δ ss ls l u : ℝ) :
    (stdNormalCdf u - stdNormalCdf l) - ∫ t in l..u, normPdf 1 t * (1 - stdNormalCdf ((ls * t - Δ) / ss))
      = ∫ t in l..u, normPdf 1 t * stdNormalCdf ((ls * t - Δ) / ss) := by
  simp_rw [mul_one_sub]
  rw [intervalIntegral.integral_sub ((continuous_normPdf 1).intervalIntegrable _ _)
    ((continuous_integrand Δ ss ls).intervalIntegrable _ _), integral_normPdf_one, sub_sub_cancel]

example : (stdNormalCdf 16 - stdNormalCdf (-16))
      - ∫ t in (-16:ℝ)..16, normPdf 1 t * (1 - stdNormalCdf ((0.1 * t - (-0.1)) / 0.05))
    = ∫ t in (-16:ℝ)..16, normPdf 1 t * stdNormalCdf ((0.1 * t - (-0.1)) / 0.05) :=
  window_sf_identity (-0.1) 0.05 0.1 (-16) 16

/-- a weight in `[0, 1]` integrated against a probability measure: leaving out the complement of `S` costs at most
its mass -/
theorem integral_sub_setIntegral_mem {μ : Measure ℝ} [IsProbabilityMeasure μ] {g : ℝ → ℝ} (hg : Measurable g)
    (h01 : ∀ y, g y ∈ Set.Icc (0 : ℝ) 1) {S : Set ℝ} (hS : MeasurableSet S) :
    ∫ y, g y ∂μ - ∫ y in S, g y ∂μ ∈ Set.Icc 0 (μ.real Sᶜ) := by
  have hint : Integrable g μ := .of_mem_Icc 0 1 hg.aemeasurable (ae_of_all _ h01)
  rw [← integral_add_compl hS hint, add_sub_cancel_left]
  refine ⟨setIntegral_nonneg hS.compl fun y _ => (h01 y).1, ?_⟩
  refine (setIntegral_mono hint.integrableOn (integrable_const 1).integrableOn fun y => (h01 y).2).trans_eq ?_
  rw [setIntegral_const, smul_eq_mul, mul_one]

theorem gaussianReal_compl_Ioc (m : ℝ) {v : NNReal} (hv : v ≠ 0) {a b : ℝ} (hab : a ≤ b) :
    (gaussianReal m v).real (Set.Ioc a b)ᶜ
      = stdNormalCdf ((a - m) / Real.sqrt v) + stdNormalCdf (-((b - m) / Real.sqrt v)) := by
  rw [Set.compl_Ioc, measureReal_union (Set.Iic_disjoint_Ioi hab) measurableSet_Ioi, ← Set.compl_Iic,
    probReal_compl_eq_one_sub measurableSet_Iic, gaussianReal_Iic m hv, gaussianReal_Iic m hv, stdNormalCdf_neg]

/-- truncation of the overlap integral to a window `[a, b]` of the load variable: the window integral is below the
whole-line value by at most the load's probability mass outside the window -/
theorem window_truncation_affine (m σ c d s a b : ℝ) (hσ : 0 < σ) (hs : 0 < s) (hab : a ≤ b) :
    stdNormalCdf ((c * m - d) / Real.sqrt (c ^ 2 * σ ^ 2 + s ^ 2))
        - ∫ y in a..b, normPdf σ (y - m) * stdNormalCdf ((c * y - d) / s)
      ∈ Set.Icc 0 (stdNormalCdf ((a - m) / σ) + stdNormalCdf (-((b - m) / σ))) := by
  have h := integral_sub_setIntegral_mem (μ := gaussianReal m (.mk (σ ^ 2) (sq_nonneg σ)))
    (g := fun y => stdNormalCdf ((c * y - d) / s)) (stdNormalCdf_measurable.fun_comp (by fun_prop))
    (fun _ => ⟨stdNormalCdf_nonneg _, stdNormalCdf_le_one _⟩) (measurableSet_Ioc (a := a) (b := b))
  rwa [← integral_normPdf_mul hσ, gaussian_overlap m σ c d s hσ hs, ← intervalIntegral_normPdf_mul hσ _ _ hab,
    gaussianReal_compl_Ioc _ (nnreal_sq_ne_zero hσ) hab, NNReal.coe_mk, Real.sqrt_sq hσ.le] at h

/-- the window `[l, u]` of the standardised load variable (what `pf_norm_load` integrates over) -/
theorem window_truncation (Δ ss ls l u : ℝ) (hss : 0 < ss) (hlu : l ≤ u) :
    0 ≤ stdNormalCdf (-Δ / Real.sqrt (ls ^ 2 + ss ^ 2))
          - ∫ t in l..u, normPdf 1 t * stdNormalCdf ((ls * t - Δ) / ss) ∧
    stdNormalCdf (-Δ / Real.sqrt (ls ^ 2 + ss ^ 2))
          - ∫ t in l..u, normPdf 1 t * stdNormalCdf ((ls * t - Δ) / ss) ≤ stdNormalCdf l + stdNormalCdf (-u) := by
  simpa only [sub_zero, mul_zero, zero_sub, one_pow, mul_one, div_one, Set.mem_Icc]
    using window_truncation_affine 0 1 ls Δ ss l u one_pos hss hlu

example := window_truncation 0.1 0.05 0.1 (-16) 16 (by norm_num) (by norm_num)

theorem window_integral_mem (Δ ss ls : ℝ) {l u : ℝ} (hlu : l ≤ u) :
    0 ≤ ∫ t in l..u, normPdf 1 t * stdNormalCdf ((ls * t - Δ) / ss) ∧
    ∫ t in l..u, normPdf 1 t * stdNormalCdf ((ls * t - Δ) / ss) ≤ stdNormalCdf u - stdNormalCdf l := by
  have hp := normPdf_nonneg zero_le_one
  refine ⟨intervalIntegral.integral_nonneg hlu fun t _ => mul_nonneg (hp t) (stdNormalCdf_nonneg _), ?_⟩
  rw [← integral_normPdf_one]
  exact intervalIntegral.integral_mono_on hlu ((continuous_integrand _ _ _).intervalIntegrable _ _)
    ((continuous_normPdf 1).intervalIntegrable _ _) fun t _ => mul_le_of_le_one_right (hp t) (stdNormalCdf_le_one _)

/-- the load variable itself (log10 units): load `N(l50, ls²)`, strength `N(s50, ss²)`, window `[a, b]` -/
theorem window_truncation_loc (l50 ls s50 ss a b : ℝ) (hss : 0 < ss) (hls : 0 < ls) (hab : a ≤ b) :
    0 ≤ stdNormalCdf (-(s50 - l50) / Real.sqrt (ls ^ 2 + ss ^ 2))
          - ∫ y in a..b, normPdf ls (y - l50) * stdNormalCdf ((y - s50) / ss) ∧
    stdNormalCdf (-(s50 - l50) / Real.sqrt (ls ^ 2 + ss ^ 2))
          - ∫ y in a..b, normPdf ls (y - l50) * stdNormalCdf ((y - s50) / ss)
      ≤ stdNormalCdf ((a - l50) / ls) + stdNormalCdf (-((b - l50) / ls)) := by
  simpa only [one_mul, one_pow, neg_sub, Set.mem_Icc] using window_truncation_affine l50 ls 1 s50 ss a b hls hss hab

example := window_truncation_loc 0 0.1 0.1 0.05 (-1.6) 1.6 (by norm_num) (by norm_num) (by norm_num)

/-- Chernoff bound for the Gaussian tail -/
theorem stdNormalCdf_neg_le_exp {x : ℝ} (hx : 0 ≤ x) : stdNormalCdf (-x) ≤ Real.exp (-(x ^ 2) / 2) := by
  have h := measure_le_le_exp_mul_mgf (X := id) (μ := gaussianReal 0 1) (t := -x) (-x) (by linarith)
    (integrable_exp_mul_gaussianReal (-x))
  rw [mgf_id_gaussianReal, ← Real.exp_add] at h
  have e : -(-x) * (-x) + (0 * (-x) + ((1 : NNReal) : ℝ) * (-x) ^ 2 / 2) = -(x ^ 2) / 2 := by
    simp only [NNReal.coe_one]; ring
  rw [e] at h
  exact h

example : stdNormalCdf (-3) ≤ Real.exp (-(3 ^ 2) / 2) := stdNormalCdf_neg_le_exp (by norm_num)

/-- the mass neglected by the default window on each side -/
theorem stdNormalCdf_neg16_lt : stdNormalCdf (-16) < 1e-55 := by
  have h := stdNormalCdf_neg_le_exp (x := 16) (by norm_num)
  have e : Real.exp (-((16:ℝ) ^ 2) / 2) = (Real.exp 1)⁻¹ ^ 128 := by
    rw [← Real.exp_neg, ← Real.exp_nat_mul]
    norm_num
  have h1 : (Real.exp 1)⁻¹ < (2.7 : ℝ)⁻¹ :=
    inv_strictAnti₀ (by norm_num) ((by norm_num : (2.7 : ℝ) < 2.7182818283).trans Real.exp_one_gt_d9)
  calc stdNormalCdf (-16) ≤ (Real.exp 1)⁻¹ ^ 128 := e ▸ h
    _ < ((2.7 : ℝ)⁻¹) ^ 128 := pow_lt_pow_left₀ h1 (inv_nonneg.2 (Real.exp_pos 1).le) (by norm_num)
    _ < 1e-55 := by norm_num

end PylifeVerif.GaussianOverlap
