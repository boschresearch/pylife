/-
The detector model projected to loads is the load-only machine of `HCMPass2Abs.lean` (simulation),
whatever the notch law.
-/
import Proofs.Lemmas.HCMPass2Abs
import Proofs.C04Basic

namespace PylifeVerif.C04
open PylifeVerif.Rainflow PylifeVerif.HCM PylifeVerif.HCM.Spec PylifeVerif.HCM.Insert

def range (h : Hyst) : Int × Int := (rep h.loadMin, rep h.loadMax)

def loadsOfRes (res : List HPoint) : List Int := res.map fun p => rep p.load

theorem range_closed (st : State) (p0 p1 : HPoint) :
    range (closedHyst st p0 p1) =
      (min (rep p0.load) (rep p1.load), max (rep p0.load) (rep p1.load)) := by
  simp only [range, closedHyst, if_true, Bool.false_eq_true, if_false]
  refine Prod.ext ?_ ?_
  · simp only []
    split <;> omega
  · simp only []
    split <;> omega

theorem ranges_newRecs (st : State) (v : Verdict HPoint) :
    (newRecs st v).map range = ranges (v.map fun p => rep p.load) ∧ ∀ h ∈ newRecs st v, h.run = st.run := by
  obtain ⟨cl, rest, o⟩ := v
  have hcl : (cl.map fun q => closedHyst st q.1 q.2).map range =
      (cl.map (Prod.map (fun p => rep p.load) fun p => rep p.load)).map fun q => (min q.1 q.2, max q.1 q.2) := by
    rw [List.map_map, List.map_map]
    exact List.map_congr_left fun q _ => range_closed st q.1 q.2
  refine ⟨?_, List.forall_mem_append.mpr ⟨fun h hh => ?_, ?_⟩⟩
  · unfold newRecs ranges
    rw [List.map_append, hcl]
    cases o <;> simp only [Verdict.map, Outcome.map, List.map_cons, List.map_nil, range, halfHyst, rep_vabs,
      rep_vneg]
  · obtain ⟨q, -, rfl⟩ := List.mem_map.mp hh
    rfl
  · cases o <;> first | exact fun _ hh => absurd hh List.not_mem_nil | exact List.forall_mem_singleton.mpr rfl

def absOf (st : State) : AState := ⟨loadsOfRes st.res, st.ir, st.loadMax⟩

/-- The model goes from `st` to `st'` while the load-only machine goes from `absOf st` to `r.2`
emitting `r.1`: the records added carry the run number `n` and project to the emitted ranges. -/
def Sim (st st' : State) (r : List (Int × Int) × AState) (n : Nat) : Prop :=
  absOf st' = r.2 ∧ Inv st' ∧ st'.run = n ∧
  ∃ new, st'.recs = st.recs ++ new ∧ (∀ h ∈ new, h.run = n) ∧ new.map range = r.1

/-- One turning point: the model follows the load-only machine, since the verdict on the residuals projects to
the verdict on their loads. -/
theorem sim_turn (law : Law) (st : State) (pl : Int) (load : Vec) (hi : Inv st) :
    Sim st (turnStep law (st, pl) load).1 (aStep (absOf st) (rep load)) st.run := by
  have hv := verdict_map (fun p : HPoint => rep p.load) (rep load) st.ir st.loadMax (fun p => rep p.load) id
    (rep load) st.loadMax st.res (fun _ _ _ _ => Iff.rfl) Iff.rfl
  obtain ⟨r1, r2⟩ := ranges_newRecs { st with fed := st.fed ++ [(st.run, load)] } (st.verdict load)
  unfold Sim aStep absOf loadsOfRes
  rw [turnStep_stages, afterSample_eq, placeSample_eq law st load hi, aLoop, hv]
  unfold updateLF
  split <;>
    exact ⟨by simp only [place, noteStrain, newPoint_load, Verdict.ir_map, List.map_cons]; rfl,
      ⟨List.length_cons.symm, Nat.le_trans hi.2 (Verdict.le_ir _ _)⟩, rfl, _, rfl, r2, r1⟩

theorem sim_fold (law : Law) (xs : List Int) : ∀ (st : State) (pl : Int), Inv st →
    Sim st ((one xs).foldl (turnStep law) (st, pl)).1 (aRun (absOf st) xs) st.run := by
  induction xs with
  | nil => intro st pl hiz; exact ⟨rfl, hiz, rfl, [], by simp [one], by simp, rfl⟩
  | cons x xs ih =>
    intro st pl hiz
    obtain ⟨t1, t2, t3, new1, t4, t5, t6⟩ := sim_turn law st pl [x] hiz
    have e : (one (x :: xs)).foldl (turnStep law) (st, pl) =
        (one xs).foldl (turnStep law) ((turnStep law (st, pl) [x]).1, (turnStep law (st, pl) [x]).2) := rfl
    obtain ⟨i1, i2, i3, new2, i4, i5, i6⟩ := ih (turnStep law (st, pl) [x]).1 (turnStep law (st, pl) [x]).2 t2
    rw [e]
    have hr : rep [x] = x := rfl
    rw [hr] at t1 t6
    refine ⟨?_, i2, by rw [i3, t3], new1 ++ new2, ?_, ?_, ?_⟩
    · rw [i1, t1]; rfl
    · rw [i4, t4]; simp
    · intro h hh
      rcases List.mem_append.1 hh with hh | hh
      · exact t5 h hh
      · rw [← t3]; exact i5 h hh
    · rw [List.map_append, t6, i6, t1]; rfl

theorem sim_feed (law : Law) (st : State) (xs : List Int) (hi : Inv st) :
    Sim st (feed law st 1 (one xs)) (aRun (absOf st) xs) (st.run + 1) := by
  obtain ⟨q1, q2, q3, q4, q5, q6⟩ := prep_fields st 1
  have ha : absOf (prep st 1) = absOf st := by unfold absOf; rw [q3, q4, q5]
  obtain ⟨f1, f2, f3, new, f4, f5, f6⟩ := sim_fold law xs (prep st 1) st.prevLoad
    (by unfold HCM.Inv; rw [q2, q3, q4]; exact hi)
  rw [ha] at f1 f6
  rw [q6] at f3 f5
  rw [q1] at f4
  exact ⟨f1, f2, f3, new, f4, f5, f6⟩

/-- The `(min, max)` load ranges recorded in pass 2 are
the ranges that the load-only machine emits in pass 2 – for every notch law. -/
theorem pass2Ranges_feed (law : Law) (F1 F2 : List Int) :
    pass2Ranges (feed law (feed law {} 1 (one F1)) 1 (one F2)) = (aRun (aRun aInit F1).2 F2).1 := by
  obtain ⟨a1, a2, a3, new1, a4, a5, a6⟩ := sim_feed law {} F1 Inv.init
  obtain ⟨b1, b2, b3, new2, b4, b5, b6⟩ := sim_feed law (feed law {} 1 (one F1)) F2 a2
  have e0 : absOf ({} : State) = aInit := rfl
  rw [e0] at a1
  rw [a1] at b6
  rw [a3] at b5
  unfold pass2Ranges
  rw [b4, a4, List.filter_append, List.filter_append]
  have h1 : new1.filter (fun h => decide (h.run = 2)) = [] := by
    rw [List.filter_eq_nil_iff]
    intro h hh
    have := a5 h hh
    simp [this]
  have h2 : new2.filter (fun h => decide (h.run = 2)) = new2 := by
    rw [List.filter_eq_self]
    intro h hh
    have := b5 h hh
    simp [this]
  have h0 : (({} : State).recs).filter (fun h => decide (h.run = 2)) = [] := rfl
  rw [h0, h1, h2, ← b6]
  rfl

end PylifeVerif.C04
