/-
Bridge between the GENERATED material-law definitions (Generated/MaterialLaws.lean, translated from the
Python source) at `α := ℝ` and (a) the clean real functions of Proofs/Lemmas/MaterialLaws.lean (`curve`, `compl`) for
Ramberg-Osgood, `Real.log` / field expressions for the `true_*` functions, (b) the hand-written textbook model
Model/MaterialLaws.lean for Hooke's law (for Ramberg-Osgood and `true_*` the step from (a) to the textbook model is made in
`C16.translated_eq_hand_model`).  Besides the interface lemmas the file holds the real algebra of the Hooke classes: the side
conditions `HookeSide`, the plane formulas with the elastic constants as variables and their round trip.

Every property theorem of Proofs/C16.lean goes through the interface lemmas of THIS file and never unfolds a generated
definition itself; `ro_delta_strain_eq` and `hooke_init_guard_iff` are stated there again as property theorems
(`masing_delta_is_doubled`, `hooke_init_guard`).  The interface lemmas are proved by `gen_bridge` (the two Bool guards and
`true_fracture_strain_eq` by scripts of their own after the same unfolding):
  * `unfold_generated_material_laws` (regenerated together with the module) unfolds EVERY generated definition, so the
    proofs do not name helper methods / locals that a refactoring may add, rename or inline;
  * `gen_real`: `np_log1p` / `np_expm1` / `py_max` / `py_min` are rewritten to their real meaning, the literals `1.0`, `2.0`,
    `3.0` to numerals (`lit_one`, `lit_two`, `lit_three`; any other literal is left to the `norm_num` alternatives of `gen_leaf`),
    `x ^ (2:ℝ)` becomes `x ^ 2`;
  * what remains must be an identity of fields: `ring1`, `ring_nf` (normalises inside `rpow` / `log` / `abs` atoms as
    well), `field_simp` with the side conditions in scope.
So a HARMLESS respelling of the source (`np.log1p(x)` for `np.log(1. + x)`, `x ** 2` / `np.square(x)` / `x * x`,
`(…) / E` for `1. / E * (…)`, re-ordered summands and factors, extra local temporaries, inlined or added helpers,
`0.5 * E / (1 + nu)` for `E / (2. * (1 + nu))`) keeps every theorem of C16 provable, while a changed coefficient,
sign, exponent or guard does not.
-/
import Proofs.Lemmas.MaterialLaws
import Proofs.Lemmas.GeneratedPrelude
import Generated.MaterialLaws
import Generated.MaterialLawsUnfold
import Model.MaterialLaws

-- the alternatives after `first` and the `try`s are there for other spellings of the translated source;
-- on the current source some of them are not reached
set_option linter.unusedTactic false
set_option linter.unreachableTactic false

namespace PylifeVerif.C16L
open PylifeVerif.Generated PylifeVerif.MaterialLaws

/-- one scalar identity of fields, whatever the spelling -/
macro "gen_leaf" : tactic => `(tactic| first
  | rfl
  | ring1
  | (field_simp; first | done | ring1 | (ring_nf; done))
  | (ring_nf; done)
  | (norm_num; first | done | ring1 | (ring_nf; done) | (field_simp; first | done | ring1 | (ring_nf; done)))
  | (congr 1; ring_nf; done)
  | (norm_num; congr 1; ring_nf; done)
  | (congr 1 <;> ring_nf <;> done)
  | (congr 2 <;> ring_nf <;> done))

/-- real meaning of the transcendental symbols and of the prelude helpers -/
macro "gen_real" : tactic => `(tactic| simp only [rsign_eq, transc_abs, transc_pow, transc_log, transc_exp, transc_sqrt,
  np_log1p_real, np_expm1_real, py_max_real, py_min_real, Real.rpow_two, Real.rpow_natCast, lit_one, lit_two, lit_three,
  Prod.mk.injEq])

/-- generated definition(s) = hand-written expression: unfold everything generated, give the symbols their real
meaning, split tuples into components, close every component as an identity of fields -/
macro "gen_bridge" : tactic => `(tactic|
  ((try unfold_generated_material_laws) <;> (try gen_real) <;> (repeat' apply And.intro) <;> gen_leaf))

theorem ro_strain_eq_curve (E K n : ℝ) : RambergOsgood.strain E K n = curve E K (1 / n) := by
  funext σ
  simp only [curve, plast]
  gen_bridge

theorem ro_compliance_eq_compl (E K n σ : ℝ) :
    RambergOsgood.tangential_compliance E K n σ = compl E K (1 / n) σ := by
  simp only [compl]
  gen_bridge

theorem ro_modulus_eq (E K n σ : ℝ) :
    RambergOsgood.tangential_modulus E K n σ = (RambergOsgood.tangential_compliance E K n σ)⁻¹ := by
  gen_bridge

theorem ro_delta_strain_eq (E K n Δσ : ℝ) :
    RambergOsgood.delta_strain E K n Δσ = 2 * RambergOsgood.strain E K n (Δσ / 2) := by
  gen_bridge

theorem ro_delta_stress_eq (E K n : ℝ) (f : ℝ → ℝ) (Δε : ℝ) :
    RambergOsgood.delta_stress E K n f Δε = 2 * f (Δε / 2) := by
  gen_bridge

theorem ro_lower_hysteresis_eq (E K n σ σmax : ℝ) :
    RambergOsgood.lower_hysteresis E K n σ σmax
      = RambergOsgood.strain E K n σmax - RambergOsgood.delta_strain E K n (σmax - σ) := by
  gen_bridge

theorem ro_lower_hysteresis_guard (E K n σ σmax : ℝ) :
    RambergOsgood.lower_hysteresis_raises E K n σ σmax = false ↔ σ ≤ σmax := by
  unfold_generated_material_laws
  first
    | (simp; done)
    | (norm_num; done)
    | (simp; constructor <;> intro h <;> linarith)

theorem hooke1d_stress_eq (E x : ℝ) : HookesLaw1d.stress E x = hooke1dStress E x := by
  simp only [hooke1dStress]; gen_bridge

theorem hooke1d_strain_eq (E x : ℝ) : HookesLaw1d.strain E x = hooke1dStrain E x := by
  simp only [hooke1dStrain]; gen_bridge

/-- the side conditions of the Hooke bridges: E ≠ 0, 1 + ν ≠ 0, 1 - ν ≠ 0, 1 - 2ν ≠ 0 in the spellings `field_simp` may meet
(`hp'`, `hm'`: `1 ± ν'` for the plane-strain constant `ν' = ν/(1−ν)`) -/
structure HookeSide (E nu : ℝ) : Prop where
  hE : E ≠ 0
  hp : 1 + nu ≠ 0
  hm : 1 - nu ≠ 0
  h2 : 1 - 2 * nu ≠ 0
  h2' : 1 - nu * 2 ≠ 0
  hsq : 1 - nu ^ 2 ≠ 0
  hsq' : 1 - nu * nu ≠ 0
  hdsq : (1 - nu) ^ 2 - nu ^ 2 ≠ 0
  hm' : 1 - nu / (1 - nu) ≠ 0
  hp' : 1 + nu / (1 - nu) ≠ 0
  h2'' : 1 - nu - nu ≠ 0
  hG : shearModulus E nu ≠ 0

theorem one_sub_sq_ne_zero {x : ℝ} (hp : 1 + x ≠ 0) (hm : 1 - x ≠ 0) : 1 - x ^ 2 ≠ 0 := by
  rw [← one_pow 2, sq_sub_sq]; exact mul_ne_zero hp hm

theorem hookeSide {E nu : ℝ} (hE : 0 < E) (h1 : -1 < nu) (h2 : nu < 1 / 2) : HookeSide E nu := by
  have hp : 1 + nu ≠ 0 := by linarith
  have hm : 1 - nu ≠ 0 := by linarith
  have h2'' : 1 - nu - nu ≠ 0 := by linarith
  have hsq := one_sub_sq_ne_zero hp hm
  refine ⟨hE.ne', hp, hm, by linarith, by linarith, hsq, by rw [← pow_two]; exact hsq, ?_, ?_, ?_, h2'', ?_⟩
  · rw [sq_sub_sq, sub_add_cancel, one_mul]; exact h2''
  · rw [one_sub_div hm]; exact div_ne_zero h2'' hm
  · rw [one_add_div hm, sub_add_cancel]; exact div_ne_zero one_ne_zero hm
  · simp only [shearModulus, lit_one, lit_two]
    exact div_ne_zero hE.ne' (mul_ne_zero two_ne_zero hp)

theorem hooke_G_eq (E nu : ℝ) :
    HookesLaw3d.attr_G E nu = shearModulus E nu ∧ HookesLaw2dPlaneStress.attr_G E nu = shearModulus E nu ∧
    HookesLaw2dPlaneStrain.attr_G E nu = shearModulus E nu := by
  simp only [shearModulus]; gen_bridge

theorem hooke_K_eq (E nu : ℝ) :
    HookesLaw3d.attr_K E nu = bulkModulus E nu ∧ HookesLaw2dPlaneStress.attr_K E nu = bulkModulus E nu ∧
    HookesLaw2dPlaneStrain.attr_K E nu = bulkModulus E nu := by
  simp only [bulkModulus]; gen_bridge

theorem hooke3d_strain_eq {E nu : ℝ} (s : HookeSide E nu) (a b c d e f : ℝ) :
    HookesLaw3d.strain E nu a b c d e f = hooke3dStrain E nu a b c d e f := by
  simp only [hooke3dStrain, shearModulus]; cases s; gen_bridge

theorem hooke3d_stress_eq {E nu : ℝ} (s : HookeSide E nu) (a b c d e f : ℝ) :
    HookesLaw3d.stress E nu a b c d e f = hooke3dStress E nu a b c d e f := by
  simp only [hooke3dStress, shearModulus]; cases s; gen_bridge

theorem planeStress_strain_eq {E nu : ℝ} (s : HookeSide E nu) (a b c : ℝ) :
    HookesLaw2dPlaneStress.strain E nu a b c = planeStressStrain E nu a b c := by
  simp only [planeStressStrain, shearModulus]; cases s; gen_bridge

theorem planeStress_stress_eq {E nu : ℝ} (s : HookeSide E nu) (a b c : ℝ) :
    HookesLaw2dPlaneStress.stress E nu a b c = planeStressStress E nu a b c := by
  simp only [planeStressStress, shearModulus]; cases s; gen_bridge

/-! `HookesLaw2dPlaneStrain` inherits the formulas of `HookesLaw2dPlaneStress` and substitutes `E' = E/(1−ν²)`, `ν' = ν/(1−ν)` (`_Et`,
`_nut`); the shear modulus is that of `E, ν` in both classes.  `planeStrainOf` / `planeStressOf` ("the strain / the stress that
the formulas give OF the constants `Et, nut, G`") are these formulas (in-plane components) with the constants as variables: at
`E, ν, shearModulus E ν` they are the components of `planeStressStrain` / `planeStressStress` (`planeStressStrain_eq_of`,
`planeStressStress_eq_of`), at `E', ν', shearModulus E ν` those of the generated plane-strain class (`planeStrain_strain_eq_of`,
`planeStrain_stress_eq_of`).  The round trip is proved once, about the variables (`planeStressOf_planeStrainOf`); the textbook
plane-strain form serves the comparison with the hand-written model (`planeStrain_strain_eq`, `planeStrain_stress_eq`) and with
the 3D law (`planeStrain_stress_eq`). -/

noncomputable def planeStrainOf (Et nut G s11 s22 s12 : ℝ) : ℝ × ℝ × ℝ :=
  ((s11 - nut * s22) / Et, (s22 - nut * s11) / Et, s12 / G)

noncomputable def planeStressOf (Et nut G e11 e22 g12 : ℝ) : ℝ × ℝ × ℝ :=
  (Et / (1 - nut * nut) * (e11 + nut * e22), Et / (1 - nut * nut) * (e22 + nut * e11), G * g12)

theorem planeStressOf_planeStrainOf {Et nut G : ℝ} (hE : Et ≠ 0) (hp : 1 + nut ≠ 0) (hm : 1 - nut ≠ 0) (hG : G ≠ 0)
    (a b c : ℝ) :
    (let ε := planeStrainOf Et nut G a b c
     planeStressOf Et nut G ε.1 ε.2.1 ε.2.2 = (a, b, c)) ∧
    (let σ := planeStressOf Et nut G a b c
     planeStrainOf Et nut G σ.1 σ.2.1 σ.2.2 = (a, b, c)) := by
  have hn := one_sub_sq_ne_zero hp hm
  simp only [planeStrainOf, planeStressOf, Prod.mk.injEq, ← sq]
  refine ⟨⟨?_, ?_, ?_⟩, ?_, ?_, ?_⟩ <;> field_simp <;> ring

theorem planeStressStrain_eq_of (E nu a b c : ℝ) :
    planeStressStrain E nu a b c
      = (let ε := planeStrainOf E nu (shearModulus E nu) a b c
         (ε.1, ε.2.1, -(nu * (a + b)) / E, ε.2.2)) := rfl

theorem planeStressStress_eq_of (E nu a b c : ℝ) :
    planeStressStress E nu a b c = planeStressOf E nu (shearModulus E nu) a b c := by
  simp only [planeStressStress, planeStressOf, lit_one]

theorem planeStrain_strain_eq_of {E nu : ℝ} (s : HookeSide E nu) (a b c : ℝ) :
    HookesLaw2dPlaneStrain.strain E nu a b c
      = planeStrainOf (E / (1 - nu ^ 2)) (nu / (1 - nu)) (shearModulus E nu) a b c := by
  simp only [planeStrainOf, shearModulus]; cases s; gen_bridge

theorem planeStrain_stress_eq_of {E nu : ℝ} (s : HookeSide E nu) (a b c : ℝ) :
    HookesLaw2dPlaneStrain.stress E nu a b c
      = (let σ := planeStressOf (E / (1 - nu ^ 2)) (nu / (1 - nu)) (shearModulus E nu) a b c
         (σ.1, σ.2.1, nu * (σ.1 + σ.2.1), σ.2.2)) := by
  simp only [planeStressOf, shearModulus]; cases s; gen_bridge

theorem planeStrain_strain_eq {E nu : ℝ} (s : HookeSide E nu) (a b c : ℝ) :
    HookesLaw2dPlaneStrain.strain E nu a b c = planeStrainStrain E nu a b c := by
  have h : ∀ x y : ℝ, (x - nu / (1 - nu) * y) / (E / (1 - nu ^ 2)) = (1 + nu) / E * ((1 - nu) * x - nu * y) := fun x y => by
    rw [div_div_eq_mul_div]
    linear_combination (-(1 + nu) * y / E) * mul_div_cancel₀ nu s.hm
  rw [planeStrain_strain_eq_of s]; simp only [planeStrainStrain, planeStrainOf, lit_one, h]

/-- `E'/(1 − ν'²) = c·(1 − ν)` with the textbook factor `c = E/((1+ν)(1−2ν))`, and `(1 − ν)` multiplied into `e11 + ν'·e22` gives
the textbook bracket `(1−ν)·e11 + ν·e22` -/
theorem planeStrain_stress_eq {E nu : ℝ} (s : HookeSide E nu) (a b c : ℝ) :
    HookesLaw2dPlaneStrain.stress E nu a b c = planeStrainStress E nu a b c := by
  have hc : E / (1 - nu ^ 2) / (1 - nu / (1 - nu) * (nu / (1 - nu))) = E / ((1 + nu) * (1 - 2 * nu)) * (1 - nu) := by
    cases s
    field_simp
    ring
  have hb : ∀ x y : ℝ, (1 - nu) * (x + nu / (1 - nu) * y) = (1 - nu) * x + nu * y := fun x y => by
    rw [mul_add, ← mul_assoc, mul_div_cancel₀ _ s.hm]
  rw [planeStrain_stress_eq_of s]
  -- `mul_assoc` moves the `(1 − ν)` of `hc` next to the bracket, where `hb` applies
  simp only [planeStrainStress, planeStressOf, lit_one, lit_two, hc, mul_assoc, hb, Prod.mk.injEq, true_and, and_true]
  -- left: `s33 = ν·(s11 + s22)` against the textbook `c·ν·(e11 + e22)`
  ring

theorem hooke_init_guard_iff (E nu : ℝ) :
    (HookesLaw3d.init_raises E nu = false ↔ (-1 ≤ nu ∧ nu ≤ 1 / 2)) ∧
    (HookesLaw2dPlaneStress.init_raises E nu = false ↔ (-1 ≤ nu ∧ nu ≤ 1 / 2)) ∧
    (HookesLaw2dPlaneStrain.init_raises E nu = false ↔ (-1 ≤ nu ∧ nu ≤ 1 / 2)) := by
  unfold_generated_material_laws
  refine ⟨?_, ?_, ?_⟩ <;>
    first
      | (simp [lit_one, lit_two]; done)
      | (norm_num; done)
      | (simp [lit_one, lit_two]; norm_num; done)
      | (simp [lit_one, lit_two]; constructor <;> intro h <;> constructor <;> linarith [h.1, h.2])
      | (norm_num; constructor <;> intro h <;> constructor <;> linarith [h.1, h.2])

theorem true_strain_eq (e : ℝ) : true_strain e = Real.log (1 + e) := by gen_bridge

theorem true_stress_eq (s e : ℝ) : true_stress s e = s * (1 + e) := by gen_bridge

/-- `log (1/(1-Z))`, `-log (1-Z)` and `-log1p(-Z)` are the same real function (`Real.log_inv`, also at Z = 1) -/
theorem true_fracture_strain_eq (Z : ℝ) : true_fracture_strain Z = -Real.log (1 - Z) := by
  try unfold_generated_material_laws
  try gen_real
  first
    | done  -- spelt `-np.log(1 - Z)`, `gen_real` leaves nothing to prove
    | (rw [one_div, Real.log_inv]; done)  -- spelt `np.log(1./(1. - Z))` as in the source: `log (1/x) = -log x`
    | rfl
    | (ring_nf; done)
    | (rw [← sub_eq_add_neg]; done)
    | (congr 2; ring_nf; done)
    | (rw [one_div, Real.log_inv]; congr 2; ring_nf; done)
    | (rw [← Real.log_inv]; congr 1; field_simp; done)

theorem true_fracture_stress_eq (F A Z : ℝ) : true_fracture_stress F A Z = F / (A * (1 - Z)) := by gen_bridge

end PylifeVerif.C16L
