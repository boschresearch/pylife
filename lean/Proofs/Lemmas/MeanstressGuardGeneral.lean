/-
C12 — any diagram `D` with an iso-damage potential `h` that has a positive factor on every segment and positive amplitude at the
kinks (`GoodPot`) and whose runs end with a segment shift that fires (`Fires`): the guard `TransformGuard` says that `h` is positive
at the cycle's ray and at the target (`transformGuard_iff_of_goodPot`), and under it the amplitude formula, fixed target, path
independence, monotonicity at fixed mean and on a fixed ray hold.  Diagrams in standard form are such diagrams (`diagram_goodPot`,
`diagram_fires` in `Proofs/Lemmas/MeanstressPotential.lean`).

`←`: along a run every cycle position is the cycle's own ray, a kink of the Haigh line (`leftBoundary s`, `s.lo`; `R = 1 ↦ -∞`) or
the target.  On a segment `s` that fires, the potential is `k·(1 + s.M·x)` with `k > 0` at the cycle's position and at the step's
goal, so `1 + s.M·x > 0` at both as soon as the potential is positive there; hence the invariant "R admissible and potential
positive at R" is kept along the run.  `→`: for the same reason a guarded phase either fires nowhere or leads from positive
potential to positive potential (`foldGuard_pos`), and the last phase fires and ends at the target.

The predicates on a potential, from strong to weak (`OnLine`, `SegPot`, `Compat` are in `Proofs/Lemmas/Meanstress.lean`):
`GoodPot ⇒ CompatPos ⇒ Compat` for every admissible target (`GoodPot.compatPos`, `CompatPos.compat`) and, per segment and goal,
`GoodPot ⇒ StepPot ⇒ PosPot ⇒ SegPot` (`GoodPot.stepPot`, `.1`, `PosPot.segPot`).  `SegPot` and `CompatPos` spell the clause
`OnLine h s k` out; it is the same up to unfolding, and the proofs below pass one for the other.
-/
import Proofs.Lemmas.Meanstress

namespace PylifeVerif.Meanstress
open ExtR

/-- The R value after a step depends on the R value before only. -/
noncomputable def stepR (s : Seg ℝ) (g R : ExtR ℝ) : ExtR ℝ :=
  if (ExtR.le s.lo (push R g) && ExtR.le (push R g) s.hi) = true then normGoal g else R

theorem stepR_pos {s : Seg ℝ} {g R : ExtR ℝ} (h : memSeg (push R g) s) : stepR s g R = normGoal g := if_pos h

theorem stepR_neg {s : Seg ℝ} {g R : ExtR ℝ} (h : ¬ memSeg (push R g) s) : stepR s g R = R := if_neg h

theorem step_R (s : Seg ℝ) (g : ExtR ℝ) (c : Cyc ℝ) : (step s g c).R = stepR s g c.R := by
  by_cases h : memSeg (push c.R g) s
  · rw [step_of_mem h, stepR_pos h]
  · rw [step_of_not_mem h, stepR_neg h]

theorem foldl_step_R (f : Seg ℝ → ExtR ℝ) (l : List (Seg ℝ)) (c : Cyc ℝ) :
    (l.foldl (fun c s => step s (f s) c) c).R = l.foldl (fun R s => stepR s (f s) R) c.R := by
  induction l generalizing c with
  | nil => rfl
  | cons s ss ih => simp only [List.foldl_cons]; rw [ih, step_R]

theorem fold_hits (g : ExtR ℝ) : ∀ (l : List (Seg ℝ)) (R : ExtR ℝ),
    (R = normGoal g ∨ ∃ s ∈ l, memSeg (push R g) s) → l.foldl (fun R s => stepR s g R) R = normGoal g := by
  intro l
  induction l with
  | nil =>
    rintro R (h | ⟨s, hs, _⟩)
    · exact h
    · exact absurd hs List.not_mem_nil
  | cons t ts ih =>
    intro R h
    rw [List.foldl_cons]
    by_cases hf : memSeg (push R g) t
    · rw [stepR_pos hf]; exact ih _ (Or.inl rfl)
    · rw [stepR_neg hf]
      refine ih _ (h.imp_right ?_)
      rintro ⟨s, hs, hm⟩
      rcases List.mem_cons.1 hs with rfl | hs
      · exact absurd hm hf
      · exact ⟨s, hs, hm⟩

/-- Every run on `D` ends with a segment shift that fires (at a segment containing the target). -/
def Fires (D : List (Seg ℝ)) : Prop :=
  ∀ g c, ValidR g → ValidR c.R → ∃ s ∈ segsContaining D g, memSeg (push (afterRight D g c).R g) s

theorem Fires.arrives {D : List (Seg ℝ)} (hF : Fires D) {g : ExtR ℝ} (c : Cyc ℝ) (hg : ValidR g) (hR : ValidR c.R) :
    (transform D g c).R = g := by
  rw [transform_eq, foldl_step_R fun _ => g]
  exact (fold_hits g _ _ (Or.inr (hF g c hg hR))).trans (normGoal_valid hg)

/-- `SegPot` with a positive factor `k`. -/
def PosPot (h : ℝ → ℝ) (s : Seg ℝ) (g : ExtR ℝ) : Prop :=
  ∃ k, 0 < k ∧ OnLine h s k ∧ h (pos (normGoal g)) = k * (1 + s.M * pos (normGoal g))

theorem PosPot.segPot {h : ℝ → ℝ} {s : Seg ℝ} {g : ExtR ℝ} : PosPot h s g → SegPot h s g :=
  fun ⟨k, _, f, e⟩ => ⟨k, f, e⟩

/-- `Compat` with `PosPot` in place of `SegPot` and one factor `k` per segment for its three goals. -/
def CompatPos (h : ℝ → ℝ) (D : List (Seg ℝ)) (g : ExtR ℝ) : Prop :=
  ∀ s ∈ D, ∃ k, 0 < k ∧ (∀ R, memSeg R s → R.isOne = false → h (pos R) = k * (1 + s.M * pos R)) ∧
    h (pos (normGoal (leftBoundary s))) = k * (1 + s.M * pos (normGoal (leftBoundary s))) ∧
    h (pos (normGoal s.lo)) = k * (1 + s.M * pos (normGoal s.lo)) ∧
    (s ∈ segsContaining D g → h (pos (normGoal g)) = k * (1 + s.M * pos (normGoal g)))

theorem CompatPos.posPot {h : ℝ → ℝ} {D : List (Seg ℝ)} {g : ExtR ℝ} (hc : CompatPos h D g) {s : Seg ℝ} (hs : s ∈ D) :
    PosPot h s (leftBoundary s) ∧ PosPot h s s.lo ∧ (s ∈ segsContaining D g → PosPot h s g) := by
  obtain ⟨k, hk, f, e1, e2, e3⟩ := hc s hs
  exact ⟨⟨k, hk, f, e1⟩, ⟨k, hk, f, e2⟩, fun hm => ⟨k, hk, f, e3 hm⟩⟩

theorem CompatPos.compat {h : ℝ → ℝ} {D : List (Seg ℝ)} {g : ExtR ℝ} (hc : CompatPos h D g) : Compat h D g :=
  fun _ hs => ⟨(hc.posPot hs).1.segPot, (hc.posPot hs).2.1.segPot, fun hm => ((hc.posPot hs).2.2 hm).segPot⟩

/-- What `foldGuard_of_pot` needs of a step on `s` with goal `gs`: `PosPot`, and the goal is an admissible R value where the line of
`s` has positive amplitude. -/
def StepPot (h : ℝ → ℝ) (s : Seg ℝ) (gs : ExtR ℝ) : Prop :=
  PosPot h s gs ∧ ValidR (normGoal gs) ∧ 0 < 1 + s.M * pos (normGoal gs)

/-- `h` is an iso-damage potential of `D` with a positive factor on every segment `s`: an iso-damage line `k·(1 + s.M·x)`, `k > 0`,
on `s` and at the two kinks (`R = 1 ↦ -∞`) that the left and the right phase use as goals, which are admissible R values where
the line has positive amplitude.  What the potential and the guard need to know of a diagram: `CompatPos` for every admissible
target (`GoodPot.compatPos`) and `StepPot` for the steps of the left and the right phase (`GoodPot.stepPot`). -/
def GoodPot (h : ℝ → ℝ) (D : List (Seg ℝ)) : Prop :=
  ∀ s ∈ D, ∃ k, 0 < k ∧ OnLine h s k ∧
    ∀ G, G = leftBoundary s ∨ G = s.lo → ValidR (normGoal G) ∧ 0 < 1 + s.M * pos (normGoal G) ∧
      h (pos (normGoal G)) = k * (1 + s.M * pos (normGoal G))

theorem GoodPot.compatPos {h : ℝ → ℝ} {D : List (Seg ℝ)} (hT : GoodPot h D) {g : ExtR ℝ} (hv : ValidR g) :
    CompatPos h D g := by
  intro s hsD
  obtain ⟨k, hk, key, hG⟩ := hT s hsD
  refine ⟨k, hk, key, (hG _ (.inl rfl)).2.2, (hG _ (.inr rfl)).2.2, fun hc => ?_⟩
  rw [normGoal_valid hv]
  exact key g (memSeg_of_containing hc) (isOne_valid hv)

theorem GoodPot.stepPot {h : ℝ → ℝ} {D : List (Seg ℝ)} (hT : GoodPot h D) {s : Seg ℝ} (hs : s ∈ D) {G : ExtR ℝ}
    (hG : G = leftBoundary s ∨ G = s.lo) : StepPot h s G := by
  obtain ⟨k, hk, f, hK⟩ := hT s hs
  obtain ⟨v, p, e⟩ := hK G hG
  exact ⟨⟨k, hk, f, e⟩, v, p⟩

theorem foldGuard_of_pot (h : ℝ → ℝ) (goalOf : Seg ℝ → ExtR ℝ) (l : List (Seg ℝ)) (c : Cyc ℝ)
    (hp : ∀ s ∈ l, StepPot h s (goalOf s)) (hR : ValidR c.R) (hc : 0 < h (pos c.R)) :
    FoldGuard goalOf l c ∧ ValidR (l.foldl (fun c s => step s (goalOf s) c) c).R ∧
      0 < h (pos (l.foldl (fun c s => step s (goalOf s) c) c).R) := by
  induction l generalizing c with
  | nil => exact ⟨trivial, hR, hc⟩
  | cons s ss ih =>
    obtain ⟨⟨k, hk, hform, hgoal⟩, hv, hgp⟩ := hp s List.mem_cons_self
    have hR' : ValidR (step s (goalOf s) c).R ∧ 0 < h (pos (step s (goalOf s) c).R) := by
      rw [step_R]; unfold stepR; split_ifs
      · exact ⟨hv, hgoal ▸ mul_pos hk hgp⟩
      · exact ⟨hR, hc⟩
    have ih' := ih (step s (goalOf s) c) (fun t ht => hp t (List.mem_cons_of_mem _ ht)) hR'.1 hR'.2
    refine ⟨⟨fun hm => ⟨validR_match.1 hR, validR_match.1 hv, ?_, hgp⟩, ih'.1⟩, ih'.2⟩
    exact pos_of_mul_pos_right (line_of_fires hform hm hR ▸ hc) hk.le

theorem transformGuard_of_goodPot {h : ℝ → ℝ} {D : List (Seg ℝ)} {g : ExtR ℝ} {c : Cyc ℝ} (hT : GoodPot h D)
    (hg : ValidR g) (hgp : 0 < h (pos g)) (hR : ValidR c.R) (hc : 0 < h (pos c.R)) : TransformGuard D g c := by
  obtain ⟨A1, A2, A3⟩ := foldGuard_of_pot h leftBoundary (segsLeft D g) c
    (fun s hs => hT.stepPot (mem_segsLeft hs) (.inl rfl)) hR hc
  obtain ⟨B1, B2, B3⟩ := foldGuard_of_pot h (fun s => s.lo) (segsRight D g) (afterLeft D g c)
    (fun s hs => hT.stepPot (mem_segsRight hs) (.inr rfl)) A2 A3
  refine ⟨A1, B1, (foldGuard_of_pot h (fun _ => g) (segsContaining D g) (afterRight D g c) (fun s hs => ?_) B2 B3).1⟩
  -- at the target the potential is `k` times the line of `s` with `k > 0`: the line is positive there as the potential is
  obtain ⟨k, hk, f, e⟩ := ((hT.compatPos hg).posPot (mem_segsContaining.1 hs).1).2.2 hs
  refine ⟨⟨k, hk, f, e⟩, ?_⟩
  rw [normGoal_valid hg] at e ⊢
  exact ⟨hg, pos_of_mul_pos_right (e ▸ hgp) hk.le⟩

/-- A guarded run either fires nowhere or leads from positive potential to positive potential: on a segment that fires the
potential is `k·(1 + s.M·x)`, `k > 0`, at the cycle and at the goal, and `StepGuard` has `1 + s.M·x` positive at both. -/
theorem foldGuard_pos (h : ℝ → ℝ) (goalOf : Seg ℝ → ExtR ℝ) : ∀ (l : List (Seg ℝ)) (c : Cyc ℝ),
    (∀ s ∈ l, PosPot h s (goalOf s)) → FoldGuard goalOf l c →
    ((∀ s ∈ l, ¬ memSeg (push c.R (goalOf s)) s) ∧ l.foldl (fun c s => step s (goalOf s) c) c = c) ∨
      (0 < h (pos c.R) ∧ 0 < h (pos (l.foldl (fun c s => step s (goalOf s) c) c).R)) := by
  intro l
  induction l with
  | nil => exact fun c _ _ => .inl ⟨fun s hs => absurd hs List.not_mem_nil, rfl⟩
  | cons t ts ih =>
    intro c hp hG
    rw [List.foldl_cons]
    have ih' := ih (step t (goalOf t) c) (fun s hs => hp s (List.mem_cons_of_mem _ hs)) hG.2
    by_cases hf : memSeg (push c.R (goalOf t)) t
    · obtain ⟨k, hk, hform, hgoal⟩ := hp t List.mem_cons_self
      obtain ⟨hR, _, p1, p2⟩ := hG.1 hf
      refine .inr ⟨line_of_fires hform hf (validR_match.2 hR) ▸ mul_pos hk p1, ?_⟩
      rcases ih' with ⟨_, e'⟩ | ⟨_, q⟩
      · rw [e', step_of_mem hf]
        exact hgoal ▸ mul_pos hk p2
      · exact q
    · rw [step_of_not_mem hf] at ih' ⊢
      exact ih'.imp_left fun ⟨hn, e⟩ => ⟨List.forall_mem_cons.2 ⟨hf, hn⟩, e⟩

/-- For every mean stress `m`: `a ↦ a·h(m/a)` is non-decreasing on `a > 0` with increments at most `L·Δa`. -/
def PerspMono (h : ℝ → ℝ) (L : ℝ) : Prop :=
  ∀ m a₁ a₂ : ℝ, 0 < a₁ → a₁ ≤ a₂ →
    a₁ * h (m / a₁) ≤ a₂ * h (m / a₂) ∧ a₂ * h (m / a₂) - a₁ * h (m / a₁) ≤ L * (a₂ - a₁)

theorem PerspMono.fixed_mean {h : ℝ → ℝ} {L p : ℝ} (H : PerspMono h L) (hp : 0 < p) {a₁ a₂ x₁ x₂ : ℝ} (h1 : 0 < a₁)
    (h12 : a₁ ≤ a₂) (hm : a₁ * x₁ = a₂ * x₂) :
    a₁ * h x₁ / p ≤ a₂ * h x₂ / p ∧ a₂ * h x₂ / p - a₁ * h x₁ / p ≤ L / p * (a₂ - a₁) := by
  have e1 : x₁ = (a₂ * x₂) / a₁ := eq_div_of_mul_eq h1.ne' ((mul_comm _ _).trans hm)
  have e2 : x₂ = (a₂ * x₂) / a₂ := (mul_div_cancel_left₀ _ (h1.trans_le h12).ne').symm
  obtain ⟨A, B⟩ := H (a₂ * x₂) a₁ a₂ h1 h12
  rw [← e1, ← e2] at A B
  refine ⟨div_le_div_of_nonneg_right A hp.le, ?_⟩
  rw [← sub_div, div_mul_eq_mul_div]
  exact div_le_div_of_nonneg_right B hp.le

section Consequences
variable {h : ℝ → ℝ} {D : List (Seg ℝ)} (hT : GoodPot h D) (hF : Fires D)
include hT hF

theorem transformGuard_iff_of_goodPot {g : ExtR ℝ} {c : Cyc ℝ} (hg : ValidR g) (hR : ValidR c.R) :
    TransformGuard D g c ↔ 0 < h (pos c.R) ∧ 0 < h (pos g) := by
  refine ⟨fun hG => ?_, fun hp => transformGuard_of_goodPot hT hg hp.2 hR hp.1⟩
  have hc := hT.compatPos hg
  have A := foldGuard_pos h leftBoundary _ c (fun s hs => (hc.posPot (mem_segsLeft hs)).1) hG.1
  have B := foldGuard_pos h (fun s => s.lo) _ (afterLeft D g c) (fun s hs => (hc.posPot (mem_segsRight hs)).2.1) hG.2.1
  have C := foldGuard_pos h (fun _ => g) _ (afterRight D g c)
    (fun s hs => (hc.posPot (mem_segsContaining.1 hs).1).2.2 hs) hG.2.2
  -- the last phase fires and ends at the target; a phase that fires nowhere hands the cycle on as it was
  obtain ⟨s, hs, hm⟩ := hF g c hg hR
  rcases C with ⟨hn, _⟩ | ⟨c2, c3⟩
  · exact absurd hm (hn s hs)
  rw [← transform_eq, hF.arrives c hg hR] at c3
  refine ⟨?_, c3⟩
  rcases A with ⟨_, eA⟩ | ⟨a, _⟩
  · have eA : afterLeft D g c = c := eA
    rcases B with ⟨_, eB⟩ | ⟨b, _⟩
    · rwa [show afterRight D g c = c from eB.trans eA] at c2
    · rwa [eA] at b
  · exact a

theorem transform_amp_of_goodPot {g : ExtR ℝ} {c : Cyc ℝ} (hg : ValidR g) (hR : ValidR c.R) (hG : TransformGuard D g c) :
    (transform D g c).amp = c.amp * h (pos c.R) / h (pos g) :=
  transform_amp_of_compat (hT.compatPos hg).compat hG (hF.arrives c hg hR)
    ((transformGuard_iff_of_goodPot hT hF hg hR).1 hG).2.ne'

theorem transform_fixes_of_goodPot {c : Cyc ℝ} (hR : ValidR c.R) (hG : TransformGuard D c.R c) : transform D c.R c = c :=
  transform_fixes_of_compat (hT.compatPos hR).compat hG (hF.arrives c hR hR)
    ((transformGuard_iff_of_goodPot hT hF hR hR).1 hG).2.ne'

/-- Path independence with the two end-point guards: after the guarded move to `g₁` the cycle stands at `g₁`, so the guard of the
further move to `g₂` is positivity of the potential at `g₁` and `g₂`, which the two guards give. -/
theorem transform_path_of_goodPot {g₁ g₂ : ExtR ℝ} {c : Cyc ℝ} (hg1 : ValidR g₁) (hg2 : ValidR g₂) (hR : ValidR c.R)
    (hGa : TransformGuard D g₁ c) (hGc : TransformGuard D g₂ c) :
    transform D g₂ (transform D g₁ c) = transform D g₂ c := by
  have r1 := hF.arrives c hg1 hR
  have p2 := ((transformGuard_iff_of_goodPot hT hF hg2 hR).1 hGc).2
  have hR1 : ValidR (transform D g₁ c).R := by rw [r1]; exact hg1
  have hGb : TransformGuard D g₂ (transform D g₁ c) := by
    refine transformGuard_of_goodPot hT hg2 p2 hR1 ?_
    rw [r1]
    exact ((transformGuard_iff_of_goodPot hT hF hg1 hR).1 hGa).2
  exact transform_path_of_compat (hT.compatPos hg1).compat (hT.compatPos hg2).compat p2.ne'
    (hF.arrives _ hg2 hR1) (hF.arrives c hg2 hR) hGa hGb hGc

/-- At a fixed mean stress the transformed amplitude is non-decreasing and Lipschitz in the amplitude (hence continuous) if the
potential of a cycle `a·h(m/a)` is; the constant depends on the diagram and the target only. -/
theorem transform_fixed_mean_of_goodPot {L0 : ℝ} (hL0 : 0 ≤ L0) (H : PerspMono h L0) {g : ExtR ℝ} (hg : ValidR g) :
    ∃ L, 0 ≤ L ∧ ∀ c₁ c₂ : Cyc ℝ, ValidR c₁.R → ValidR c₂.R → 0 < c₁.amp → c₁.amp ≤ c₂.amp →
      c₁.amp * pos c₁.R = c₂.amp * pos c₂.R → TransformGuard D g c₁ → TransformGuard D g c₂ →
      (transform D g c₁).amp ≤ (transform D g c₂).amp ∧
      (transform D g c₂).amp - (transform D g c₁).amp ≤ L * (c₂.amp - c₁.amp) := by
  by_cases hp : 0 < h (pos g)
  · refine ⟨L0 / h (pos g), div_nonneg hL0 hp.le, fun c₁ c₂ hR1 hR2 ha1 ha12 hm hG1 hG2 => ?_⟩
    rw [transform_amp_of_goodPot hT hF hg hR1 hG1, transform_amp_of_goodPot hT hF hg hR2 hG2]
    exact H.fixed_mean hp ha1 ha12 hm
  · exact ⟨0, le_refl _, fun c₁ _ hR1 _ _ _ _ hG1 _ =>
      absurd ((transformGuard_iff_of_goodPot hT hF hg hR1).1 hG1).2 hp⟩

/-- The guard does not see the amplitude, so that of the smaller cycle serves for both. -/
theorem transform_ray_of_goodPot {g R : ExtR ℝ} {a₁ a₂ : ℝ} (hg : ValidR g) (hR : ValidR R) (h12 : a₁ ≤ a₂)
    (hGa : TransformGuard D g ⟨a₁, R⟩) :
    (transform D g ⟨a₁, R⟩).amp ≤ (transform D g ⟨a₂, R⟩).amp ∧
    (transform D g ⟨a₂, R⟩).amp - (transform D g ⟨a₁, R⟩).amp = (a₂ - a₁) * (h (pos R) / h (pos g)) := by
  obtain ⟨p, q⟩ := (transformGuard_iff_of_goodPot hT hF hg (c := ⟨a₁, R⟩) hR).1 hGa
  have hGb : TransformGuard D g ⟨a₂, R⟩ := transformGuard_of_goodPot hT hg q hR p
  rw [transform_amp_of_goodPot hT hF hg (c := ⟨a₁, R⟩) hR hGa, transform_amp_of_goodPot hT hF hg (c := ⟨a₂, R⟩) hR hGb]
  exact ⟨div_le_div_of_nonneg_right (mul_le_mul_of_nonneg_right h12 p.le) q.le, by ring⟩

end Consequences

end PylifeVerif.Meanstress
