/-
Shared definitions for the periodic-rainflow proofs (C04): strict alternation of a word.
-/

namespace PylifeVerif.C04

/-- `Alt up w`: `w` alternates strictly, the first step going up iff `up`. -/
def Alt : Bool → List Int → Prop
  | _, [] => True
  | _, [_] => True
  | up, x :: y :: r => (if up then x < y else y < x) ∧ Alt (!up) (y :: r)

/-- strictly alternating word (either polarity) -/
def Zig (w : List Int) : Prop := ∃ up, Alt up w

instance : ∀ up w, Decidable (Alt up w)
  | _, [] => isTrue trivial
  | _, [_] => isTrue trivial
  | up, x :: y :: r =>
    have := instDecidableAlt (!up) (y :: r)
    by unfold Alt; exact inferInstance

instance (w : List Int) : Decidable (Zig w) := by unfold Zig; exact inferInstance

end PylifeVerif.C04
