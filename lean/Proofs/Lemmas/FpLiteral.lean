/-
The literal `fourpoint_loop` (array, `ri` cursor, re-scan of the stored residuals on every chunk)
computes what the stack model `fpProcess` computes.

The array loop is `fpFeed` on positions (`fpLoopLit_spec`).  The stack model only ever stores
irreducible stacks, and feeding one again, oldest point first, closes nothing and rebuilds it
(`fpFeed_rescan`, `Proofs/Lemmas/FourPointChunks.lean`): the re-scan of the code is harmless, and the
attributes of the literal detector are a function `litOf` of the state of the stack model.
-/
import Proofs.Lemmas.FourPointChunks
import Model.Rainflow.Literal
import Mathlib.Data.List.TakeDrop

namespace PylifeVerif.Rainflow.Lit
open PylifeVerif.Rainflow PylifeVerif.Rainflow.Common

theorem fpFeed_cons_noclose (st : List Pt) (p : Pt) (ps : List Pt) (h : fpClose st p.2 = ([], st)) :
    fpFeed st (p :: ps) = fpFeed (p :: st) ps := by
  simp [fpFeed, fpPush, h]

theorem fpFeed_cons_close (c b a : Pt) (rest : List Pt) (p : Pt) (ps : List Pt)
    (h : CloseCond a b c p.2) :
    fpFeed (c :: b :: a :: rest) (p :: ps) =
      ((b, c) :: (fpFeed (a :: rest) (p :: ps)).1, (fpFeed (a :: rest) (p :: ps)).2) := by
  simp only [fpFeed, fpPush]
  rw [fpClose_pos' c b a rest p.2 h]
  simp

/-- the abstract stack (top first, as points) held in the first `ri` entries of the buffer -/
def stackOf (P : Nat → Pt) (buf : Array Nat) (ri : Nat) : List Pt :=
  ((buf.toList.take ri).reverse).map P

theorem stackOf_length (P : Nat → Pt) (buf : Array Nat) (ri : Nat) (h : ri ≤ buf.size) :
    (stackOf P buf ri).length = ri := by
  simp [stackOf]; omega

theorem stackOf_succ (P : Nat → Pt) (buf : Array Nat) (ri : Nat) (h : ri < buf.size) :
    stackOf P buf (ri + 1) = P buf[ri]! :: stackOf P buf ri := by
  simp [stackOf, List.take_add_one, h]

theorem stackOf_push (P : Nat → Pt) (buf : Array Nat) (ri i : Nat) (h : ri < buf.size) :
    stackOf P (buf.setIfInBounds ri i) (ri + 1) = P i :: stackOf P buf ri := by
  rw [stackOf_succ _ _ _ (by simpa using h)]
  simp [stackOf, h, List.take_set_of_le]

/-- **The array loop is `fpFeed` on positions.**  `P j = (turns_index[j], turns[j])`.  The fuel
bounds `3 * (len_turns - i) + ri`, which falls with every iteration (a push: `i` and `ri` go up by
one; a closing: `ri` goes down by two). -/
theorem fpLoopLit_spec (tnp : Array Int) (tidx : Array Nat) (P : Nat → Pt)
    (hP : ∀ j, P j = (tidx[j]!, tnp[j]!)) :
    ∀ (fuel i ri : Nat) (buf : Array Nat) (out : List Cycle), buf.size = tnp.size → ri ≤ i →
      i ≤ tnp.size → 3 * (tnp.size - i) + ri ≤ fuel →
      (fpLoopLit tnp tidx fuel ⟨i, ri, buf, out⟩).out =
          out ++ (fpFeed (stackOf P buf ri) ((List.range' i (tnp.size - i)).map P)).1 ∧
        stackOf P (fpLoopLit tnp tidx fuel ⟨i, ri, buf, out⟩).resIdx
            (fpLoopLit tnp tidx fuel ⟨i, ri, buf, out⟩).ri =
          (fpFeed (stackOf P buf ri) ((List.range' i (tnp.size - i)).map P)).2 := by
  intro fuel
  induction fuel with
  | zero =>
    intro i ri buf out hsz hri hi hf
    have h1 : tnp.size - i = 0 := by omega
    simp [fpLoopLit, h1, fpFeed]
  | succ fuel ih =>
    intro i ri buf out hsz hri hi hf
    by_cases hlt : i < tnp.size
    · have hrange : (List.range' i (tnp.size - i)).map P =
          P i :: (List.range' (i + 1) (tnp.size - (i + 1))).map P := by
        rw [show tnp.size - i = (tnp.size - (i + 1)) + 1 by omega, List.range'_succ, List.map_cons]
      have hpush : fpClose (stackOf P buf ri) (P i).2 = ([], stackOf P buf ri) →
          (fpLoopLit tnp tidx fuel ⟨i + 1, ri + 1, buf.setIfInBounds ri i, out⟩).out =
              out ++ (fpFeed (stackOf P buf ri) ((List.range' i (tnp.size - i)).map P)).1 ∧
            stackOf P (fpLoopLit tnp tidx fuel ⟨i + 1, ri + 1, buf.setIfInBounds ri i, out⟩).resIdx
                (fpLoopLit tnp tidx fuel ⟨i + 1, ri + 1, buf.setIfInBounds ri i, out⟩).ri =
              (fpFeed (stackOf P buf ri) ((List.range' i (tnp.size - i)).map P)).2 := by
        intro hno
        have := ih (i + 1) (ri + 1) (buf.setIfInBounds ri i) out (by simpa using hsz) (by omega)
          (by omega) (by omega)
        rw [hrange, fpFeed_cons_noclose _ _ _ hno, ← stackOf_push P buf ri i (by omega)]
        exact this
      rw [fpLoopLit]
      by_cases h3 : ri < 3
      · simp only [hlt, h3, if_true]
        apply hpush
        have hl := stackOf_length P buf ri (by omega)
        match hS : stackOf P buf ri, hl with
        | [], _ => exact fpClose_nil' _
        | [_], _ => exact fpClose_one' _ _
        | [_, _], _ => exact fpClose_two' _ _ _
        | _ :: _ :: _ :: _, hl => simp at hl; omega
      · obtain ⟨k, rfl⟩ : ∃ k, ri = k + 3 := ⟨ri - 3, by omega⟩
        have hS : stackOf P buf (k + 3) =
            P buf[k + 2]! :: P buf[k + 1]! :: P buf[k]! :: stackOf P buf k := by
          rw [stackOf_succ P buf (k + 2) (by omega), stackOf_succ P buf (k + 1) (by omega),
            stackOf_succ P buf k (by omega)]
        simp only [hlt, h3, if_true, if_false, Nat.add_sub_cancel,
          show k + 3 - 2 = k + 1 by omega, show k + 3 - 1 = k + 2 by omega,
          show k + 2 - 1 = k + 1 by omega]
        by_cases hc : CloseCond (P buf[k]!) (P buf[k + 1]!) (P buf[k + 2]!) (P i).2
        · have hc' := hc
          simp only [CloseCond, hP] at hc'
          rw [if_pos hc']
          have := ih i (k + 1) buf (out ++ [((tidx[buf[k + 1]!]!, tnp[buf[k + 1]!]!),
            (tidx[buf[k + 2]!]!, tnp[buf[k + 2]!]!))]) hsz (by omega) hi (by omega)
          simp only [stackOf_succ P buf k (by omega)] at this
          rw [hS, hrange, fpFeed_cons_close _ _ _ _ _ _ hc, ← hrange]
          refine ⟨?_, this.2⟩
          rw [this.1]
          simp [hP]
        · have hc' := hc
          simp only [CloseCond, hP] at hc'
          rw [if_neg hc']
          apply hpush
          rw [hS]
          exact fpClose_neg' _ _ _ _ _ hc
    · have h1 : tnp.size - i = 0 := by omega
      rw [fpLoopLit]
      simp [hlt, h1, fpFeed]

theorem range'_map_pts (pts : List Pt) (d : Int) :
    (List.range' 0 (pts.length + 1)).map
        (fun j => (((pts.map (·.1)).toArray)[j]!, ((pts.map (·.2) ++ [d]).toArray)[j]!)) =
      pts ++ [((0 : Nat), d)] := by
  apply List.ext_getElem
  · simp
  · intro j h1 h2
    simp only [List.length_map, List.length_range'] at h1
    simp only [List.getElem_map, List.getElem_range', Nat.zero_add, Nat.one_mul]
    by_cases hj : j < pts.length
    · rw [List.getElem_append_left hj]
      simp [hj, List.getElem?_append_left]
    · have hj' : j = pts.length := by omega
      subst hj'
      simp

/-- `residual_index` at the entry of the `while` loop -/
def initBuf (n : Nat) : Array Nat := ((Array.replicate n 0).setIfInBounds 0 0).setIfInBounds 1 1

theorem stackOf_initBuf (P : Nat → Pt) (m : Nat) : stackOf P (initBuf (m + 2)) 2 = [P 1, P 0] := by
  simp [stackOf, initBuf, Array.toList_setIfInBounds, List.replicate_succ]

theorem fpLoopLitRun_spec (tnp : Array Int) (tidx : Array Nat) (m : Nat) (hn : tnp.size = m + 2)
    (P : Nat → Pt) (hP : ∀ j, P j = (tidx[j]!, tnp[j]!)) :
    (fpLoopLitRun tnp tidx).1 = (fpFeed [] ((List.range' 0 (m + 2)).map P)).1 ∧
      (fpLoopLitRun tnp tidx).2.map P = (fpFeed [] ((List.range' 0 (m + 2)).map P)).2.reverse := by
  obtain ⟨h1, h2⟩ := fpLoopLit_spec tnp tidx P hP (3 * tnp.size) 2 2 (initBuf tnp.size) []
    (by simp [initBuf]) (Nat.le_refl 2) (by omega) (by omega)
  -- the first two points are pushed before the loop
  have hfeed : fpFeed [] ((List.range' 0 (m + 2)).map P) =
      fpFeed [P 1, P 0] ((List.range' 2 m).map P) := by
    rw [show m + 2 = (m + 1) + 1 from rfl, List.range'_succ, List.range'_succ, List.map_cons,
      List.map_cons, fpFeed_cons_noclose _ _ _ (fpClose_nil' _),
      fpFeed_cons_noclose _ _ _ (fpClose_one' _ _)]
  rw [show stackOf P (initBuf tnp.size) 2 = [P 1, P 0] by rw [hn, stackOf_initBuf],
    show tnp.size - 2 = m by omega, ← hfeed] at h1 h2
  have h2' := congrArg List.reverse h2
  simp only [stackOf, List.map_reverse, List.reverse_reverse] at h2'
  exact ⟨h1.trans (List.nil_append _), h2'⟩

/-- `fourpoint_loop` on `turns_np = values of pts ++ [d]`, `turns_index = indices of pts`:
the recorded rows are the cycles of `fpFeed [] (pts ++ [(0, d)])` and `residual_index`, read through
either array, is its stack (the index `0` of the last point stands for the out-of-range read
`turns_index[len]`, which the code never does: it uses `residual_index[:-1]`). -/
theorem fpLoopLitRun_eq (pts : List Pt) (d : Int) (hp : pts ≠ []) :
    (fpLoopLitRun (pts.map (·.2) ++ [d]).toArray (pts.map (·.1)).toArray).1 =
        (fpFeed [] (pts ++ [((0 : Nat), d)])).1 ∧
      (fpLoopLitRun (pts.map (·.2) ++ [d]).toArray (pts.map (·.1)).toArray).2.map
          (fun j => ((pts.map (·.2) ++ [d]).toArray)[j]!) =
        (fpFeed [] (pts ++ [((0 : Nat), d)])).2.reverse.map (·.2) ∧
      (fpLoopLitRun (pts.map (·.2) ++ [d]).toArray (pts.map (·.1)).toArray).2.map
          (fun j => ((pts.map (·.1)).toArray)[j]!) =
        (fpFeed [] (pts ++ [((0 : Nat), d)])).2.reverse.map (·.1) := by
  obtain ⟨m, hm⟩ : ∃ m, pts.length = m + 1 := by
    cases pts with
    | nil => exact absurd rfl hp
    | cons p ps => exact ⟨ps.length, rfl⟩
  have hall := range'_map_pts pts d
  rw [hm] at hall
  have := fpLoopLitRun_spec (pts.map (·.2) ++ [d]).toArray (pts.map (·.1)).toArray m
    (by simp [hm]) _ (fun _ => rfl)
  rw [hall] at this
  exact ⟨this.1, by rw [← this.2, List.map_map]; rfl, by rw [← this.2, List.map_map]; rfl⟩

/-- The attributes of the literal detector as a function of the state of the stack model:
`_residuals` are the residual values with the provisional last sample, `_residual_index` has one
entry less (`[0]` before the first sample). -/
def litOf (σ : DetState) : FpLitState :=
  { ts := σ.ts, residuals := σ.residuals,
    residualIndex := if σ.last.isNone then [0] else σ.stack.reverse.map (·.1),
    cycles := σ.cycles, chunks := σ.chunks }

theorem litOf_residualIndexProp (p : List Int) (ch : List Nat) :
    (litOf (fpCanon p ch)).residualIndexProp = (fpCanon p ch).residualIndex := by
  cases p <;> simp [FpLitState.residualIndexProp, DetState.residualIndex, litOf, fpCanon_nil, fpCanon_cons, canonTs]

/-- One call of the literal `process` from the attributes of a stack-model state whose call starts on a non-empty
irreducible stack (`baseOf_canon`: every state the stack model reaches). -/
theorem fpProcessLit_litOf (σ : DetState) (s0 : Int) (tl : List Int) (hb : baseOf s0 σ ≠ [])
    (hirr : Irr (baseOf s0 σ)) :
    fpProcessLit (litOf σ) (s0 :: tl) = litOf (fpProcess σ (s0 :: tl)) := by
  let base : List Pt := baseOf s0 σ
  have hbase : (if (litOf σ).residuals.isEmpty then (s0 :: tl).take 1
        else (litOf σ).residuals.dropLast) = base.reverse.map (·.2) ∧
      (litOf σ).residualIndex = base.reverse.map (·.1) := by
    cases hl : σ.last <;> simp [base, baseOf, litOf, DetState.residuals, hl]
  obtain ⟨hb1, hb2⟩ := hbase
  let turns := (newTurns σ.ts (s0 :: tl)).2
  let lastv := (s0 :: tl).getLast!
  let pts := base.reverse ++ turns
  have hpts : pts ≠ [] := by simp [pts, base, hb]
  obtain ⟨hr1, hv, hi⟩ := fpLoopLitRun_eq pts lastv hpts
  -- the re-scan rebuilds `base` and records nothing; then come the new turns and the last sample
  let S := (fpFeed base turns).2
  have hfeed : fpFeed [] (pts ++ [((0 : Nat), lastv)]) =
      ((fpFeed base turns).1 ++ (fpClose S lastv).1, (0, lastv) :: (fpClose S lastv).2) := by
    simp only [pts, List.append_assoc]
    rw [fpFeed_append, fpFeed_rescan base hirr, fpFeed_append]
    simp [fpFeed, fpPush, S]
  rw [hfeed] at hr1 hv hi
  have hnp : (if (litOf σ).residuals.isEmpty then (s0 :: tl).take 1
        else (litOf σ).residuals.dropLast) ++
        turns.map (·.2) ++ (s0 :: tl).drop ((s0 :: tl).length - 1) =
      pts.map (·.2) ++ [lastv] := by
    rw [hb1, List.drop_length_sub_one (List.cons_ne_nil _ _), ← getLast!_cons]; simp [pts, lastv]
  have hix : (litOf σ).residualIndex ++ turns.map (·.1) = pts.map (·.1) := by
    rw [hb2]; simp [pts]
  have hts : (litOf σ).ts = σ.ts := rfl
  simp only [fpProcessLit, hts]
  rw [hnp, hix, hv, List.map_dropLast, hi, hr1]
  simp only [litOf, fpProcess, DetState.residuals, Option.isNone_some, Bool.false_eq_true,
    if_false, List.map_append, List.map_reverse, List.append_assoc, List.reverse_cons,
    List.map_cons, List.map_nil, List.dropLast_concat]
  rfl

theorem fpRunLit_eq (cs : List (List Int)) (hne : ∀ c ∈ cs, c ≠ []) :
    fpRunLit cs = litOf (fpCanon cs.flatten (cs.map List.length)) :=
  foldl_canon fpProcessLit (fun p ch => litOf (fpCanon p ch))
    (fun p c ch hc => by
      obtain ⟨c0, tl, rfl⟩ := List.exists_cons_of_ne_nil hc
      rw [fpProcessLit_litOf _ c0 tl (baseOf_canon p ch c0).1 (baseOf_canon p ch c0).2, fpProcess_canon _ _ _ hc])
    cs hne

end PylifeVerif.Rainflow.Lit
