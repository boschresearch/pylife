/-
Helper lemmas for C07: the binned look-up of `Model/Notch.lean` over a linearly ordered field.  `absM` / `signM` are `|·|` and
the sign (an odd function is `x ↦ signM x · f |x|`); the search is `List.find?` on a range (`classOf`,
`binned_eq_classOf`: every fact about the look-up goes through it); column `j` of the per-point table is the single table
of point `j`.
-/
import Model.Notch
import Mathlib.Algebra.Order.Field.Basic
import Mathlib.Tactic.Linarith
import Mathlib.Tactic.Ring
import Mathlib.Tactic.FieldSimp

-- every lemma takes the whole ordered-field context of the one `variable` line, also those that need less of it
set_option linter.unusedSectionVars false

namespace PylifeVerif.Notch

variable {α : Type} [Field α] [LinearOrder α] [IsStrictOrderedRing α]

theorem absM_eq (x : α) : absM x = |x| := by
  unfold absM
  split_ifs with h
  · exact (abs_of_neg h).symm
  · exact (abs_of_nonneg (not_lt.mp h)).symm

theorem signM_pos {x : α} (h : 0 < x) : signM x = 1 := by simp [signM, h]
theorem signM_neg {x : α} (h : x < 0) : signM x = -1 := by simp [signM, h, not_lt.mpr h.le]
theorem signM_zero : signM (0 : α) = 0 := by simp [signM]

theorem signM_mul_abs (x : α) : signM x * |x| = x := by
  rcases lt_trichotomy x 0 with h | h | h
  · rw [signM_neg h, abs_of_neg h]; ring
  · rw [h, signM_zero, zero_mul]
  · rw [signM_pos h, abs_of_pos h, one_mul]

theorem signM_neg_arg (x : α) : signM (-x) = -signM x := by
  rcases lt_trichotomy x 0 with h | h | h
  · rw [signM_neg h, signM_pos (neg_pos.mpr h), neg_neg]
  · rw [h, neg_zero, signM_zero, neg_zero]
  · rw [signM_pos h, signM_neg (neg_neg_of_pos h)]

theorem signM_nonneg {x : α} (h : 0 ≤ x) : 0 ≤ signM x := by
  rcases h.eq_or_lt with rfl | h
  · rw [signM_zero]
  · rw [signM_pos h]; exact zero_le_one

theorem signM_nonpos {x : α} (h : x ≤ 0) : signM x ≤ 0 := by
  have := signM_nonneg (neg_nonneg.mpr h)
  rwa [signM_neg_arg, neg_nonneg] at this

theorem abs_signM {x : α} (h : x ≠ 0) : |signM x| = 1 := by
  rcases lt_or_gt_of_ne h with h | h
  · rw [signM_neg h, abs_neg, abs_one]
  · rw [signM_pos h, abs_one]

theorem abs_signM_le_one (x : α) : |signM x| ≤ 1 := by
  rcases eq_or_ne x 0 with rfl | h
  · rw [signM_zero, abs_zero]; exact zero_le_one
  · exact (abs_signM h).le

/-- `x ↦ sign x · u` is monotone where `u ≥ 0` grows with `|x|`: it suffices to compare `u`, `u'` for loads of one sign -/
theorem signM_mul_le_signM_mul {x x' u u' : α} (hxx : x ≤ x') (hu : 0 ≤ u) (hu' : 0 ≤ u')
    (hpos : 0 < x → u ≤ u') (hneg : x' < 0 → u' ≤ u) : signM x * u ≤ signM x' * u' := by
  rcases lt_or_ge 0 x with hx | hx
  · rw [signM_pos hx, signM_pos (hx.trans_le hxx), one_mul, one_mul]; exact hpos hx
  · rcases lt_or_ge x' 0 with hx' | hx'
    · rw [signM_neg hx', signM_neg (hxx.trans_lt hx')]; linarith [hneg hx']
    · exact (mul_nonpos_of_nonpos_of_nonneg (signM_nonpos hx) hu).trans (mul_nonneg (signM_nonneg hx') hu')

theorem odd_map_zero {f : α → α} (hodd : ∀ x, f (-x) = -f x) : f 0 = 0 :=
  self_eq_neg.mp (by simpa only [neg_zero] using hodd 0)

theorem odd_eq_signM_mul_abs {f : α → α} (hodd : ∀ x, f (-x) = -f x) (x : α) : f x = signM x * f |x| := by
  rcases lt_trichotomy x 0 with h | rfl | h
  · rw [signM_neg h, abs_of_neg h, hodd]; ring
  · rw [signM_zero, zero_mul, odd_map_zero hodd]
  · rw [signM_pos h, abs_of_pos h, one_mul]

theorem edge_eq (n : ℕ) (maxL : α) (i : ℕ) : edge n maxL i = (i : α) / (n : α) * maxL := rfl

theorem edge_zero (n : ℕ) (maxL : α) : edge n maxL 0 = 0 := by simp [edge_eq]

theorem edge_top {n : ℕ} (hn : 0 < n) (maxL : α) : edge n maxL n = maxL := by
  have : (n : α) ≠ 0 := Nat.cast_ne_zero.mpr hn.ne'
  rw [edge_eq, div_self this, one_mul]

theorem edge_two_top {n : ℕ} (hn : 0 < n) (maxL : α) : edge n maxL (2 * n) = 2 * maxL := by
  have : (n : α) ≠ 0 := Nat.cast_ne_zero.mpr hn.ne'
  rw [edge_eq]; push_cast; field_simp

theorem edge_succ_sub {n : ℕ} (hn : 0 < n) (maxL : α) (i : ℕ) :
    edge n maxL (i + 1) - edge n maxL i = maxL / n := by
  have : (n : α) ≠ 0 := Nat.cast_ne_zero.mpr hn.ne'
  rw [edge_eq, edge_eq]; push_cast; field_simp; ring

theorem edge_strictMono {n : ℕ} (hn : 0 < n) {maxL : α} (hM : 0 < maxL) : StrictMono (edge n maxL) := by
  intro i j hij
  have hn' : (0 : α) < n := Nat.cast_pos.mpr hn
  rw [edge_eq, edge_eq]
  have : (i : α) < j := Nat.cast_lt.mpr hij
  exact mul_lt_mul_of_pos_right (div_lt_div_of_pos_right this hn') hM

theorem edge_nonneg {n : ℕ} (hn : 0 < n) {maxL : α} (hM : 0 < maxL) (i : ℕ) : 0 ≤ edge n maxL i := by
  rw [← edge_zero n maxL]; exact (edge_strictMono hn hM).monotone (Nat.zero_le i)

theorem edge_scale (n : ℕ) (c M : α) (i : ℕ) : edge n (c * M) i = c * edge n M i := by
  rw [edge_eq, edge_eq]; ring

variable {β : Type}

theorem lookupAbs_map (e : ℕ → α) (v : ℕ → β) (a : α) (l : List ℕ) :
    lookupAbs (l.map fun k => (e k, v k)) a = (l.find? fun k => a ≤ e k).map v := by
  induction l with
  | nil => rfl
  | cons k l ih =>
    rw [List.map_cons, lookupAbs, List.find?_cons]
    by_cases h : a ≤ e k
    · rw [if_pos h, decide_eq_true h]; rfl
    · rw [if_neg h, decide_eq_false h, ih]

/-- The class of `a` in the grid of `m` classes, 0-based: the first `k < m` with `a ≤ edge (k + 1)`. -/
def classOf (n : ℕ) (maxL : α) (m : ℕ) (a : α) : Option ℕ :=
  (List.range m).find? fun k => a ≤ edge n maxL (k + 1)

theorem binned_eq_classOf (n : ℕ) (maxL : α) (m : ℕ) (law : α → α) (x : α) :
    binned n maxL m law x = (classOf n maxL m |x|).map fun k => signM x * law (edge n maxL (k + 1)) := by
  rw [binned, lookup, absM_eq, table, lookupAbs_map (fun k => edge n maxL (k + 1)), Option.map_map]
  rfl

theorem classOf_eq_some_iff {n : ℕ} {maxL : α} {m : ℕ} {a : α} {k : ℕ} :
    classOf n maxL m a = some k ↔ a ≤ edge n maxL (k + 1) ∧ k < m ∧ ∀ j < k, edge n maxL (j + 1) < a := by
  simp only [classOf, List.find?_range_eq_some, decide_eq_true_eq, List.mem_range, Bool.not_eq_eq_eq_not, Bool.not_true,
    decide_eq_false_iff_not, not_le]

theorem classOf_eq_none_iff {n : ℕ} {maxL : α} {m : ℕ} {a : α} :
    classOf n maxL m a = none ↔ ∀ k < m, edge n maxL (k + 1) < a := by
  simp only [classOf, List.find?_range_eq_none, Bool.not_eq_eq_eq_not, Bool.not_true, decide_eq_false_iff_not, not_le]

theorem classOf_le {n : ℕ} {maxL : α} {m : ℕ} {a : α} {k : ℕ} (h : classOf n maxL m a = some k) :
    a ≤ edge n maxL (k + 1) :=
  (classOf_eq_some_iff.mp h).1

theorem exists_classOf {n : ℕ} {maxL : α} {m : ℕ} (hm : 1 ≤ m) {a : α} (ha : a ≤ edge n maxL m) :
    ∃ k, classOf n maxL m a = some k :=
  Option.isSome_iff_exists.mp (List.find?_isSome.mpr
    ⟨m - 1, List.mem_range.mpr (by omega), decide_eq_true (by rwa [Nat.sub_add_cancel hm])⟩)

/-- the load lies above the lower edge of its class; only the load `0` sits on it (class 1, `e₀ = 0`) -/
theorem classOf_lower {n : ℕ} {maxL : α} {m : ℕ} {x : α} {k : ℕ} (h : classOf n maxL m |x| = some k) :
    edge n maxL k < |x| ∨ (x = 0 ∧ k = 0) := by
  rcases k with _ | k
  · rcases eq_or_ne x 0 with h0 | h0
    · exact Or.inr ⟨h0, rfl⟩
    · left; rw [edge_zero]; exact abs_pos.mpr h0
  · exact Or.inl ((classOf_eq_some_iff.mp h).2.2 k (Nat.lt_succ_self k))

theorem classOf_lower_le {n : ℕ} {maxL : α} {m : ℕ} {x : α} {k : ℕ} (h : classOf n maxL m |x| = some k) :
    edge n maxL k ≤ |x| := by
  rcases classOf_lower h with hlt | ⟨rfl, rfl⟩
  · exact hlt.le
  · rw [edge_zero, abs_zero]

theorem classOf_lower_lt {n : ℕ} {maxL : α} {m : ℕ} {x : α} {k : ℕ} (h : classOf n maxL m |x| = some k) (hx : x ≠ 0) :
    edge n maxL k < |x| :=
  (classOf_lower h).resolve_right fun h0 => hx h0.1

/-- on a grid of increasing edges the class of `a ∈ (e_k, e_{k+1}]` is `k` (for `k = 0` the lower edge need not be checked) -/
theorem classOf_of_mem {n : ℕ} (hn : 0 < n) {maxL : α} (hM : 0 < maxL) {m k : ℕ} (hk : k < m) {a : α}
    (hlo : k = 0 ∨ edge n maxL k < a) (hle : a ≤ edge n maxL (k + 1)) : classOf n maxL m a = some k :=
  classOf_eq_some_iff.mpr ⟨hle, hk, fun j hj => by
    rcases hlo with rfl | hlo
    · omega
    · exact ((edge_strictMono hn hM).monotone (by omega : j + 1 ≤ k)).trans_lt hlo⟩

theorem classOf_scale {c : α} (hc : 0 < c) (n : ℕ) (M : α) (m : ℕ) (a : α) :
    classOf n (c * M) m (c * a) = classOf n M m a := by
  simp only [classOf, edge_scale, mul_le_mul_iff_right₀ hc]

theorem mapM_option_cons {γ δ : Type} (f : γ → Option δ) (a : γ) (l : List γ) :
    (a :: l).mapM f = match f a, l.mapM f with
      | some b, some bs => some (b :: bs)
      | _, _ => none := by
  rw [List.mapM_cons]
  cases f a <;> cases l.mapM f <;> rfl

theorem mapM_option_eq_some {γ δ : Type} (f : γ → Option δ) (g : γ → δ) :
    ∀ (l : List γ), (∀ p ∈ l, f p = some (g p)) → l.mapM f = some (l.map g)
  | [], _ => rfl
  | a :: l, h => by
    rw [mapM_option_cons, h a List.mem_cons_self, mapM_option_eq_some f g l fun p hp => h p (List.mem_cons_of_mem _ hp)]
    rfl

theorem mapM_option_eq_none_iff {γ δ : Type} (f : γ → Option δ) :
    ∀ (l : List γ), l.mapM f = none ↔ ∃ a ∈ l, f a = none
  | [] => by simp
  | a :: l => by
    rw [mapM_option_cons, List.exists_mem_cons_iff, ← mapM_option_eq_none_iff f l]
    cases f a <;> cases l.mapM f <;> simp

theorem zipWith_map_eq_map_zip {γ δ ε : Type} (f : γ → δ → ε) (g : δ → δ) :
    ∀ (xs : List γ) (Ms : List δ),
      List.zipWith f xs (Ms.map g) = (Ms.zip xs).map (fun p => f p.2 (g p.1))
  | [], Ms => by cases Ms <;> simp
  | x :: xs, [] => by simp
  | x :: xs, M :: Ms => by simp [zipWith_map_eq_map_zip f g xs Ms]

/-- over an ordered field there is no NaN: `fillna(0)` is the identity -/
theorem fillna0_eq (x : α) : fillna0 x = x := by simp [fillna0]

/-- `C07.binned_multi_table_eq_single` in the `column` form that `lookupFrom_tableMulti` needs. -/
theorem column_tableMulti (n : ℕ) (maxLs : List α) (m : ℕ) (law : α → α) (j : ℕ) (M : α)
    (hj : maxLs[j]? = some M) : column (tableMulti n maxLs m law) j = table n M m law := by
  simp only [column, tableMulti, table, List.map_map]
  apply List.map_congr_left
  intro k _
  simp [List.getD_eq_getElem?_getD, List.getElem?_map, hj]

/-- the per-point look-ups from point `pre.length` on are the single look-ups of these points -/
theorem lookupFrom_tableMulti (n m : ℕ) (law : α → α) :
    ∀ (xs pre Ms : List α), Ms.length = xs.length →
      lookupFrom (tableMulti n (pre ++ Ms) m law) pre.length xs
        = (Ms.zip xs).mapM (fun p => binned n p.1 m law p.2)
  | [], pre, Ms, h => by
    have : Ms = [] := List.length_eq_zero_iff.mp h
    subst this; rfl
  | x :: xs, pre, [], h => by simp at h
  | x :: xs, pre, M :: Ms, h => by
    have hcol : column (tableMulti n (pre ++ M :: Ms) m law) pre.length = table n M m law :=
      column_tableMulti n _ m law _ M (by simp)
    have ih := lookupFrom_tableMulti n m law xs (pre ++ [M]) Ms (by simpa using h)
    rw [List.append_assoc, List.singleton_append, List.length_append, List.length_singleton] at ih
    rw [lookupFrom, hcol, ih, List.zip_cons_cons, mapM_option_cons]
    rfl

end PylifeVerif.Notch
