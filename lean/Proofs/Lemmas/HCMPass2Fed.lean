/-
What pass 2 is fed.  For a trimmed signal `t = t0 ++ [z]` and a flushing first pass, pass 1 gets
`ext3 (dedup (0 :: t)) ++ [z]`, pass 2 gets `ext3 (dedup (z :: t)) ++ [z]` (`fedG_flush`); the largest value
fed to pass 1 bounds the signal and all that is fed, and behind it both passes are fed the same (`fed_tail`).
When the last sample `z` is a reversal of the repeated signal, `isRevLocal p z t0` for the last sample
`p` of `t0` (what `Insert.flag_iff` says of the flush flag `flushI`), the concatenation alternates strictly
(`fed_zig`) and pass 2 is fed one period of the cyclic reversal word (`fed2_rot`).
`trimI s` of a non-constant signal is such a `t` (`Insert.trimI_end`), and trimming keeps the
cyclic reversal word (`cyclicReversals_trimI`: what is cut off has no turning point).
-/
import Proofs.Lemmas.PeriodicRev
import Proofs.Lemmas.HCMFed

namespace PylifeVerif.C04
open PylifeVerif.Rainflow PylifeVerif.HCM PylifeVerif.HCM.Spec
open PylifeVerif.C02 (isRevLocal)

open HCM.Insert in
theorem fedG_flush (t t0 : List Int) (z : Int) (ht : t = t0 ++ [z]) :
    fedG true t = (ext3 (dedup (0 :: t)) ++ [z], ext3 (dedup (z :: t)) ++ [z]) := by
  have htne : t ≠ [] := by rw [ht]; simp
  have hl : (0 :: t).getLast (List.cons_ne_nil _ _) = z := by simp [ht]
  have hl2 : t.getLast htne = z := by simp [ht]
  refine Prod.ext ?_ ?_
  · rw [fedG1_eq, hl]
    simp only [if_true, vals]
    rw [vals_findTurns]
  · rw [fedG2_eq _ t htne, hl, hl2]
    simp only [if_true, vals, List.singleton_append]
    rw [vals_findTurns]

theorem mem_of_mem_ext3_dedup (a : Int) (t : List Int) : ∀ x ∈ ext3 (dedup (a :: t)), x ∈ t := by
  intro x hx
  rw [← vals_findTurns] at hx
  obtain ⟨q, hq, rfl⟩ := List.mem_map.1 hx
  obtain ⟨i, hi⟩ : ∃ i, q.1 = i + 1 := ⟨q.1 - 1, by have := (findTurns_idx _ q hq).1; omega⟩
  have h := findTurns_getElem? _ q hq
  rw [hi, List.getElem?_cons_succ] at h
  exact List.mem_of_getElem? h

theorem first_max (l : List Int) (hl : l ≠ []) :
    ∃ q0 M r0, l = q0 ++ M :: r0 ∧ (∀ x ∈ q0, x.natAbs < M.natAbs) ∧
      ∀ x ∈ l, x.natAbs ≤ M.natAbs := by
  induction l with
  | nil => exact absurd rfl hl
  | cons a l ih =>
    by_cases hl' : l = []
    · subst hl'
      exact ⟨[], a, [], rfl, by simp, by simp⟩
    · obtain ⟨q0, M, r0, h1, h2, h3⟩ := ih hl'
      by_cases ha : M.natAbs ≤ a.natAbs
      · refine ⟨[], a, l, rfl, by simp, ?_⟩
        intro x hx
        rcases List.mem_cons.1 hx with rfl | hx
        · exact Nat.le_refl _
        · exact Nat.le_trans (h3 x hx) ha
      · refine ⟨a :: q0, M, r0, by rw [h1]; rfl, ?_, ?_⟩
        · intro x hx
          rcases List.mem_cons.1 hx with rfl | hx
          · omega
          · exact h2 x hx
        · intro x hx
          rcases List.mem_cons.1 hx with rfl | hx
          · omega
          · exact h3 x hx

section
variable {t t0 : List Int} {z : Int} (ht : t = t0 ++ [z]) {M : Int}
include ht

theorem sample_le_fed (hM : ∀ x ∈ ext3 (dedup (0 :: t)) ++ [z], x.natAbs ≤ M.natAbs) :
    ∀ y ∈ t, y.natAbs ≤ M.natAbs := by
  intro y hy
  rcases findTurns_bound t y (List.mem_cons_of_mem _ hy) with ⟨x, hx, hxy⟩ | hl
  · refine Nat.le_trans hxy (hM _ (List.mem_append_left _ ?_))
    rw [← vals_findTurns]
    exact List.mem_map.2 ⟨x, hx, rfl⟩
  · exact Nat.le_trans hl (hM _ (by simp [ht]))

/-- Common tail of the two passes: a value `M` fed to pass 1 that bounds the signal occurs in pass 2
as well, with the same values behind it. -/
theorem fed_tail (hb : ∀ y ∈ t, y.natAbs ≤ M.natAbs) (hM : M ∈ ext3 (dedup (0 :: t)) ++ [z]) :
    ∃ q1 q2 r, ext3 (dedup (0 :: t)) ++ [z] = q1 ++ M :: r ∧ ext3 (dedup (z :: t)) ++ [z] = q2 ++ M :: r := by
  obtain ⟨e, t', het⟩ : ∃ e t', t = e :: t' := by
    rw [ht]
    cases t0 with
    | nil => exact ⟨z, [], rfl⟩
    | cons a r => exact ⟨a, r ++ [z], rfl⟩
  -- a first sample `a` in front of `t` adds at most the first sample of `t`
  have c : ∀ a, ext3 (dedup (a :: t)) ++ [z] =
      (if isRevLocal a e t' then [e] else []) ++ (ext3 (dedup t) ++ [z]) := fun a => by
    rw [het, ext3_dedup_cons_cons, List.append_assoc]
  by_cases hMC : M ∈ ext3 (dedup t) ++ [z]
  · obtain ⟨c1, r, hc⟩ := List.append_of_mem hMC
    exact ⟨_ ++ c1, _ ++ c1, r, by rw [c 0, hc, List.append_assoc], by rw [c z, hc, List.append_assoc]⟩
  · -- `M` is the first sample of the signal, reported in pass 1 only because of the start at 0:
    -- being the largest, it is a reversal behind `z` as well
    rw [c 0] at hM
    have hMpre := (List.mem_append.1 hM).resolve_right hMC
    split_ifs at hMpre with hc0
    · obtain rfl := List.mem_singleton.1 hMpre
      obtain ⟨b, hb', hbe⟩ := isRevLocal_iff.1 hc0
      have hzM : z ≠ M := fun h => hMC (by rw [h]; simp)
      have b1 := hb z (by rw [ht]; simp)
      have b2 := hb b (by rw [het]; exact List.mem_cons_of_mem _ (List.mem_of_find?_eq_some hb'))
      have hcz : isRevLocal z M t' = true := isRevLocal_iff.2 ⟨b, hb', by omega⟩
      exact ⟨[], [], ext3 (dedup t) ++ [z], by rw [c 0, if_pos hc0]; rfl, by rw [c z, if_pos hcz]; rfl⟩
    · simp at hMpre

end

section
variable {t t0 : List Int} {p z : Int} (ht : t = t0 ++ [z]) (hp : t0.getLast? = some p)
  (hr : isRevLocal p z t0 = true)
include ht hp hr

/-- the interior reversals of the signal started at `a` and tripled: pass 1, pass 2, and more -/
theorem ext3_triple (a : Int) :
    ext3 (dedup (a :: t ++ (t ++ t))) =
      (ext3 (dedup (a :: t)) ++ [z]) ++ (ext3 (dedup (z :: t)) ++ [z]) ++ ext3 (dedup (z :: t)) := by
  have e1 : a :: t ++ (t ++ t) = (a :: t0) ++ z :: (t ++ t) := by rw [ht]; simp
  have e2 : z :: (t ++ t) = (z :: t0) ++ z :: t := by rw [ht]; simp
  have e3 : ∀ a, (a :: t0) ++ [z] = a :: t := fun a => by rw [ht]; rfl
  have hl : ∀ a, (a :: t0).getLast? = some p := fun a => by rw [List.getLast?_cons, hp]; rfl
  have hrt : ∀ R, isRevLocal p z (t ++ R) = true := fun R => by
    rw [ht, List.append_assoc]; exact isRevLocal_append _ hr
  rw [e1, ext3_dedup_split _ p z _ (hl a) (hrt t), e2,
    ext3_dedup_split _ p z _ (hl z) (by simpa using hrt []), e3, e3]
  simp

theorem fed_zig :
    Zig ((ext3 (dedup (0 :: t)) ++ [z]) ++ (ext3 (dedup (z :: t)) ++ [z])) := by
  have := zig_ext3 _ (adjNe_dedup (0 :: t ++ (t ++ t)))
  rw [ext3_triple ht hp hr 0] at this
  exact zig_infix [] _ _ (by simpa using this)

/-- Pass 2 is fed one period of the cyclic reversal word (up to rotation). -/
theorem fed2_rot : (ext3 (dedup (z :: t)) ++ [z]) ~r cyclicReversals t := by
  subst ht
  have h := cyclicReversals_rotate [z] t0
  rw [List.singleton_append, cyclicReversals_cut z p t0 hp hr] at h
  exact (List.isRotated_concat z _).trans h

theorem fed_bound {M : Int} (hb : ∀ y ∈ t, y.natAbs ≤ M.natAbs) :
    (∀ x ∈ (ext3 (dedup (0 :: t)) ++ [z]) ++ (ext3 (dedup (z :: t)) ++ [z]), x.natAbs ≤ M.natAbs) ∧
      M ≠ 0 := by
  have hzt : z ∈ t := by rw [ht]; simp
  refine ⟨fun x hx => hb x ?_, fun h0 => ?_⟩
  · simp only [List.mem_append, List.mem_singleton] at hx
    rcases hx with (hx | hx) | (hx | hx)
    · exact mem_of_mem_ext3_dedup 0 t x hx
    · exact hx ▸ hzt
    · exact mem_of_mem_ext3_dedup z t x hx
    · exact hx ▸ hzt
  · obtain ⟨q, _, he⟩ := isRevLocal_iff.1 hr
    have hp0 := hb p (by rw [ht]; exact List.mem_append_left _ (List.mem_of_getLast? hp))
    have hz0 := hb z hzt
    rw [h0] at hp0 hz0
    omega

end

section Trim
open HCM.Insert

/-- Trimming keeps the cyclic reversal word: the stretch `d` that is cut off goes on in one
direction from the last reversal `z` to the first sample `c` of the next period. -/
theorem cyclicReversals_trimI (s : List Int) (h2 : ∃ a ∈ s, ∃ b ∈ s, a ≠ b) :
    cyclicReversals (trimI s) ~r cyclicReversals s := by
  obtain ⟨c, P, z, d, rfl, ht, _, hnil⟩ := trimI_cut s h2
  have e := cyclicReversals_skip_mono d z c P (findTurns_nil_mono _ hnil)
  have r1 := cyclicReversals_rotate (c :: P) [z]
  have r2 := cyclicReversals_rotate (z :: d) (c :: P)
  rw [List.cons_append, e] at r2
  rw [ht]
  exact r1.trans r2

end Trim

end PylifeVerif.C04
