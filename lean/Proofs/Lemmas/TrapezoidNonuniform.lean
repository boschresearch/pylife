/-
Property C15, `pf_arbitrary_load` = `np.trapezoid(load_pdf * cdf_S(load_values), x = load_values)` on ARBITRARY
(non-uniform) increasing sample points: error bound of the model's list trapezoid against the integral, and
convergence when the largest step tends to zero.
-/
import Proofs.Lemmas.Trapezoid

namespace PylifeVerif.TrapezoidLemmas

open PylifeVerif.FailureProb

theorem nodes_mono (x : ℕ → ℝ) (n : ℕ) (hx : ∀ k < n, x k ≤ x (k + 1)) :
    ∀ i j, i ≤ j → j ≤ n → x i ≤ x j := fun _ _ hij hj =>
  monotoneOn_of_le_add_one Set.ordConnected_Iic (fun k _ _ hk => hx k hk) (hij.trans hj) hj hij

theorem trapezoid_panel_error_le (f : ℝ → ℝ) (hf : ContDiff ℝ 2 f) {a b : ℝ} (hab : a ≤ b) {ζ : ℝ}
    (hζ : ∀ y ∈ Set.Icc a b, |iteratedDeriv 2 f y| ≤ ζ) :
    |(b - a) * (f b + f a) / 2 - ∫ y in a..b, f y| ≤ (b - a) ^ 3 * ζ / 12 := by
  rcases hab.eq_or_lt with h | h
  · subst h; simp
  have hζ0 : 0 ≤ ζ := (abs_nonneg _).trans (hζ a ⟨le_refl _, hab⟩)
  -- Mathlib's `trapezoidal_error_le_of_c2` asks for the bound at EVERY real `y`, also outside `[a, b]`, where the
  -- derivative within the interval is `0` by convention
  have hb : ∀ y, |iteratedDerivWithin 2 f (Set.uIcc a b) y| ≤ ζ := by
    intro y
    rw [Set.uIcc_of_le hab]
    by_cases hy : y ∈ Set.Icc a b
    · rw [iteratedDerivWithin_eq_iteratedDeriv (uniqueDiffOn_Icc h) hf.contDiffAt hy]
      exact hζ y hy
    · rw [iteratedDerivWithin_succ, derivWithin_zero_of_notMem_closure
        (by rwa [closure_Icc]), abs_zero]
      exact hζ0
  have key := trapezoidal_error_le_of_c2 (f := f) (a := a) (b := b) hf.contDiffOn hb
    (N := 1) one_pos
  rw [trapezoidal_error, trapezoidal_integral_one, abs_of_nonneg (sub_nonneg.mpr hab)] at key
  have e : (b - a) * (f b + f a) / 2 = (b - a) / 2 * (f a + f b) := by ring
  rw [e]
  refine key.trans_eq ?_
  rw [Nat.cast_one, one_pow, mul_one]

/-- the composite rule on increasing nodes, repeated nodes allowed: the panel bounds summed -/
theorem trapezoid_nonuniform_error_le (f : ℝ → ℝ) (hf : ContDiff ℝ 2 f) (x : ℕ → ℝ) (n : ℕ)
    (hx : ∀ k < n, x k ≤ x (k + 1)) {ζ : ℝ} (hζ : ∀ y ∈ Set.Icc (x 0) (x n), |iteratedDeriv 2 f y| ≤ ζ) :
    |trapezoid ((List.range (n + 1)).map fun k => (x k, f (x k))) - ∫ y in (x 0)..(x n), f y|
      ≤ ∑ k ∈ Finset.range n, (x (k + 1) - x k) ^ 3 * ζ / 12 := by
  have hmono := nodes_mono x n hx
  rw [trapezoid_range x (fun k => f (x k)) n,
    ← intervalIntegral.sum_integral_adjacent_intervals
      (fun k _ => hf.continuous.intervalIntegrable (x k) (x (k + 1))),
    ← Finset.sum_sub_distrib]
  refine (Finset.abs_sum_le_sum_abs _ _).trans (Finset.sum_le_sum fun k hk => ?_)
  have hk' : k < n := Finset.mem_range.mp hk
  refine trapezoid_panel_error_le f hf (hx k hk') fun y hy => hζ y ⟨?_, ?_⟩
  · exact (hmono 0 k (Nat.zero_le _) hk'.le).trans hy.1
  · exact hy.2.trans (hmono (k + 1) n hk' (le_refl _))

theorem trapezoid_nonuniform_error_le_mesh (f : ℝ → ℝ) (hf : ContDiff ℝ 2 f) (x : ℕ → ℝ) (n : ℕ)
    (hx : ∀ k < n, x k ≤ x (k + 1)) {ζ : ℝ} (hζ : ∀ y ∈ Set.Icc (x 0) (x n), |iteratedDeriv 2 f y| ≤ ζ)
    {δ : ℝ} (hδ : ∀ k < n, x (k + 1) - x k ≤ δ) :
    |trapezoid ((List.range (n + 1)).map fun k => (x k, f (x k))) - ∫ y in (x 0)..(x n), f y|
      ≤ δ ^ 2 * (x n - x 0) * ζ / 12 := by
  refine (trapezoid_nonuniform_error_le f hf x n hx hζ).trans ?_
  have hζ0 : 0 ≤ ζ :=
    (abs_nonneg _).trans (hζ (x 0) ⟨le_refl _, nodes_mono x n hx 0 n (Nat.zero_le _) (le_refl _)⟩)
  rw [← Finset.sum_range_sub x n, Finset.mul_sum, Finset.sum_mul, Finset.sum_div]
  refine Finset.sum_le_sum fun k hk => ?_
  have hk' : k < n := Finset.mem_range.mp hk
  have h0 : 0 ≤ x (k + 1) - x k := sub_nonneg.mpr (hx k hk')
  refine div_le_div_of_nonneg_right (mul_le_mul_of_nonneg_right ?_ hζ0) (by norm_num)
  rw [pow_succ]
  exact mul_le_mul_of_nonneg_right (pow_le_pow_left₀ h0 (hδ k hk') 2) h0

theorem trapezoid_nonuniform_tendsto (f : ℝ → ℝ) (hf : ContDiff ℝ 2 f) (a b : ℝ)
    (x : ℕ → ℕ → ℝ) (n : ℕ → ℕ) (δ : ℕ → ℝ)
    (h0 : ∀ N, x N 0 = a) (hn : ∀ N, x N (n N) = b) (hmono : ∀ N, ∀ k < n N, x N k ≤ x N (k + 1))
    (hstep : ∀ N, ∀ k < n N, x N (k + 1) - x N k ≤ δ N) (hδ : Filter.Tendsto δ Filter.atTop (nhds 0)) :
    Filter.Tendsto (fun N => trapezoid ((List.range (n N + 1)).map fun k => (x N k, f (x N k))))
      Filter.atTop (nhds (∫ y in a..b, f y)) := by
  obtain ⟨ζ, hζ⟩ : ∃ ζ : ℝ, ∀ y ∈ Set.Icc a b, |iteratedDeriv 2 f y| ≤ ζ :=
    isCompact_Icc.exists_bound_of_continuousOn (hf.continuous_iteratedDeriv 2 le_rfl).continuousOn
  refine tendsto_of_abs_sub_le (bound := fun N => δ N ^ 2 * (b - a) * ζ / 12) (Filter.Eventually.of_forall fun N => ?_) ?_
  · have key := trapezoid_nonuniform_error_le_mesh f hf (x N) (n N) (hmono N) (ζ := ζ)
      (by rw [h0, hn]; exact hζ) (hstep N)
    rwa [h0, hn] at key
  · simpa using (((hδ.pow 2).mul_const (b - a)).mul_const ζ).div_const 12

/-- non-vacuity: `f y = y²` (`f'' = 2`), the non-uniform nodes `x k = k²/4`, `k = 0..3` (steps 1/4, 3/4, 5/4) -/
example :
    |trapezoid ((List.range (3 + 1)).map fun k : ℕ => (((k : ℝ) ^ 2 / 4), (((k : ℝ) ^ 2 / 4)) ^ 2))
        - ∫ y in (((0 : ℕ) : ℝ) ^ 2 / 4)..(((3 : ℕ) : ℝ) ^ 2 / 4), y ^ 2|
      ≤ (5 / 4) ^ 2 * ((((3 : ℕ) : ℝ) ^ 2 / 4) - (((0 : ℕ) : ℝ) ^ 2 / 4)) * 2 / 12 := by
  refine trapezoid_nonuniform_error_le_mesh (fun y => y ^ 2) (contDiff_id.pow 2)
    (fun k : ℕ => (k : ℝ) ^ 2 / 4) 3 ?_ (ζ := 2) ?_ (δ := 5 / 4) ?_
  · intro k _
    exact div_le_div_of_nonneg_right
      (pow_le_pow_left₀ (Nat.cast_nonneg k) (Nat.cast_le.2 k.le_succ) 2) (by norm_num)
  · intro y _
    have : deriv (fun y : ℝ => y ^ 2) = fun y => 2 * y := by
      funext z; simp
    rw [iteratedDeriv_succ, iteratedDeriv_one, this, deriv_const_mul_field, deriv_id'', mul_one, abs_two]
  · intro k hk
    interval_cases k <;> norm_num

end PylifeVerif.TrapezoidLemmas
