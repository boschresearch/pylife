/-
What the loop of `_hcm_process_sample` (`HCM.processSample`) decides.

All its decisions compare first-node loads.  `verdict` takes them on any kind of residual point with a
deciding load `ld`: the hystereses that the new turning point closes, the residuals left, and how the
turning point is reached from them (`Outcome`).  The detector (`processSample_eq` in `HCMBasic.lean`), the
guideline's `Spec.gStep` and the load-only machine of `HCMPass2Abs.lean` each carry this verdict out on
their own kind of state.  A map of the points under which the comparisons come out the same maps the
verdict (`verdict_map`): this is why the detector on one node of a batch, on mirrored loads, on loads
only, and the guideline all decide alike.
Outside HCM, the closing loops of the FKM detector model and of its reference rule (C02, `Lemmas/Fkm.lean`) are
`closings` on plain loads: `closings_cons_cons`, in terms of `Rainflow.absDiff`, is there for them and for `HCMPass2Abs`.
No Mathlib import.
-/
import Model.Rainflow.Detectors

namespace PylifeVerif.HCM

/-- The hystereses `(p0, p1)` that a turning point with load `x` closes, in order, and the residuals left
(top first): the top two residuals close as long as more than `ir` are open and the range from the top
one to `x` is not smaller than theirs. -/
def closings {P : Type} (ld : P → Int) (x : Int) (ir : Nat) : List P → List (P × P) × List P
  | p1 :: p0 :: rest =>
    if ir < rest.length + 2 ∧ ¬ (x - ld p1).natAbs < (ld p1 - ld p0).natAbs then
      ((p0, p1) :: (closings ld x ir rest).1, (closings ld x ir rest).2)
    else ([], p1 :: p0 :: rest)
  | l => ([], l)

/-- How the turning point is reached once nothing more closes: on the primary path; on the primary path
beyond the largest load so far, where the top residual is counted as a half hysteresis (Memory 3); or on a
secondary branch from the top residual. -/
inductive Outcome (P : Type)
  | primary
  | half (top : P)
  | secondary (top : P)

def Outcome.map {P Q : Type} (f : P → Q) : Outcome P → Outcome Q
  | .primary => .primary
  | .half top => .half (f top)
  | .secondary top => .secondary (f top)

/-- `lmax` is the largest absolute load so far. -/
def outcome {P : Type} (x : Int) (ir lmax : Nat) : List P → Outcome P
  | top :: tl =>
    if (top :: tl).length < ir then .primary
    else if (top :: tl).length = ir ∧ x.natAbs > lmax then .half top
    else .secondary top
  | [] => .primary

structure Verdict (P : Type) where
  closed : List (P × P)
  rest : List P
  out : Outcome P

def Verdict.map {P Q : Type} (f : P → Q) (v : Verdict P) : Verdict Q :=
  ⟨v.closed.map (Prod.map f f), v.rest.map f, v.out.map f⟩

/-- `ir` after the step: Memory 3 puts one more residual on the primary path -/
def Verdict.ir {P : Type} (v : Verdict P) (ir : Nat) : Nat :=
  match v.out with
  | .half _ => ir + 1
  | _ => ir

def verdict {P : Type} (ld : P → Int) (x : Int) (ir lmax : Nat) (l : List P) : Verdict P :=
  ⟨(closings ld x ir l).1, (closings ld x ir l).2, outcome x ir lmax (closings ld x ir l).2⟩

/-- the `(min, max)` load ranges of the hystereses of a verdict on bare loads -/
def ranges (v : Verdict Int) : List (Int × Int) :=
  (v.closed.map fun q => (min q.1 q.2, max q.1 q.2)) ++
    match v.out with
    | .half j => [(-(j.natAbs : Int), (j.natAbs : Int))]
    | _ => []

theorem Verdict.ir_map {P Q : Type} (f : P → Q) (v : Verdict P) (ir : Nat) : (v.map f).ir ir = v.ir ir := by
  obtain ⟨_, _, _ | _ | _⟩ := v <;> rfl

theorem Verdict.le_ir {P : Type} (v : Verdict P) (ir : Nat) : ir ≤ v.ir ir := by
  obtain ⟨_, _, _ | _ | _⟩ := v
  · exact Nat.le_refl _
  · exact Nat.le_succ _
  · exact Nat.le_refl _

/-- the loops match their residuals against `p1 :: p0 :: rest`; this is what the other alternative says -/
theorem length_le_one_of_ne_cons_cons {α : Type} : ∀ {l : List α}, (∀ a b r, l = a :: b :: r → False) → l.length ≤ 1
  | [], _ => Nat.zero_le 1
  | [_], _ => Nat.le_refl 1
  | a :: b :: r, h => (h a b r rfl).elim

section
variable {P : Type} (ld : P → Int) (x : Int) (ir lmax : Nat)

theorem closings_of_le : ∀ l : List P, l.length ≤ ir → closings ld x ir l = ([], l)
  | [], _ => rfl
  | [_], _ => rfl
  | _ :: _ :: rest, h => by rw [closings, if_neg fun hc => Nat.not_lt.2 h hc.1]

theorem closings_suffix : ∀ l : List P, ∃ pre, l = pre ++ (closings ld x ir l).2
  | [] => ⟨[], rfl⟩
  | [_] => ⟨[], rfl⟩
  | p1 :: p0 :: rest => by
    rw [closings]
    split
    · obtain ⟨pre, h⟩ := closings_suffix rest
      exact ⟨p1 :: p0 :: pre, congrArg (p1 :: p0 :: ·) h⟩
    · exact ⟨[], rfl⟩

theorem closings_len : ∀ l : List P, ir ≤ l.length + 1 → ir ≤ (closings ld x ir l).2.length + 1
  | [], h => h
  | [_], h => h
  | _ :: _ :: rest, h => by
    rw [closings]
    split
    · next hc => exact closings_len rest (Nat.le_of_lt_succ hc.1)
    · exact h

theorem closings_forall (Q : P → Prop) : ∀ l : List P, (∀ p ∈ l, Q p) →
    (∀ q ∈ (closings ld x ir l).1, Q q.1 ∧ Q q.2) ∧ ∀ p ∈ (closings ld x ir l).2, Q p
  | [], h => ⟨nofun, h⟩
  | [_], h => ⟨nofun, h⟩
  | p1 :: p0 :: rest, h => by
    obtain ⟨h1, h0, hr⟩ : Q p1 ∧ Q p0 ∧ ∀ p ∈ rest, Q p := by
      simpa only [List.forall_mem_cons] using h
    rw [closings]
    split
    · exact ⟨List.forall_mem_cons.mpr ⟨⟨h0, h1⟩, (closings_forall Q rest hr).1⟩, (closings_forall Q rest hr).2⟩
    · exact ⟨nofun, h⟩

theorem outcome_primary {l : List P} (h : l.length < ir) : outcome x ir lmax l = .primary := by
  cases l with
  | nil => rfl
  | cons top tl => exact if_pos h

theorem outcome_half {l : List P} {top : P} {tl : List P} (hl : l = top :: tl) (h : l.length = ir)
    (hx : x.natAbs > lmax) : outcome x ir lmax l = .half top := by
  subst hl
  rw [outcome, if_neg (by omega), if_pos ⟨h, hx⟩]

theorem outcome_secondary {l : List P} {top : P} {tl : List P} (hl : l = top :: tl) (h : ir ≤ l.length)
    (hx : ¬ (l.length = ir ∧ x.natAbs > lmax)) : outcome x ir lmax l = .secondary top := by
  subst hl
  rw [outcome, if_neg (by omega), if_neg hx]

theorem verdict_out (hir : 1 ≤ ir) (l : List P) :
    match (verdict ld x ir lmax l).out with
    | .primary => (verdict ld x ir lmax l).rest.length < ir
    | .half top => (∃ tl, (verdict ld x ir lmax l).rest = top :: tl) ∧ (verdict ld x ir lmax l).rest.length = ir
    | .secondary top =>
      (∃ tl, (verdict ld x ir lmax l).rest = top :: tl) ∧ ir ≤ (verdict ld x ir lmax l).rest.length := by
  unfold verdict
  dsimp only
  generalize (closings ld x ir l).2 = r
  cases r with
  | nil => exact hir
  | cons top tl =>
    rw [outcome]
    by_cases h1 : (top :: tl).length < ir
    · rw [if_pos h1]; exact h1
    · rw [if_neg h1]
      by_cases h2 : (top :: tl).length = ir ∧ x.natAbs > lmax
      · rw [if_pos h2]; exact ⟨⟨tl, rfl⟩, h2.1⟩
      · rw [if_neg h2]; exact ⟨⟨tl, rfl⟩, Nat.le_of_not_lt h1⟩

theorem closings_cons_cons (j i : Int) (rest : List Int) :
    closings id x ir (j :: i :: rest) =
      if ir < rest.length + 2 ∧ ¬ Rainflow.absDiff x j < Rainflow.absDiff j i then
        ((i, j) :: (closings id x ir rest).1, (closings id x ir rest).2)
      else ([], j :: i :: rest) := by
  rw [closings]; rfl

variable {Q : Type} (f : P → Q) (ld' : Q → Int) (x' : Int) (lmax' : Nat)

theorem closings_map : ∀ l : List P,
    (∀ p1 ∈ l, ∀ p0 ∈ l, ((x - ld p1).natAbs < (ld p1 - ld p0).natAbs ↔
      (x' - ld' (f p1)).natAbs < (ld' (f p1) - ld' (f p0)).natAbs)) →
    closings ld' x' ir (l.map f) =
      ((closings ld x ir l).1.map (Prod.map f f), (closings ld x ir l).2.map f)
  | [], _ => rfl
  | [_], _ => rfl
  | p1 :: p0 :: rest, h => by
    have ih := closings_map rest fun a ha b hb =>
      h a (List.mem_cons_of_mem _ (List.mem_cons_of_mem _ ha)) b
        (List.mem_cons_of_mem _ (List.mem_cons_of_mem _ hb))
    simp only [List.map_cons, closings, List.length_map,
      ← h p1 List.mem_cons_self p0 (List.mem_cons_of_mem _ List.mem_cons_self)]
    split
    · rw [ih]; rfl
    · rfl

theorem outcome_map (hmax : x.natAbs > lmax ↔ x'.natAbs > lmax') :
    ∀ l : List P, outcome x' ir lmax' (l.map f) = (outcome x ir lmax l).map f
  | [] => rfl
  | top :: tl => by
    simp only [List.map_cons, outcome, List.length_cons, List.length_map, hmax]
    split
    · rfl
    · split <;> rfl

theorem verdict_map (l : List P)
    (hext : ∀ p1 ∈ l, ∀ p0 ∈ l, ((x - ld p1).natAbs < (ld p1 - ld p0).natAbs ↔
      (x' - ld' (f p1)).natAbs < (ld' (f p1) - ld' (f p0)).natAbs))
    (hmax : x.natAbs > lmax ↔ x'.natAbs > lmax') :
    verdict ld' x' ir lmax' (l.map f) = (verdict ld x ir lmax l).map f := by
  unfold verdict Verdict.map
  rw [closings_map ld x ir f ld' x' l hext, outcome_map x ir lmax f x' lmax' hmax]

end

end PylifeVerif.HCM
