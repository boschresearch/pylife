/- `Model/Miner.lean` over ℝ: the preconditions of the C11 theorems (`ValidCurve`, `ValidColl`, `Loaded`), the model's list
   functions in Mathlib's terms (`sumL`, `damageSum`, `total` as `List.sum`; `pyMax` / `pyMin`; `maxL`, `maxOcc` by their
   specifications), and `effectiveDamageSum` as `min (max …) …`.  Needs nothing of the Wöhler curve; what does
   (the native curves) is in `Lemmas/MinerHard.lean`. -/
import Model.Miner
import Proofs.RealNum
import Mathlib.Tactic.NormNum
import Mathlib.Algebra.BigOperators.Group.List.Basic
import Mathlib.Algebra.Order.BigOperators.Group.List

namespace PylifeVerif.Miner
open PylifeVerif

/-- Preconditions on a curve: the real code divides by `SD` and by `N ∝ ND`. -/
structure ValidCurve (c : Curve ℝ) : Prop where
  SD_pos : 0 < c.SD
  ND_pos : 0 < c.ND

/-- Amplitudes and cycle counts are non-negative (negative amplitudes give NaN in `np.power`). -/
def ValidColl (l : Coll ℝ) : Prop := ∀ p ∈ l, 0 ≤ p.1 ∧ 0 ≤ p.2

/-- Some class is occupied and carries load: without it the real code returns NaN/inf
    (`S[hi > 0].max()` of nothing, division by a zero amplitude). -/
def Loaded (l : Coll ℝ) : Prop := ∃ p ∈ l, 0 < p.2 ∧ 0 < p.1

theorem sumL_eq_sum (l : List ℝ) : sumL l = l.sum := by
  induction l with
  | nil => norm_num [sumL]
  | cons x xs ih => simp [sumL, ih]

theorem damageSum_eq (c : Curve ℝ) (l : Coll ℝ) : damageSum c l = (l.map (damageTerm c)).sum := by
  simp [damageSum, damage, sumL_eq_sum]

theorem total_eq (l : Coll ℝ) : total l = (l.map Prod.snd).sum := by
  simp [total, sumL_eq_sum]

theorem pyMax_eq (a b : ℝ) : pyMax a b = max a b := (max_def_lt a b).symm

theorem pyMin_eq (a b : ℝ) : pyMin a b = min a b := (min_def_lt' a b).symm

theorem maxL_cons (x : ℝ) (xs : List ℝ) : maxL (x :: xs) = xs.foldl max x := by
  -- the model writes the step of the fold out; it is `pyMax`
  show xs.foldl pyMax x = _
  rw [funext₂ pyMax_eq]

theorem maxL_spec {l : List ℝ} (h : l ≠ []) : maxL l ∈ l ∧ ∀ y ∈ l, y ≤ maxL l := by
  cases l with
  | nil => exact absurd rfl h
  | cons x xs => exact List.max?_eq_some_iff.mp (by rw [maxL_cons, List.max?_cons'])

theorem mem_occupied {l : Coll ℝ} {p : ℝ × ℝ} : p ∈ occupied l ↔ p ∈ l ∧ 0 < p.2 := by
  simp only [occupied, List.mem_filter, decide_eq_true_eq]
  norm_num

theorem maxOcc_spec {l : Coll ℝ} (h : ∃ p ∈ l, 0 < p.2) :
    (∃ q ∈ l, 0 < q.2 ∧ q.1 = maxOcc l) ∧ ∀ p ∈ l, 0 < p.2 → p.1 ≤ maxOcc l := by
  obtain ⟨p, hp, hp2⟩ := h
  obtain ⟨hmem, hle⟩ := maxL_spec (List.ne_nil_of_mem (List.mem_map_of_mem (f := Prod.fst) (mem_occupied.mpr ⟨hp, hp2⟩)))
  constructor
  · obtain ⟨q, hq, hq1⟩ := List.mem_map.mp hmem
    obtain ⟨hq, hq2⟩ := mem_occupied.mp hq
    exact ⟨q, hq, hq2, hq1⟩
  · intro r hr hr2
    exact hle _ (List.mem_map_of_mem (mem_occupied.mpr ⟨hr, hr2⟩))

theorem Loaded.exists_occupied {l : Coll ℝ} (h : Loaded l) : ∃ p ∈ l, 0 < p.2 :=
  let ⟨p, hp, hp2, _⟩ := h
  ⟨p, hp, hp2⟩

theorem maxOcc_pos {l : Coll ℝ} (h : Loaded l) : 0 < maxOcc l := by
  obtain ⟨p, hp, hp2, hp1⟩ := h
  exact lt_of_lt_of_le hp1 ((maxOcc_spec ⟨p, hp, hp2⟩).2 p hp hp2)

theorem sum_map_pos {l : Coll ℝ} {f : ℝ × ℝ → ℝ} (hnn : ∀ p ∈ l, 0 ≤ f p) {q : ℝ × ℝ} (hq : q ∈ l)
    (hpos : 0 < f q) : 0 < (l.map f).sum := by
  refine lt_of_lt_of_le hpos (List.single_le_sum (fun x hx => ?_) _ (List.mem_map_of_mem hq))
  obtain ⟨r, hr, rfl⟩ := List.mem_map.mp hx
  exact hnn r hr

theorem total_pos {l : Coll ℝ} (hl : ValidColl l) (h : ∃ p ∈ l, 0 < p.2) : 0 < total l := by
  obtain ⟨p, hp, hp2⟩ := h
  rw [total_eq]
  exact sum_map_pos (fun q hq => (hl q hq).2) hp hp2

theorem effectiveDamageSum_eq (A : ℝ) : effectiveDamageSum A = min (max (3 / 10) (2 / A ^ (1 / 4 : ℝ))) 1 := by
  rw [effectiveDamageSum, pyMin_eq, pyMax_eq, transc_pow, show (0.3 : ℝ) = 3 / 10 by norm_num,
    show (0.25 : ℝ) = 1 / 4 by norm_num, lit_two, lit_one]

end PylifeVerif.Miner
