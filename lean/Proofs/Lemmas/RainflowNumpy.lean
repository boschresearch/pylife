/-
The numpy formulation of `find_turns` computes the list-level reversals `revList` (for
`C03.findTurns_eq_numpy`).

Peak turns are the positions `i` of the difference list `d` with `d[i] * d[i+1] < 0`.  Plateau turns
come from pairing the start and the end edges of the runs of zero differences.  Start and end edges
alternate (`Alt`), so the `cut_ends` / `cut_starts` rules amount to zipping every start with the next
end (`platOf_eq`), and such a pair is kept iff the first non-zero difference behind the start has
the opposite sign (`plat_scan`).  Each selection is a scan `scanIdx g` of the difference list with a test
`g` on an entry and what lies behind it.  Both kinds together select `i` iff the first non-zero difference
behind `d[i]` has the opposite sign (`isRevD`, `numpy_select`), which is `revList` read on differences
(`scan_revList`).  Multiplying signs instead of differences selects the same
(`findTurnsNumpy_eq_prod`).
-/
import Proofs.Lemmas.Reversals
import Mathlib.Data.List.Basic
import Mathlib.Data.Int.Order.Basic

namespace PylifeVerif.Numpy
open PylifeVerif.Rainflow PylifeVerif.C02

/-- `Alt b lb S E`: the start edges `S` and end edges `E` are strictly increasing, all `≥ lb`, and
alternate; `b = true` means the next edge (if any) is an end, `b = false` that it is a start. -/
inductive Alt : Bool → Nat → List Nat → List Nat → Prop
  | nil (b : Bool) (lb : Nat) : Alt b lb [] []
  | start {lb s : Nat} {S E : List Nat} : lb ≤ s → Alt true (s+1) S E → Alt false lb (s :: S) E
  | stop {lb e : Nat} {S E : List Nat} : lb ≤ e → Alt false (e+1) S E → Alt true lb S (e :: E)

theorem Alt.mono {b : Bool} {lb lb' : Nat} {S E : List Nat} (h : Alt b lb S E) (hl : lb' ≤ lb) :
    Alt b lb' S E := by
  cases h with
  | nil => exact Alt.nil _ _
  | start h1 h2 => exact Alt.start (by omega) h2
  | stop h1 h2 => exact Alt.stop (by omega) h2

theorem Alt.lb_le {b : Bool} {lb : Nat} {S E : List Nat} (h : Alt b lb S E) :
    (∀ x ∈ S, lb ≤ x) ∧ (∀ x ∈ E, lb ≤ x) := by
  induction h with
  | nil => simp
  | start h1 _ ih =>
    exact ⟨List.forall_mem_cons.mpr ⟨h1, fun x hx => Nat.le_trans (Nat.le_succ_of_le h1) (ih.1 x hx)⟩,
      fun x hx => Nat.le_trans (Nat.le_succ_of_le h1) (ih.2 x hx)⟩
  | stop h1 _ ih =>
    exact ⟨fun x hx => Nat.le_trans (Nat.le_succ_of_le h1) (ih.1 x hx),
      List.forall_mem_cons.mpr ⟨h1, fun x hx => Nat.le_trans (Nat.le_succ_of_le h1) (ih.2 x hx)⟩⟩

theorem Alt.length {b : Bool} {lb : Nat} {S E : List Nat} (h : Alt b lb S E) :
    if b then (E.length = S.length ∨ E.length = S.length + 1)
    else (S.length = E.length ∨ S.length = E.length + 1) := by
  induction h with
  | nil b => cases b <;> simp
  | start _ _ ih => simp only [if_true, Bool.false_eq_true, if_false, List.length_cons] at ih ⊢; omega
  | stop _ _ ih => simp only [if_true, Bool.false_eq_true, if_false, List.length_cons] at ih ⊢; omega

/-- If the last start lies behind the last end, the last edge is a start, and pairing every start with
the next end leaves that start without a partner. -/
theorem Alt.cut {b : Bool} {lb : Nat} {S E : List Nat} (h : Alt b lb S E) :
    S ≠ [] → S.getLast! > E.getLast! → (if b then E.tail else E).length + 1 ≤ S.length := by
  induction h with
  | nil => intro hS; exact absurd rfl hS
  | @start lb s S E h1 h2 ih =>
    intro _ hg
    simp only [Bool.false_eq_true, if_false, if_true, List.length_cons] at ih ⊢
    cases S with
    | nil =>
      cases h2 with
      | nil => simp
      | stop h3 h4 =>
        cases h4
        simp [List.getLast!_eq_getLast?_getD] at hg
        omega
    | cons s' S' =>
      rw [getLast!_cons_cons] at hg
      have := ih (by simp) hg
      simp only [List.length_tail, List.length_cons] at this ⊢
      omega
  | @stop lb e S E h1 h2 ih =>
    intro hS hg
    simp only [Bool.false_eq_true, if_false, if_true, List.tail_cons] at ih ⊢
    cases E with
    | nil => exact List.length_pos_iff.mpr hS
    | cons e' E' =>
      rw [getLast!_cons_cons] at hg
      exact ih hS hg

theorem zip_dropLast (S E : List Nat) (h : E.length + 1 ≤ S.length) :
    S.dropLast.zip E = S.zip E := by
  rw [List.zip_eq_zip_take_min (l₁ := S), List.zip_eq_zip_take_min (l₁ := S.dropLast), List.length_dropLast,
    Nat.min_eq_right (Nat.le_of_succ_le h), Nat.min_eq_right (Nat.le_sub_one_of_lt h), List.dropLast_eq_take,
    List.take_take, Nat.min_eq_left (Nat.le_sub_one_of_lt h)]

/-- the test on a pair of a start edge and an end edge: the differences before and behind the
plateau have opposite signs -/
def condD (D : List Int) (p : Nat × Nat) : Bool := decide (D[p.1]! * D[p.2+1]! < 0)

/-- the starts that are kept when `S` is paired with `E` -/
def zf (D : List Int) (S E : List Nat) : List Nat := ((S.zip E).filter (condD D)).map (·.1)

theorem zf_nil_right (D : List Int) (S : List Nat) : zf D S [] = [] := by simp [zf]

theorem zf_cons (D : List Int) (s e : Nat) (S E : List Nat) :
    zf D (s :: S) (e :: E) = (if D[s]! * D[e+1]! < 0 then [s] else []) ++ zf D S E := by
  by_cases h : D[s]! * D[e+1]! < 0
  · have hc : condD D (s, e) = true := decide_eq_true h
    rw [if_pos h, zf, List.zip_cons_cons, List.filter_cons_of_pos hc]; rfl
  · have hc : ¬ condD D (s, e) = true := fun hc => h (of_decide_eq_true hc)
    rw [if_neg h, zf, List.zip_cons_cons, List.filter_cons_of_neg hc]; rfl

/-- the `plateau_turns` part of the numpy code for the difference list `d`, as a function of the
two edge lists -/
def platOf (d : List Int) (starts0 ends0 : List Nat) : List Nat :=
  if starts0.isEmpty || ends0.isEmpty then [] else
    let cutEnds := ends0.head! < starts0.head!
    let cutStarts := starts0.getLast! > ends0.getLast!
    let ends := if cutEnds then ends0.tail else ends0
    let starts := if cutStarts then starts0.dropLast else starts0
    ((starts.zip ends).filter fun (st, en) => d.toArray[st]! * d.toArray[en+1]! < 0).map (·.1)

/-- **The cut rules.**  If the next edge is a start, the starts are paired with the ends; if it is an
end, that first end is dropped.  (`cut_starts` only ever removes a start that `zip` would drop
anyway.) -/
theorem platOf_eq (d : List Int) {b : Bool} {lb : Nat} {S E : List Nat} (h : Alt b lb S E) :
    platOf d S E = zf d S (if b then E.tail else E) := by
  have hc : (fun (x : Nat × Nat) => match x with
      | (st, en) => decide (d.toArray[st]! * d.toArray[en+1]! < 0)) = condD d := by
    funext x; cases x; simp [condD]
  unfold platOf zf
  rw [hc]
  cases hS : S with
  | nil => simp
  | cons s S' =>
    cases hE : E with
    | nil => cases b <;> simp
    | cons e E' =>
      subst hS hE
      have hce : e < s ↔ b = true := by
        cases h with
        | start h1 h2 => have := h2.lb_le.2 e (by simp); simp; omega
        | stop h1 h2 => have := h2.lb_le.1 s (by simp); simp; omega
      simp only [List.isEmpty_cons, Bool.or_self, Bool.false_eq_true, if_false, List.head!_cons, hce]
      by_cases hcs : (s :: S').getLast! > (e :: E').getLast!
      · simp only [hcs, if_true]
        rw [zip_dropLast _ _ (h.cut (by simp) hcs)]
      · simp only [hcs, if_false]

/-- the zero indicator `duplicates = (diffs == 0)` of `plateau_turns`, as 0 / 1 -/
def dupOf (d : List Int) : List Int := d.map fun x => if x = 0 then 1 else 0

/-- The edges of the numpy code: the positions, counted from `k`, at which `np.diff` of the zero indicator of `d`
satisfies `p`.  `(· > 0)`: start edges (a non-zero difference followed by a zero one), `(· < 0)`: end edges. -/
def edgeIdx (p : Int → Bool) (k : Nat) (d : List Int) : List Nat :=
  (((diffs (dupOf d)).zipIdx k).filter (fun x => p x.1)).map (·.2)

theorem edgeIdx_nil (p : Int → Bool) (k : Nat) : edgeIdx p k [] = [] := rfl

theorem edgeIdx_singleton (p : Int → Bool) (k : Nat) (a : Int) : edgeIdx p k [a] = [] := rfl

theorem starts_cons_cons (k : Nat) (a b : Int) (r : List Int) :
    edgeIdx (· > 0) k (a :: b :: r) = (if a ≠ 0 ∧ b = 0 then [k] else []) ++ edgeIdx (· > 0) (k+1) (b :: r) := by
  simp only [edgeIdx, dupOf, List.map_cons, diffs, List.zipIdx_cons, List.filter_cons]
  by_cases ha : a = 0 <;> by_cases hb : b = 0 <;> simp [ha, hb]

theorem ends_cons_cons (k : Nat) (a b : Int) (r : List Int) :
    edgeIdx (· < 0) k (a :: b :: r) = (if a = 0 ∧ b ≠ 0 then [k] else []) ++ edgeIdx (· < 0) (k+1) (b :: r) := by
  simp only [edgeIdx, dupOf, List.map_cons, diffs, List.zipIdx_cons, List.filter_cons]
  by_cases ha : a = 0 <;> by_cases hb : b = 0 <;> simp [ha, hb]

/-- the difference list starts inside a plateau: then the first edge is an end (`alt_edges`) -/
def headZero : List Int → Bool
  | a :: _ => decide (a = 0)
  | [] => false

theorem alt_edges (d : List Int) : ∀ k, Alt (headZero d) k (edgeIdx (· > 0) k d) (edgeIdx (· < 0) k d) := by
  induction d with
  | nil => intro k; exact Alt.nil _ _
  | cons a r ih =>
    intro k
    cases r with
    | nil => exact Alt.nil _ _
    | cons b r' =>
      have ih' := ih (k+1)
      rw [starts_cons_cons, ends_cons_cons]
      simp only [headZero] at ih' ⊢
      by_cases ha : a = 0 <;> by_cases hb : b = 0
      · simp only [ha, hb, decide_true, ne_eq, not_true_eq_false, and_false, false_and, if_false,
          List.nil_append] at ih' ⊢
        exact ih'.mono (by omega)
      · simp only [ha, hb, decide_true, decide_false, ne_eq, not_true_eq_false, not_false_eq_true,
          and_self, if_false, if_true, List.nil_append, List.singleton_append] at ih' ⊢
        exact Alt.stop (Nat.le_refl _) ih'
      · simp only [ha, hb, decide_true, decide_false, ne_eq, not_true_eq_false, not_false_eq_true,
          and_self, if_false, if_true, List.nil_append,
          List.singleton_append] at ih' ⊢
        exact Alt.start (Nat.le_refl _) ih'
      · simp only [ha, hb, decide_false, ne_eq, not_false_eq_true, and_false, false_and, if_false,
          List.nil_append] at ih' ⊢
        exact ih'.mono (by omega)

/-- The positions, counted from `k`, of the entries `a` of a list that pass the test `g a rest` on what
lies behind them: the form in which peak turns (`gK`), plateau turns (`gP`) and the reversals (`isRevD`)
are compared. -/
def scanIdx (g : Int → List Int → Bool) : Nat → List Int → List Nat
  | _, [] => []
  | k, a :: r => (if g a r then [k] else []) ++ scanIdx g (k+1) r

/-- the first non-zero difference behind `a` has the opposite sign -/
def isRevD (a : Int) (r : List Int) : Bool :=
  match r.find? (· ≠ 0) with
  | none => false
  | some e => decide (a * e < 0)

/-- peak turn: the next difference has the opposite sign -/
def gK (a : Int) (r : List Int) : Bool :=
  match r with
  | b :: _ => decide (a * b < 0)
  | [] => false

/-- plateau turn: the next difference is zero and the first non-zero one has the opposite sign -/
def gP (a : Int) (r : List Int) : Bool := r.head? == some 0 && isRevD a r

theorem isRevD_zero (r : List Int) : isRevD 0 r = false := by
  unfold isRevD; split <;> simp

theorem gK_or_gP (a : Int) (r : List Int) : (gK a r || gP a r) = isRevD a r := by
  cases r with
  | nil => simp [gK, gP, isRevD]
  | cons b r' =>
    by_cases hb : b = 0
    · subst hb; simp [gK, gP]
    · simp [gK, gP, isRevD, hb]

theorem isRevD_zero_cons (a : Int) (r : List Int) : isRevD a (0 :: r) = isRevD a r := by
  simp [isRevD]

theorem isRevD_cons_ne (a : Int) {b : Int} (hb : b ≠ 0) (r : List Int) :
    isRevD a (b :: r) = decide (a * b < 0) := by
  simp [isRevD, hb]

theorem gP_zero (r : List Int) : gP 0 r = false := by simp [gP, isRevD_zero]

theorem gP_cons_zero (a : Int) (r : List Int) : gP a (0 :: r) = isRevD a r := by
  simp [gP, isRevD_zero_cons]

theorem gP_cons_ne {a b : Int} (hb : b ≠ 0) (r : List Int) : gP a (b :: r) = false := by
  simp [gP, hb]

/-- **Pairing the edges of `d` selects the plateau turns.**  The second clause is what makes the
induction go through: while `d` runs inside a plateau, a start edge `s` that still waits for its end
edge is kept iff the first non-zero difference of `d` has the sign opposite to that at `s`. -/
theorem plat_scan (d : List Int) : ∀ (pre : List Int),
    zf (pre ++ d) (edgeIdx (· > 0) pre.length d)
        (if headZero d then (edgeIdx (· < 0) pre.length d).tail else edgeIdx (· < 0) pre.length d) =
      scanIdx gP pre.length d ∧
    (headZero d = true → ∀ s, zf (pre ++ d) (s :: edgeIdx (· > 0) pre.length d) (edgeIdx (· < 0) pre.length d) =
      (if isRevD (pre ++ d)[s]! d then [s] else []) ++ scanIdx gP pre.length d) := by
  induction d with
  | nil => intro pre; simp [edgeIdx_nil, scanIdx, zf, headZero]
  | cons a r ih =>
    intro pre
    cases r with
    | nil =>
      simp only [edgeIdx_singleton, scanIdx, zf_nil_right, List.tail_nil, ite_self, List.append_nil]
      refine ⟨by simp [gP], fun h s => ?_⟩
      have : a = 0 := by simpa [headZero] using h
      simp [this, gP_zero, isRevD]
    | cons b r' =>
      obtain ⟨ih1, ih2⟩ := ih (pre ++ [a])
      have hl : (pre ++ [a]).length = pre.length + 1 := by simp
      have hD : pre ++ [a] ++ b :: r' = pre ++ a :: b :: r' := by simp
      rw [hl, hD] at ih1 ih2
      rw [starts_cons_cons, ends_cons_cons, scanIdx]
      by_cases ha : a = 0 <;> by_cases hb : b = 0
      · -- inside a plateau
        subst ha hb
        simp only [headZero, decide_true, if_true, forall_const] at ih1 ih2 ⊢
        simpa only [gP_zero, isRevD_zero_cons, ne_eq, not_true_eq_false, false_and, and_false,
          if_false, List.nil_append, Bool.false_eq_true] using ⟨ih1, ih2⟩
      · -- an end edge at `pre.length`: a waiting start is decided by `b`
        subst ha
        simp only [headZero, hb, decide_true, decide_false, if_true, Bool.false_eq_true, if_false,
          forall_const] at ih1 ⊢
        have hk : (pre ++ 0 :: b :: r')[pre.length + 1]! = b := by simp
        simp only [gP_zero, ne_eq, not_true_eq_false, hb, not_false_eq_true, and_self,
          if_true, if_false, List.nil_append, List.singleton_append, List.tail_cons,
          Bool.false_eq_true, zf_cons, hk, isRevD_zero_cons, isRevD_cons_ne _ hb, decide_eq_true_eq]
        exact ⟨ih1, fun s => by rw [ih1]⟩
      · -- a start edge at `pre.length`: it waits
        subst hb
        have hk : (pre ++ a :: 0 :: r')[pre.length]! = a := by simp
        simp only [headZero, ha, decide_true, decide_false, Bool.false_eq_true, if_false,
          forall_const, false_imp_iff, and_true] at ih2 ⊢
        simp only [ne_eq, ha, not_false_eq_true, false_and, if_true, if_false,
          List.singleton_append, List.nil_append, gP_cons_zero]
        rw [ih2, hk, isRevD_zero_cons]
      · simp only [headZero, ha, hb, decide_false, Bool.false_eq_true, if_false, false_imp_iff,
          and_true, ne_eq, not_false_eq_true, and_false, List.nil_append,
          gP_cons_ne hb] at ih1 ⊢
        exact ih1

/-- the `plateau_turns` part of the numpy code, as a function of the difference list -/
def platN (d : List Int) : List Nat :=
  platOf d (whereIdx (fun e => e > 0) (diffs (dupOf d))) (whereIdx (fun e => e < 0) (diffs (dupOf d)))

theorem findTurnsNumpyProd_unfold (s : List Int) :
    findTurnsNumpyProd s =
      ((List.range ((diffs s).length - 1)).filter fun i =>
        ((List.range ((diffs s).length - 1)).map fun i =>
            decide ((diffs s).toArray[i]! * (diffs s).toArray[i+1]! < 0))[i]! ||
          (platN (diffs s)).contains i).map fun i => (i + 1, s.toArray[i+1]!) := rfl

theorem platN_scan (d : List Int) : platN d = scanIdx gP 0 d := by
  exact (platOf_eq d (alt_edges d 0)).trans (plat_scan d []).1

theorem scanIdx_eq_filter (g : Int → List Int → Bool) (d : List Int) : ∀ k,
    scanIdx g k d =
      ((List.range d.length).filter fun i => g d[i]! (d.drop (i+1))).map (· + k) := by
  induction d with
  | nil => intro k; simp [scanIdx]
  | cons a r ih =>
    intro k
    simp only [scanIdx, List.length_cons, List.range_succ_eq_map, List.filter_cons, ih (k+1)]
    have h0 : g (a :: r)[0]! (List.drop (0 + 1) (a :: r)) = g a r := by simp
    rw [h0, List.filter_map]
    have hf : ((fun i => g (a :: r)[i]! (List.drop (i + 1) (a :: r))) ∘ Nat.succ) =
        fun i => g r[i]! (List.drop (i + 1) r) := by
      funext i; simp
    have hm : ((fun x => x + k) ∘ Nat.succ) = fun x => x + (k + 1) := by
      funext x; simp only [Function.comp, Nat.succ_eq_add_one]; omega
    rw [hf]
    split <;> simp [List.map_map, hm]

theorem mem_scanIdx (g : Int → List Int → Bool) (d : List Int) (i : Nat) :
    i ∈ scanIdx g 0 d ↔ i < d.length ∧ g d[i]! (d.drop (i+1)) = true := by
  rw [scanIdx_eq_filter]
  simp

theorem getElem!_map_range (f : Nat → Bool) (m i : Nat) (h : i < m) :
    ((List.range m).map f)[i]! = f i := by
  rw [List.getElem!_eq_getElem?_getD]
  simp [h]

theorem numpy_select (d : List Int) :
    ((List.range (d.length - 1)).filter fun i =>
        ((List.range (d.length - 1)).map fun i => decide (d.toArray[i]! * d.toArray[i+1]! < 0))[i]! ||
          (platN d).contains i) = scanIdx isRevD 0 d := by
  rw [scanIdx_eq_filter, platN_scan]
  simp only [Nat.add_zero, List.map_id']
  cases hn : d.length with
  | zero => simp
  | succ m =>
    have hlast : isRevD d[m]! (d.drop (m+1)) = false := by
      rw [List.drop_of_length_le (by omega)]; simp [isRevD]
    rw [List.range_succ, List.filter_append]
    simp only [Nat.add_sub_cancel, List.filter_cons, hlast, List.filter_nil, Bool.false_eq_true,
      if_false, List.append_nil]
    apply List.filter_congr
    intro i hi
    have hi : i < m := List.mem_range.mp hi
    rw [getElem!_map_range _ m i hi, ← gK_or_gP]
    congr 1
    · have hd : d.drop (i+1) = d[i+1] :: d.drop (i+2) := List.drop_eq_getElem_cons (by omega)
      rw [hd]
      simp only [gK]
      have e1 : d.toArray[i]! = d[i]! := by simp
      have e2 : d.toArray[i+1]! = d[i+1] := by
        simp [List.getElem!_eq_getElem?_getD, List.getElem?_eq_getElem (show i + 1 < d.length by omega)]
      rw [e1, e2]
    · rw [Bool.eq_iff_iff, List.contains_iff_mem, mem_scanIdx]
      constructor
      · exact fun h => h.2
      · exact fun h => ⟨by omega, h⟩

theorem find_diffs (v : Int) (post : List Int) :
    (diffs (v :: post)).find? (· ≠ 0) = (post.find? (· ≠ v)).map (· - v) := by
  induction post with
  | nil => simp [diffs]
  | cons w post' ih =>
    by_cases hw : w = v
    · subst hw
      simp only [diffs, Int.sub_self, ne_eq, not_true_eq_false, decide_false, Bool.false_eq_true,
        not_false_eq_true, List.find?_cons_of_neg]
      exact ih
    · have : w - v ≠ 0 := by omega
      simp [diffs, hw, this]

theorem isRevD_diffs (p v : Int) (post : List Int) :
    isRevD (v - p) (diffs (v :: post)) = isRevLocal p v post := by
  unfold isRevD isRevLocal
  rw [find_diffs]
  by_cases hpv : p = v
  · subst hpv
    simp only [Int.sub_self, Int.zero_mul, Int.lt_irrefl, decide_false, if_true]
    cases List.find? (· ≠ p) post <;> rfl
  · rw [if_neg hpv]
    cases hf : List.find? (· ≠ v) post with
    | none => rfl
    | some n =>
      simp only [Option.map_some]
      have hn : n ≠ v := by simpa using List.find?_some hf
      rw [decide_eq_decide, Int.mul_neg_iff]
      constructor <;> intro h <;> omega

theorem scan_revList (s : List Int) : ∀ pre : List Int,
    (scanIdx isRevD pre.length (diffs s)).map (fun i => (i + 1, (pre ++ s)[i+1]!)) =
      revList (pre.length + 1) s := by
  induction s with
  | nil => intro pre; simp [diffs, scanIdx, revList]
  | cons p r ih =>
    intro pre
    cases r with
    | nil => simp [diffs, scanIdx, revList]
    | cons v post =>
      have ih' := ih (pre ++ [p])
      have hl : (pre ++ [p]).length = pre.length + 1 := by simp
      have hD : pre ++ [p] ++ v :: post = pre ++ p :: v :: post := by simp
      rw [hl, hD] at ih'
      have hv : (pre ++ p :: v :: post)[pre.length + 1]! = v := by
        rw [List.getElem!_eq_getElem?_getD, List.getElem?_append_right (Nat.le_add_right _ _),
          Nat.add_sub_cancel_left]
        rfl
      simp only [diffs, scanIdx, revList, List.map_append, ih', isRevD_diffs]
      congr 1
      split
      · rw [List.map_singleton, hv]
      · rfl

theorem findTurnsNumpyProd_eq_revList (s : List Int) : findTurnsNumpyProd s = revList 1 s := by
  rw [findTurnsNumpyProd_unfold, numpy_select]
  have := scan_revList s []
  simpa using this

/-- The transcription of the code after repair c6242ee (signs multiplied) selects exactly what the
product formulation selects. -/
theorem findTurnsNumpy_eq_prod (s : List Int) : findTurnsNumpy s = findTurnsNumpyProd s := by
  simp only [findTurnsNumpy, findTurnsNumpyProd, ← Int.sign_mul, Int.sign_neg_iff]

theorem findTurnsNumpy_eq_revList (s : List Int) : findTurnsNumpy s = revList 1 s := by
  rw [findTurnsNumpy_eq_prod, findTurnsNumpyProd_eq_revList]

end PylifeVerif.Numpy
