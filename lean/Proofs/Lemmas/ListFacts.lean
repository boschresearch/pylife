/-
Facts about lists that several regions use and that neither core nor Mathlib states in this form.
-/

namespace PylifeVerif

theorem getD_mem {β : Type} (l : List β) (d : β) (i : Nat) (h : i < l.length) : l.getD i d ∈ l := by
  simp [List.getD_eq_getElem?_getD, List.getElem?_eq_getElem h]

/-- A fold whose step is `R`-related to both of its arguments (a running minimum: `R` is `≤`; a running maximum: `≥`;
a running arg-max under `key`: `key b ≤ key a`) ends `R`-related to the start value and to every element. -/
theorem foldl_select {α : Type} {R : α → α → Prop} (hrefl : ∀ x, R x x) (htrans : ∀ {x y z}, R x y → R y z → R x z)
    (f : α → α → α) (h1 : ∀ m y, R (f m y) m) (h2 : ∀ m y, R (f m y) y) :
    ∀ (xs : List α) (m : α), ∀ y ∈ m :: xs, R (xs.foldl f m) y
  | [], m, y, hy => List.mem_singleton.mp hy ▸ hrefl m
  | x :: xs, m, y, hy => by
    have ih := foldl_select hrefl htrans f h1 h2 xs (f m x)
    have hf := ih _ (List.mem_cons_self ..)
    rcases List.mem_cons.mp hy with rfl | hy
    · exact htrans hf (h1 _ x)
    · rcases List.mem_cons.mp hy with rfl | hy
      · exact htrans hf (h2 m _)
      · exact ih y (List.mem_cons_of_mem _ hy)

end PylifeVerif
