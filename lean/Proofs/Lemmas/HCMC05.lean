/-
Lemmas for C05 (`Proofs/C05Core.lean`, `Proofs/C05Code.lean`): the HCM detector on ONE assessment point equals the
guideline procedure `Spec.guideline`, and on several proportionally loaded points every point gets what it gets alone.
Both models (`twoPass`, the code, and `twoPassR`, the repaired variant) are the same two `process` calls
`Insert.twoProc` (`HCMFlush.lean`) with a different first-run flush flag; nothing below depends on the flag.

Both are one simulation: the batch run on the loads `c · l` (factors `cs`, all points, decisions on point 0), seen at
point `k`, against the GUIDELINE run on the loads `c_k · l` (`RelK`, `RelKP`, `twoProc_gk`).  It stays below the turning
point search: the two passes are the loop `Insert.feed` run twice over `fA cs` of the base reversals `Insert.fedG`, which
do not depend on `cs` (`Insert.twoProc_core` in `HCMFed.lean`).  At the level of the loop there is no induction: the
detector and the guideline both carry out the verdict of `HCMVerdict.lean` (`placeSample_eq` in `HCMBasic.lean`,
`gStep_eq` here), and the guideline's verdict is the image of the batch's under `gPt k` (`verdict_map`, with `max_iff`,
`ext_iff`).  Only `c₀` and `c_k` have to be positive.  One point is the instance `cs = [1]`, `k = 0`, which needs
nothing of the law (`twoPass_one`); several points compare the instance `(cs, k)` with the instance `([c_k], 0)`: both
runs are related to the same guideline run (`twoPass_sim`).
-/
import Proofs.Lemmas.HCMFed

namespace PylifeVerif.C05

/-- the law's secondary branch follows the sign of the load range (true for every monotone law) -/
def SignPreserving (law : HCM.Law) : Prop :=
  ∀ d : Int, (0 < d → 0 < law.dsigma d ∧ 0 < law.deps (law.dsigma d) d) ∧
             (d < 0 → law.dsigma d < 0 ∧ law.deps (law.dsigma d) d < 0) ∧
             (d = 0 → law.dsigma d = 0 ∧ law.deps (law.dsigma d) d = 0)

end PylifeVerif.C05

namespace PylifeVerif.HCM.C05L
open PylifeVerif.Rainflow PylifeVerif.HCM PylifeVerif.HCM.Insert

/-! Relations that compare states directly (one point as vectors of length one against a guideline state; the running
strain extremes of a batch run against those of one of its points alone).  Nothing below uses them, `toG'` apart. -/

def ofG (g : Spec.GPoint) : HPoint := ⟨[g.load], [g.stress], [g.strain]⟩

/-- copy of `C05.toG`, which is defined downstream (`C05Core.lean` imports this file); `C05.guideline_of_isGuideline`
passes from the copy to the original, by unfolding -/
def toG' (h : Hyst) : Spec.GHyst :=
  { loadMin := rep h.loadMin, loadMax := rep h.loadMax, sMin := rep h.sMin, sMax := rep h.sMax,
    eMin := rep h.eMin, eMax := rep h.eMax, eMinLF := rep h.eMinLF, eMaxLF := rep h.eMaxLF,
    closed := h.closed, run := h.run }

structure Rel (st : State) (g : Spec.GState) : Prop where
  res : st.res = g.res.map ofG
  iz : st.iz = g.res.length
  ir : st.ir = g.ir
  ir1 : 1 ≤ g.ir
  lmax : st.loadMax = g.lmax
  emin : rep st.eMinLF = g.eMinLF
  emax : rep st.eMaxLF = g.eMaxLF
  recs : st.recs.map toG' = g.recs

theorem rep_ofG_strain (j : Spec.GPoint) : rep (ofG j).strain = j.strain := by cases j; rfl

theorem secondary_one (law : Law) (p : Spec.GPoint) (l : Int) :
    secondary law (ofG p) [l] = ofG (Spec.gSecondary law p l) := by
  simp [secondary, ofG, Spec.gSecondary, vzip]

structure RelP (st : State) (prev : Int) (g : Spec.GState) : Prop where
  rel : Rel st g
  prev : g.prevLoad = prev
  strains : st.strainValues = g.strains

def compV (k : Nat) (v : Vec) : Vec := [v.getD k 0]

/-- copy of `C05.projLF` (defined downstream, like `C05.toG`) -/
def projLF' (k : Nat) (h : Hyst) : Int × Int := (h.eMinLF.getD k 0, h.eMaxLF.getD k 0)

section
variable (law : Law) (cs : List Int) (k : Nat)

/-- process-level relation for the running strain extremes of the batch run `a` and the run `b` of point `k` alone -/
structure PLF (a b : State) : Prop where
  prev : ∃ P, a.prevLoad = rep cs * P ∧ b.prevLoad = cs.getD k 1 * P
  recs : a.recs.map (projLF' k) = b.recs.map (projLF' 0)
  started : b.started = a.started
  lf : a.started = true → (b.eMinLF = compV k a.eMinLF ∧ b.eMaxLF = compV k a.eMaxLF ∧
    a.eMinLF.length = cs.length ∧ a.eMaxLF.length = cs.length)

end

theorem ite_lt_min (a b : Int) : (if a < b then a else b) = min a b := by
  split <;> omega
theorem ite_gt_max (a b : Int) : (if a > b then a else b) = max a b := by
  split <;> omega

def gClosed (emin emax : Int) (run : Nat) (i j : Spec.GPoint) : Spec.GHyst :=
  { loadMin := min i.load j.load, loadMax := max i.load j.load,
    sMin := min i.stress j.stress, sMax := max i.stress j.stress,
    eMin := min i.strain j.strain, eMax := max i.strain j.strain,
    eMinLF := emin, eMaxLF := emax, closed := true, run := run }

def gHalf (emin emax : Int) (run : Nat) (j : Spec.GPoint) : Spec.GHyst :=
  { loadMin := -(j.load.natAbs : Int), loadMax := j.load.natAbs,
    sMin := -(j.stress.natAbs : Int), sMax := j.stress.natAbs,
    eMin := -(j.strain.natAbs : Int), eMax := j.strain.natAbs,
    eMinLF := emin, eMaxLF := emax, closed := false, run := run }

def gRecs (g : Spec.GState) (run : Nat) (v : Verdict Spec.GPoint) : List Spec.GHyst :=
  (v.closed.map fun q => gClosed g.eMinLF g.eMaxLF run q.1 q.2) ++
    match v.out with
    | .half j => [gHalf g.eMinLF g.eMaxLF run j]
    | _ => []

def gPoint (law : Law) (l : Int) : Outcome Spec.GPoint → Spec.GPoint
  | .secondary j => Spec.gSecondary law j l
  | _ => Spec.gPrimary law l

def gPlace (law : Law) (run : Nat) (l : Int) (g : Spec.GState) (v : Verdict Spec.GPoint) :
    Spec.GState × Spec.GPoint :=
  ({ g with recs := g.recs ++ gRecs g run v, res := v.rest, ir := v.ir g.ir }, gPoint law l v.out)

theorem gPlace_close (law : Law) (run : Nat) (l : Int) (g : Spec.GState) {j i : Spec.GPoint}
    {rest : List Spec.GPoint} (hgt : g.ir < g.res.length) (hres : g.res = j :: i :: rest)
    (hext : ¬ (l - j.load).natAbs < (j.load - i.load).natAbs) :
    gPlace law run l g (verdict (·.load) l g.ir g.lmax g.res) =
      gPlace law run l { g with recs := g.recs ++ [gClosed g.eMinLF g.eMaxLF run i j], res := rest }
        (verdict (·.load) l g.ir g.lmax rest) := by
  unfold gPlace gRecs verdict
  rw [hres] at hgt
  simp only [hres, closings, show g.ir < rest.length + 2 from hgt, hext, not_false_eq_true, and_self,
    if_true, List.map_cons, List.append_assoc, List.cons_append]
  rfl

theorem gPlace_stop (law : Law) (run : Nat) (l : Int) (g : Spec.GState)
    (h : closings (·.load) l g.ir g.res = ([], g.res)) :
    gPlace law run l g (verdict (·.load) l g.ir g.lmax g.res) =
      match outcome l g.ir g.lmax g.res with
      | .primary => (g, Spec.gPrimary law l)
      | .half j =>
        ({ g with recs := g.recs ++ [gHalf g.eMinLF g.eMaxLF run j], ir := g.ir + 1 }, Spec.gPrimary law l)
      | .secondary j => (g, Spec.gSecondary law j l) := by
  rw [verdict, h]
  unfold gPlace gRecs gPoint Verdict.ir
  cases outcome l g.ir g.lmax g.res <;> simp only [List.map_nil, List.nil_append, List.append_nil]

theorem gStep_eq (law : Law) (run : Nat) (l : Int) (fuel : Nat) (g : Spec.GState) (hir : 1 ≤ g.ir)
    (hf : g.res.length / 2 + 1 ≤ fuel) :
    Spec.gStep law run l fuel g = gPlace law run l g (verdict (·.load) l g.ir g.lmax g.res) := by
  fun_induction Spec.gStep law run l fuel g with
  | case1 g => omega
  | case2 fuel g iz hlt =>
    rw [gPlace_stop law run l g (closings_of_le _ _ _ _ (Nat.le_of_lt hlt)), outcome_primary _ _ _ hlt]
  | case3 fuel g iz hlt heq j tl hres hgt =>
    rw [gPlace_stop law run l g (closings_of_le _ _ _ _ (Nat.le_of_eq heq)), outcome_half _ _ _ hres heq hgt]
    rfl
  | case4 fuel g iz hlt heq j tl hres hgt =>
    rw [gPlace_stop law run l g (closings_of_le _ _ _ _ (Nat.le_of_eq heq)),
      outcome_secondary _ _ _ hres (Nat.le_of_eq heq.symm) (fun h => hgt h.2)]
  | case5 fuel g iz hlt heq hres =>
    have h0 : g.res.length = g.ir := heq
    rw [hres] at h0
    exact absurd h0 (Nat.ne_of_lt hir)
  | case6 fuel g iz hlt hne j i rest hres hext h ih =>
    rw [gPlace_close law run l g (Nat.lt_of_le_of_ne (Nat.le_of_not_lt hlt) (Ne.symm hne)) hres (Nat.not_lt.mpr hext)]
    rw [hres] at hf
    exact ih hir (show rest.length / 2 + 1 ≤ fuel by simp only [List.length_cons] at hf; omega)
  | case7 fuel g iz hlt hne j i rest hres hext =>
    rw [gPlace_stop law run l g (by rw [hres, closings, if_neg (fun h => h.2 (Nat.not_le.mp hext))]),
      outcome_secondary _ _ _ hres (Nat.le_of_not_lt hlt) (fun h => hne h.1)]
  | case8 fuel g iz hlt hne hres =>
    have h1 : ¬ g.res.length < g.ir := hlt
    have h2 : ¬ g.res.length = g.ir := hne
    have := length_le_one_of_ne_cons_cons hres
    omega

theorem vzip_one (f : Int → Int → Int) (a b : Int) : vzip f [a] [b] = [f a b] := rfl

theorem getD_secondary (law : Law) (p : HPoint) (v : Vec) (j : Nat) (hv : j < v.length)
    (h1 : j < p.load.length) (h2 : j < p.stress.length) (h3 : j < p.strain.length) :
    (secondary law p v).stress.getD j 0 = p.stress.getD j 0 + law.dsigma (v.getD j 0 - p.load.getD j 0) ∧
    (secondary law p v).strain.getD j 0 = p.strain.getD j 0 +
      law.deps (law.dsigma (v.getD j 0 - p.load.getD j 0)) (v.getD j 0 - p.load.getD j 0) := by
  have hd : j < (vzip (· - ·) v p.load).length := by rw [length_vzip]; omega
  have hm : j < ((vzip (· - ·) v p.load).map law.dsigma).length := by rw [List.length_map]; exact hd
  unfold secondary
  exact ⟨by rw [getD_vzip _ _ _ _ h2 hm, getD_map' _ _ _ hd, getD_vzip _ _ _ _ hv h1],
    by rw [getD_vzip _ _ _ _ h3 (by rw [length_vzip]; omega), getD_vzip _ _ _ _ hm hd, getD_map' _ _ _ hd,
      getD_vzip _ _ _ _ hv h1]⟩

def fA (cs : List Int) (l : Int) : Vec := cs.map (· * l)

structure WFP (cs : List Int) (p : HPoint) : Prop where
  load : ∃ l, p.load = fA cs l
  stress : p.stress.length = cs.length
  strain : p.strain.length = cs.length

theorem getD_fA (cs : List Int) (l : Int) (j : Nat) (hj : j < cs.length) :
    (fA cs l).getD j 0 = cs.getD j 1 * l := by
  unfold fA
  rw [getD_map' _ _ _ hj]
  simp [List.getD_eq_getElem?_getD, hj]

theorem length_fA (cs : List Int) (l : Int) : (fA cs l).length = cs.length := by simp [fA]

theorem rep_fA (cs : List Int) (h : 0 < cs.length) (l : Int) : rep (fA cs l) = rep cs * l := by
  cases cs with
  | nil => simp at h
  | cons c cs => simp [fA, rep]

theorem rep_eq_getD_one (cs : List Int) (h : 0 < cs.length) : rep cs = cs.getD 0 1 := by
  cases cs with
  | nil => simp at h
  | cons c cs => rfl

theorem factors_pos (cs : List Int) (hc : ∀ c ∈ cs, 0 < c) (k : Nat) (hk : k < cs.length) :
    0 < rep cs ∧ 0 < cs.getD k 1 := by
  have h : ∀ j (hj : j < cs.length), 0 < cs.getD j 1 := fun j hj => by
    rw [show cs.getD j 1 = cs[j] by simp [List.getD_eq_getElem?_getD, hj]]
    exact hc _ (List.getElem_mem hj)
  exact ⟨rep_eq_getD_one cs (by omega) ▸ h 0 (by omega), h k hk⟩

theorem fA_zero (cs : List Int) : fA cs 0 = List.replicate cs.length 0 := by
  unfold fA
  apply List.ext_getElem <;> simp

theorem wfp_primary (law : Law) (cs : List Int) (l : Int) : WFP cs (primary law (fA cs l)) :=
  ⟨⟨l, rfl⟩, by simp [primary, length_fA], by simp [primary, length_vzip, length_fA]⟩

theorem wfp_secondary (law : Law) (cs : List Int) (p : HPoint) (w : WFP cs p) (l : Int) :
    WFP cs (secondary law p (fA cs l)) := by
  obtain ⟨⟨l0, h0⟩, h1, h2⟩ := w
  refine ⟨⟨l, rfl⟩, ?_, ?_⟩ <;> simp [secondary, length_vzip, length_fA, h0, h1, h2]

/-- order of the two points of a closed hysteresis, in every component: stress and strain of `p1`
differ from those of `p0` by increments that have the sign of `c_j * (l1 - l0)` -/
theorem sec_order (law : Law) (hl : C05.SignPreserving law) (cs : List Int)
    (p0 p1 : HPoint) (l0 l1 : Int) (h0 : p0.load = fA cs l0) (h1 : p1.load = fA cs l1)
    (w0 : WFP cs p0) (hsec : p1 = secondary law p0 p1.load) (j : Nat) (hj : j < cs.length)
    (hcp : 0 < cs.getD j 1) :
    (p0.load.getD j 0 < p1.load.getD j 0 ↔ l0 < l1) ∧ (p0.load.getD j 0 > p1.load.getD j 0 ↔ l0 > l1) ∧
    (p0.stress.getD j 0 < p1.stress.getD j 0 ↔ l0 < l1) ∧ (p0.stress.getD j 0 > p1.stress.getD j 0 ↔ l0 > l1) ∧
    (p0.strain.getD j 0 < p1.strain.getD j 0 ↔ l0 < l1) ∧ (p0.strain.getD j 0 > p1.strain.getD j 0 ↔ l0 > l1) := by
  obtain ⟨e1, e2⟩ := getD_secondary law p0 p1.load j (by rw [h1, length_fA]; exact hj)
    (by rw [h0, length_fA]; exact hj) (by rw [w0.stress]; exact hj) (by rw [w0.strain]; exact hj)
  rw [← hsec] at e1 e2
  rw [e1, e2, h0, h1, getD_fA _ _ _ hj, getD_fA _ _ _ hj]
  generalize cs.getD j 1 = c at hcp ⊢
  obtain ⟨hp, hn, hz⟩ := hl (c * l1 - c * l0)
  have hlt : c * l0 < c * l1 ↔ l0 < l1 := Int.mul_lt_mul_left hcp
  have hgt : c * l1 < c * l0 ↔ l1 < l0 := Int.mul_lt_mul_left hcp
  omega

theorem getD_ite (c : Prop) [Decidable c] (a b : Vec) (k : Nat) :
    (if c then a else b).getD k 0 = if c then a.getD k 0 else b.getD k 0 := by
  split <;> rfl

/-- for `f 0 = 0` also beyond the end of the vector -/
theorem getD_map_zero (f : Int → Int) (hf : f 0 = 0) (v : Vec) (k : Nat) :
    (v.map f).getD k 0 = f (v.getD k 0) := by
  rw [List.getD_eq_getElem?_getD, List.getD_eq_getElem?_getD, List.getElem?_map]
  cases v[k]? with
  | none => exact hf.symm
  | some x => rfl

/-- every residual above the primary path was reached from the one below it on a secondary branch -/
def SecChain (law : Law) (ir : Nat) : List HPoint → Prop
  | p1 :: p0 :: rest =>
    ((p0 :: rest).length ≥ ir → p1 = secondary law p0 p1.load) ∧ SecChain law ir (p0 :: rest)
  | _ => True

theorem secChain_mono (law : Law) (ir : Nat) : ∀ l : List HPoint, SecChain law ir l → SecChain law (ir + 1) l
  | [] => fun _ => trivial
  | [_] => fun _ => trivial
  | p1 :: p0 :: rest => fun h => ⟨fun hh => h.1 (by omega), secChain_mono law ir (p0 :: rest) h.2⟩

theorem secChain_tail (law : Law) (ir : Nat) (p : HPoint) : ∀ l : List HPoint,
    SecChain law ir (p :: l) → SecChain law ir l
  | [] => fun _ => trivial
  | _ :: _ => fun h => h.2

theorem secChain_cons_lt {law : Law} {ir : Nat} (p : HPoint) : ∀ {l : List HPoint}, l.length < ir →
    SecChain law ir l → SecChain law ir (p :: l)
  | [] => fun _ _ => trivial
  | _ :: _ => fun hlt h => ⟨fun hge => absurd hge (Nat.not_le_of_lt hlt), h⟩

/-- the hystereses that close lie above the primary path: their upper point was reached from the lower one on a
secondary branch -/
theorem closings_secChain (law : Law) (x : Int) (ir : Nat) : ∀ l : List HPoint, SecChain law ir l →
    (∀ q ∈ (closings (fun p => rep p.load) x ir l).1, q.2 = secondary law q.1 q.2.load) ∧
    SecChain law ir (closings (fun p => rep p.load) x ir l).2
  | [], h => ⟨(fun _ h => nomatch h), h⟩
  | [_], h => ⟨(fun _ h => nomatch h), h⟩
  | p1 :: p0 :: rest, h => by
    obtain ⟨ih1, ih2⟩ := closings_secChain law x ir rest (secChain_tail law ir p0 rest h.2)
    rw [closings]
    split
    · next hc =>
      refine ⟨fun q hq => ?_, ih2⟩
      rcases List.mem_cons.mp hq with rfl | hq
      · exact h.1 (by simp only [List.length_cons]; omega)
      · exact ih1 q hq
    · exact ⟨(fun _ h => nomatch h), h⟩

theorem secChain_place (law : Law) (load : Vec) (x : Int) (ir lmax : Nat) (l : List HPoint) (hir : 1 ≤ ir)
    (h : SecChain law ir l) :
    SecChain law ((verdict (fun p : HPoint => rep p.load) x ir lmax l).ir ir)
      (newPoint law load (verdict (fun p : HPoint => rep p.load) x ir lmax l).out ::
        (verdict (fun p : HPoint => rep p.load) x ir lmax l).rest) := by
  have hs : SecChain law ir (verdict (fun p : HPoint => rep p.load) x ir lmax l).rest :=
    (closings_secChain law x ir l h).2
  have ho := verdict_out (fun p : HPoint => rep p.load) x ir lmax hir l
  generalize verdict (fun p : HPoint => rep p.load) x ir lmax l = v at hs ho ⊢
  obtain ⟨cl, rest, o⟩ := v
  cases o with
  | primary => exact secChain_cons_lt _ ho hs
  | half top => exact secChain_cons_lt _ (Nat.lt_succ_of_le (Nat.le_of_eq ho.2)) (secChain_mono law ir _ hs)
  | secondary top => obtain ⟨⟨tl, rfl⟩, -⟩ := ho; exact ⟨fun _ => rfl, hs⟩

theorem dec_max (c : Int) (hc : 0 < c) (l : Int) (M : Nat) :
    ((c * l).natAbs > c.natAbs * M) ↔ (l.natAbs > M) := by
  rw [Int.natAbs_mul]
  exact Nat.mul_lt_mul_left (by omega)

theorem dec_ext (c : Int) (hc : 0 < c) (l l1 l0 : Int) :
    ((c * l - c * l1).natAbs < (c * l1 - c * l0).natAbs) ↔ ((l - l1).natAbs < (l1 - l0).natAbs) := by
  rw [← Int.mul_sub, ← Int.mul_sub, Int.natAbs_mul, Int.natAbs_mul]
  exact Nat.mul_lt_mul_left (by omega)

def gPt (k : Nat) (p : HPoint) : Spec.GPoint := ⟨p.load.getD k 0, p.stress.getD k 0, p.strain.getD k 0⟩

/-- the guideline record of point `k`, and the column `zeroMean`, which the guideline does not have -/
def toGk (k : Nat) (h : Hyst) : Spec.GHyst × Bool :=
  ({ loadMin := h.loadMin.getD k 0, loadMax := h.loadMax.getD k 0, sMin := h.sMin.getD k 0,
     sMax := h.sMax.getD k 0, eMin := h.eMin.getD k 0, eMax := h.eMax.getD k 0,
     eMinLF := h.eMinLF.getD k 0, eMaxLF := h.eMaxLF.getD k 0, closed := h.closed, run := h.run },
   h.zeroMean)

theorem toGk_half (k : Nat) (a : State) (p : HPoint) :
    toGk k (halfHyst a p) = (gHalf (a.eMinLF.getD k 0) (a.eMaxLF.getD k 0) a.run (gPt k p), true) := by
  simp only [toGk, halfHyst, gHalf, gPt, vneg, vabs, getD_map_zero (fun x => -x) rfl,
    getD_map_zero (fun x => (x.natAbs : Int)) rfl]

section
variable {law : Law} {cs : List Int} {k : Nat} (hl : k = 0 ∨ C05.SignPreserving law)
  (hc : 0 < rep cs ∧ 0 < cs.getD k 1) (hk : k < cs.length)
include hc hk

include hl in
/-- `closedHyst` picks each column by the FIRST node's order of the two points; on a secondary branch
every node has that order, so at node `k` the pick is the smaller resp. larger value (at the first node
itself nothing is needed of the law) -/
theorem toGk_closed (a : State) (p0 p1 : HPoint) (w0 : WFP cs p0) (w1 : WFP cs p1)
    (hsec : p1 = secondary law p0 p1.load) :
    toGk k (closedHyst a p0 p1) =
      (gClosed (a.eMinLF.getD k 0) (a.eMaxLF.getD k 0) a.run (gPt k p0) (gPt k p1), false) := by
  rcases hl with rfl | hl
  · simp only [toGk, closedHyst, gClosed, gPt, rep_eq_getD, if_true, Bool.false_eq_true, if_false, getD_ite,
      ite_lt_min, ite_gt_max]
  obtain ⟨l0, h0⟩ := w0.load
  obtain ⟨l1, h1⟩ := w1.load
  obtain ⟨a1, a2, a3, a4, a5, a6⟩ := sec_order law hl cs p0 p1 l0 l1 h0 h1 w0 hsec 0 (by omega)
    (rep_eq_getD_one cs (by omega) ▸ hc.1)
  obtain ⟨b1, b2, b3, b4, b5, b6⟩ := sec_order law hl cs p0 p1 l0 l1 h0 h1 w0 hsec k hk hc.2
  simp only [toGk, closedHyst, gClosed, gPt, rep_eq_getD, if_true, Bool.false_eq_true, if_false, getD_ite,
    a1.trans b1.symm, a2.trans b2.symm, a3.trans b3.symm, a4.trans b4.symm, a5.trans b5.symm, a6.trans b6.symm,
    ite_lt_min, ite_gt_max]

omit hc in
theorem gPt_primary (law : Law) (l : Int) :
    gPt k (primary law (fA cs l)) = Spec.gPrimary law (cs.getD k 1 * l) := by
  have hl : k < (fA cs l).length := by rw [length_fA]; exact hk
  have hm : k < ((fA cs l).map law.sigma).length := by rw [List.length_map]; exact hl
  simp only [gPt, primary, Spec.gPrimary, getD_vzip _ _ _ _ hm hl, getD_map' _ _ _ hl, getD_fA cs l k hk]

omit hc in
theorem gPt_secondary (law : Law) (l : Int) {p : HPoint} (w : WFP cs p) :
    gPt k (secondary law p (fA cs l)) = Spec.gSecondary law (gPt k p) (cs.getD k 1 * l) := by
  obtain ⟨l0, h0⟩ := w.load
  obtain ⟨e1, e2⟩ := getD_secondary law p (fA cs l) k (by rw [length_fA]; exact hk)
    (by rw [h0, length_fA]; exact hk) (by rw [w.stress]; exact hk) (by rw [w.strain]; exact hk)
  have e0 : (secondary law p (fA cs l)).load = fA cs l := rfl
  simp only [gPt, Spec.gSecondary, e0, e1, e2, getD_fA cs l k hk]

/-- the batch state `a`, seen at point `k`, against the guideline state `g` -/
structure RelK (law : Law) (cs : List Int) (k : Nat) (a : State) (g : Spec.GState) : Prop where
  res : g.res = a.res.map (gPt k)
  wf : ∀ p ∈ a.res, WFP cs p
  chain : SecChain law a.ir a.res
  inv : Inv a
  ir : a.ir = g.ir
  lmax : ∃ M, a.loadMax = (rep cs).natAbs * M ∧ g.lmax = (cs.getD k 1).natAbs * M
  emin : a.eMinLF.getD k 0 = g.eMinLF
  emax : a.eMaxLF.getD k 0 = g.eMaxLF
  recs : a.recs.map (toGk k) = g.recs.map fun r => (r, !r.closed)

/-- what the loop makes of `RelK a g`: the states and the new points are related again, the detector has noted the
new strain, and neither loop touches the running extremes, the previous load or the guideline's strains -/
structure RelKPt (law : Law) (cs : List Int) (k : Nat) (a : State) (g : Spec.GState) (r : State × HPoint)
    (gr : Spec.GState × Spec.GPoint) : Prop where
  rel : RelK law cs k r.1 gr.1
  pt : gr.2 = gPt k r.2
  wf : WFP cs r.2
  chain : SecChain law r.1.ir (r.2 :: r.1.res)
  strains : r.1.strainValues = a.strainValues ++ [rep r.2.strain]
  keeps : r.1.eMinLF = a.eMinLF ∧ r.1.eMaxLF = a.eMaxLF ∧ gr.1.prevLoad = g.prevLoad ∧ gr.1.strains = g.strains

theorem max_iff {a : State} {g : Spec.GState} (h : RelK law cs k a g) (l : Int) :
    (rep (fA cs l)).natAbs > a.loadMax ↔ (cs.getD k 1 * l).natAbs > g.lmax := by
  obtain ⟨M, hMa, hMb⟩ := h.lmax
  rw [rep_fA cs (by omega), hMa, hMb, dec_max _ hc.1, dec_max _ hc.2]

theorem ext_iff {p1 p0 : HPoint} (w1 : WFP cs p1) (w0 : WFP cs p0) (l : Int) :
    (rep (fA cs l) - rep p1.load).natAbs < (rep p1.load - rep p0.load).natAbs ↔
      (cs.getD k 1 * l - (gPt k p1).load).natAbs < ((gPt k p1).load - (gPt k p0).load).natAbs := by
  obtain ⟨l1, h1⟩ := w1.load
  obtain ⟨l0, h0⟩ := w0.load
  simp only [gPt, h1, h0, getD_fA cs _ k hk, rep_fA cs (show 0 < cs.length by omega)]
  rw [dec_ext _ hc.1, dec_ext _ hc.2]

omit hc hk in
theorem wfp_newPoint (law : Law) (l : Int) {o : Outcome HPoint} (h : ∀ top, o = .secondary top → WFP cs top) :
    WFP cs (newPoint law (fA cs l) o) := by
  cases o with
  | primary => exact wfp_primary law cs l
  | half top => exact wfp_primary law cs l
  | secondary top => exact wfp_secondary law cs _ (h top rfl) l

omit hc in
theorem gPt_newPoint (law : Law) (l : Int) {o : Outcome HPoint} (h : ∀ top, o = .secondary top → WFP cs top) :
    gPt k (newPoint law (fA cs l) o) = gPoint law (cs.getD k 1 * l) (o.map (gPt k)) := by
  cases o with
  | primary => exact gPt_primary hk law l
  | half top => exact gPt_primary hk law l
  | secondary top => exact gPt_secondary hk law l (h top rfl)

include hl

theorem newRecs_gk {a : State} {g : Spec.GState} (emin : a.eMinLF.getD k 0 = g.eMinLF)
    (emax : a.eMaxLF.getD k 0 = g.eMaxLF) (v : Verdict HPoint)
    (hw : ∀ q ∈ v.closed, WFP cs q.1 ∧ WFP cs q.2) (hs : ∀ q ∈ v.closed, q.2 = secondary law q.1 q.2.load) :
    (newRecs a v).map (toGk k) = (gRecs g a.run (v.map (gPt k))).map fun r => (r, !r.closed) := by
  obtain ⟨cl, rest, o⟩ := v
  unfold newRecs gRecs Verdict.map
  rw [List.map_append, List.map_append, List.map_map, List.map_map, List.map_map]
  congr 1
  · refine List.map_congr_left fun q hq => ?_
    simp only [Function.comp_def, Prod.map_fst, Prod.map_snd]
    rw [toGk_closed hl hc hk a q.1 q.2 (hw q hq).1 (hw q hq).2 (hs q hq), emin, emax]
    rfl
  · cases o <;> first | rfl | (simp only [Outcome.map, List.map_singleton, toGk_half, emin, emax]; rfl)

theorem ps_gk (l : Int) (a : State) (g : Spec.GState) (h : RelK law cs k a g) :
    RelKPt law cs k a g (placeSample law a (fA cs l))
      (Spec.gStep law a.run (cs.getD k 1 * l) (g.res.length / 2 + 2) g) := by
  -- both runs carry out the same verdict
  have hv : verdict (·.load) (cs.getD k 1 * l) g.ir g.lmax g.res = (a.verdict (fA cs l)).map (gPt k) := by
    rw [h.res, ← h.ir]
    exact verdict_map _ _ _ _ (gPt k) _ _ _ _
      (fun p1 h1 p0 h0 => ext_iff hc hk (h.wf p1 h1) (h.wf p0 h0) l) (max_iff hc hk h l)
  rw [placeSample_eq law a _ h.inv, gStep_eq law _ _ _ g (h.ir ▸ h.inv.2) (by omega), hv]
  unfold place gPlace
  rw [Verdict.ir_map, ← h.ir]
  -- what the parts of the verdict inherit from the residuals
  have hw := closings_forall (fun p : HPoint => rep p.load) (rep (fA cs l)) a.ir (WFP cs) a.res h.wf
  have hs := closings_secChain law (rep (fA cs l)) a.ir a.res h.chain
  have hch := secChain_place law (fA cs l) (rep (fA cs l)) a.ir a.loadMax a.res h.inv.2 h.chain
  have htop : ∀ top, (a.verdict (fA cs l)).out = .secondary top → WFP cs top := by
    intro top e
    have ho := verdict_out (fun p : HPoint => rep p.load) (rep (fA cs l)) a.ir a.loadMax h.inv.2 a.res
    rw [show (verdict _ _ _ _ _).out = _ from e] at ho
    obtain ⟨⟨tl, htl⟩, -⟩ := ho
    exact hw.2 top (show top ∈ (verdict _ _ _ _ _).rest from htl ▸ List.mem_cons_self)
  refine ⟨⟨rfl, hw.2, secChain_tail law _ _ _ hch, ⟨rfl, Nat.le_trans h.inv.2 (Verdict.le_ir _ _)⟩, rfl, h.lmax,
    h.emin, h.emax, ?_⟩, (gPt_newPoint hk law l htop).symm, wfp_newPoint law l htop, hch, rfl, rfl, rfl, rfl, rfl⟩
  simp only [noteStrain, List.map_append, h.recs]
  exact congrArg _ (newRecs_gk hl hc hk h.emin h.emax _ hw.1 hs.1)

/-- `RelK` with the previous load, the strain values (the detector notes those of the FIRST node) and the
lengths of the running extremes, which `vzip` would otherwise cut -/
structure RelKP (law : Law) (cs : List Int) (k : Nat) (a : State) (prev : Int) (g : Spec.GState) : Prop where
  rel : RelK law cs k a g
  prev : ∃ P, prev = rep cs * P ∧ g.prevLoad = cs.getD k 1 * P
  strains : k = 0 → a.strainValues = g.strains
  lenMin : a.eMinLF.length = cs.length
  lenMax : a.eMaxLF.length = cs.length

theorem turnStep_gk (a : State) (prev : Int) (g : Spec.GState) (l : Int) (h : RelKP law cs k a prev g) :
    RelKP law cs k (turnStep law (a, prev) (fA cs l)).1 (turnStep law (a, prev) (fA cs l)).2
      (Spec.gTurn law a.run g (cs.getD k 1 * l)) := by
  obtain ⟨hr, ⟨P, hP, hgP⟩, hs, hn1, hn2⟩ := h
  have hn : 0 < cs.length := by omega
  obtain ⟨hrel, hpt, hw, hch, hsv, f8, f9, g1, g2⟩ := ps_gk hl hc hk l a g hr
  rw [turnStep_stages, afterSample_eq]
  unfold Spec.gTurn updateLF
  generalize placeSample law a (fA cs l) = r at hrel hpt hw hch hsv f8 f9 ⊢
  generalize Spec.gStep law a.run (cs.getD k 1 * l) (g.res.length / 2 + 2) g = gr at hrel hpt g1 g2 ⊢
  obtain ⟨M, hMa, hMb⟩ := hrel.lmax
  have hpk : k < r.2.strain.length := by rw [hw.strain]; exact hk
  have hres : gr.2 :: gr.1.res = (r.2 :: r.1.res).map (gPt k) := by rw [hpt, hrel.res]; rfl
  have hwf : ∀ x ∈ r.2 :: r.1.res, WFP cs x := List.forall_mem_cons.mpr ⟨hw, hrel.wf⟩
  have hmax : ∃ M', max r.1.loadMax (rep (fA cs l)).natAbs = (rep cs).natAbs * M' ∧
      max gr.1.lmax (cs.getD k 1 * l).natAbs = (cs.getD k 1).natAbs * M' :=
    ⟨max M l.natAbs, by rw [hMa, rep_fA cs hn, Int.natAbs_mul, Nat.mul_max_mul_left],
      by rw [hMb, Int.natAbs_mul, Nat.mul_max_mul_left]⟩
  have hstr : k = 0 → r.1.strainValues = gr.1.strains ++ [gr.2.strain] := by
    intro h0
    rw [hsv, hs h0, g2, hpt, rep_eq_getD, h0]
    rfl
  have hzip : ∀ (f : Int → Int → Int) {e : Vec} {x : Int}, e.length = cs.length → e.getD k 0 = x →
      (vzip f e r.2.strain).getD k 0 = f x gr.2.strain ∧ (vzip f e r.2.strain).length = cs.length := by
    intro f e x hlen hx
    rw [getD_vzip f e r.2.strain k (by rw [hlen]; exact hk) hpk, hx, hpt, length_vzip, hlen, hw.strain, Nat.min_self]
    exact ⟨rfl, rfl⟩
  have hprev : prev < rep (fA cs l) ↔ cs.getD k 1 * P < cs.getD k 1 * l := by
    rw [hP, rep_fA cs hn, Int.mul_lt_mul_left hc.1, Int.mul_lt_mul_left hc.2]
  have hP' : ∃ P, rep (fA cs l) = rep cs * P ∧ cs.getD k 1 * l = cs.getD k 1 * P := ⟨l, rep_fA cs hn l, rfl⟩
  simp only [g1, hgP]
  by_cases hpl : prev < rep (fA cs l)
  · rw [if_pos hpl, if_pos (hprev.mp hpl)]
    obtain ⟨e, n⟩ := hzip max (f9 ▸ hn2) hrel.emax
    exact ⟨⟨hres, hwf, hch, ⟨congrArg (· + 1) hrel.inv.1, hrel.inv.2⟩, hrel.ir, hmax, hrel.emin, e, hrel.recs⟩, hP', hstr,
      f8 ▸ hn1, n⟩
  · rw [if_neg hpl, if_neg (mt hprev.mpr hpl)]
    obtain ⟨e, n⟩ := hzip min (f8 ▸ hn1) hrel.emin
    exact ⟨⟨hres, hwf, hch, ⟨congrArg (· + 1) hrel.inv.1, hrel.inv.2⟩, hrel.ir, hmax, e, hrel.emax, hrel.recs⟩, hP', hstr,
      n, f9 ▸ hn2⟩

theorem fold_gk : ∀ (ls : List Int) (a : State) (prev : Int) (g : Spec.GState), RelKP law cs k a prev g →
    RelKP law cs k ((ls.map (fA cs)).foldl (turnStep law) (a, prev)).1
      ((ls.map (fA cs)).foldl (turnStep law) (a, prev)).2
      ((ls.map (cs.getD k 1 * ·)).foldl (Spec.gTurn law a.run) g) := by
  intro ls
  induction ls with
  | nil => intro a prev g h; exact h
  | cons x ls ih =>
    intro a prev g h
    have h1 := ih _ _ _ (turnStep_gk hl hc hk a prev g x h)
    rw [turnStep_run law (a, prev) (fA cs x)] at h1
    exact h1

omit hl hc hk in
/-- a detector that has started begins its next run with the running extremes it has -/
theorem relKP_prep {a : State} {g : Spec.GState} (h : RelKP law cs k a a.prevLoad g) (hs : a.started = true)
    (n : Nat) : RelKP law cs k (prep a n) a.prevLoad g := by
  obtain ⟨r, hp, hstr, n1, n2⟩ := h
  simp only [prep_eq, hs, if_true]
  exact ⟨⟨r.res, r.wf, r.chain, r.inv, r.ir, r.lmax, r.emin, r.emax, r.recs⟩, hp, hstr, n1, n2⟩

omit hl hc in
/-- a fresh detector begins its first run on `cs.length` points with zero vectors of the batch's length, which
`vzip` then does not cut -/
theorem relKP_init : RelKP law cs k (prep {} cs.length) 0 {} := by
  have hz : (List.replicate cs.length (0 : Int)).getD k 0 = 0 := by simp [List.getD_eq_getElem?_getD, hk]
  rw [prep_eq]
  exact ⟨⟨rfl, fun p hp => absurd hp List.not_mem_nil, trivial, Inv.init, rfl, ⟨0, rfl, rfl⟩, hz, hz, rfl⟩,
    ⟨0, (Int.mul_zero _).symm, (Int.mul_zero _).symm⟩, fun _ => rfl, List.length_replicate, List.length_replicate⟩

theorem feed_gk {a : State} {g : Spec.GState} {n : Nat} (h : RelKP law cs k (prep a n) a.prevLoad g)
    (ls : List Int) :
    RelKP law cs k (feed law a n (ls.map (fA cs))) (feed law a n (ls.map (fA cs))).prevLoad
      ((ls.map (cs.getD k 1 * ·)).foldl (Spec.gTurn law (a.run + 1)) g) := by
  have hf := fold_gk hl hc hk ls _ _ g h
  rw [(prep_fields a n).2.2.2.2.2] at hf
  unfold feed
  generalize List.foldl (turnStep law) (prep a n, a.prevLoad) (ls.map (fA cs)) = r at hf ⊢
  exact ⟨⟨hf.rel.res, hf.rel.wf, hf.rel.chain, hf.rel.inv, hf.rel.ir, hf.rel.lmax, hf.rel.emin, hf.rel.emax,
    hf.rel.recs⟩, hf.prev, hf.strains, hf.lenMin, hf.lenMax⟩

/-- both passes on the batch `c · L`, seen at point `k`, are the guideline procedure on `c_k` times the base
reversals `fedG` that the passes are fed -/
theorem twoProc_gk (flag : List Int → Bool) (L : List Int) (hL : L ≠ []) :
    (twoProc law flag (fA cs) L).recs.map (toGk k) =
      (Spec.guideline law ((fedG (flag L) L).1.map (cs.getD k 1 * ·))
        ((fedG (flag L) L).2.map (cs.getD k 1 * ·))).recs.map (fun r => (r, !r.closed)) ∧
    (k = 0 → (twoProc law flag (fA cs) L).strainValues =
      (Spec.guideline law ((fedG (flag L) L).1.map (cs.getD k 1 * ·))
        ((fedG (flag L) L).2.map (cs.getD k 1 * ·))).strains) ∧
    (twoProc law flag (fA cs) L).fed = (fedG (flag L) L).1.map (fun x => (1, fA cs x)) ++
      (fedG (flag L) L).2.map fun x => (2, fA cs x) := by
  have h1 := feed_gk hl hc hk (relKP_init hk) (fedG (flag L) L).1
  obtain ⟨r1, f1, s1⟩ := feed_frame law {} cs.length ((fedG (flag L) L).1.map (fA cs))
  have h2 := feed_gk hl hc hk (relKP_prep h1 s1 cs.length) (fedG (flag L) L).2
  obtain ⟨-, f2, -⟩ := feed_frame law (feed law {} cs.length ((fedG (flag L) L).1.map (fA cs))) cs.length
    ((fedG (flag L) L).2.map (fA cs))
  rw [r1] at h2 f2
  rw [f1, List.map_map, List.map_map] at f2
  -- `core` forgets the turn bookkeeping only
  show (core (twoProc law flag (fA cs) L)).recs.map (toGk k) = _ ∧
    (k = 0 → (core (twoProc law flag (fA cs) L)).strainValues = _) ∧ (core (twoProc law flag (fA cs) L)).fed = _
  rw [twoProc_core law flag (fA cs) (rep cs) (Int.ne_of_gt hc.1) (rep_fA cs (by omega)) cs.length (length_fA cs) L hL]
  exact ⟨h2.rel.recs, h2.strains, f2⟩

end

theorem toGk_zero (h : Hyst) : (toGk 0 h).1 = toG' h := by
  simp only [toGk, toG', rep_eq_getD]

/-- the run that ended in `st` is the guideline procedure on the reversals it was fed -/
def IsGuideline (law : Law) (st : State) : Prop :=
  ∃ ls1 ls2 : List Int, st.recs.map toG' = (Spec.guideline law ls1 ls2).recs ∧
    st.strainValues = (Spec.guideline law ls1 ls2).strains ∧
    st.fed = ls1.map (fun x => (1, [x])) ++ ls2.map (fun x => (2, [x]))

/-- the instance `cs = [1]`, `k = 0` of `twoProc_gk`, read as `IsGuideline` -/
theorem twoProc_one (law : Law) (flag : List Int → Bool) (s : List Int) (hs : s ≠ []) :
    IsGuideline law (twoProc law flag (fun x => [x]) s) := by
  have e : (fun x : Int => [x]) = fA [1] := funext fun x => by simp [fA]
  obtain ⟨hr, hstr, hfed⟩ := twoProc_gk (law := law) (cs := [1]) (k := 0) (Or.inl rfl) ⟨Int.one_pos, Int.one_pos⟩
    Nat.one_pos flag s hs
  rw [e]
  refine ⟨_, _, ?_, hstr rfl, by rw [hfed, List.map_map, List.map_map]; rfl⟩
  simpa only [List.map_map, Function.comp_def, toGk_zero, List.map_id'] using congrArg (List.map Prod.fst) hr

/-- one point: both drivers are the guideline procedure on what they fed, for any law -/
theorem twoPass_one (law : Law) (s : List Int) :
    IsGuideline law (twoPassR law (s.map fun x => [x])) ∧ IsGuideline law (twoPass law (s.map fun x => [x])) := by
  by_cases hs : s = []
  · subst hs
    constructor <;> exact ⟨[], [], rfl, rfl, rfl⟩
  · obtain ⟨e1, e2⟩ := twoPass_eq_twoProc_one law s hs
    rw [e1, e2]
    exact ⟨twoProc_one law _ _ (trimI_ne_nil s hs), twoProc_one law _ _ (trimI_ne_nil s hs)⟩

/-- the records of the batch run at point `k` and those of point `k` alone agree in all columns -/
theorem twoPass_sim {law : Law} (hl : C05.SignPreserving law) {cs : List Int} {k : Nat}
    (hc : 0 < rep cs ∧ 0 < cs.getD k 1) (hk : k < cs.length) (L : List Int) :
    (twoPassR law (L.map (fA cs))).recs.map (toGk k) =
      (twoPassR law (L.map (fA [cs.getD k 1]))).recs.map (toGk 0) ∧
    (twoPass law (L.map (fA cs))).recs.map (toGk k) =
      (twoPass law (L.map (fA [cs.getD k 1]))).recs.map (toGk 0) := by
  have hn : 0 < cs.length := by omega
  by_cases hL : L = []
  · subst hL
    have hnil : (twoPassR law []).recs = [] ∧ (twoPass law []).recs = [] := ⟨rfl, rfl⟩
    simp only [List.map_nil, hnil, and_self]
  · obtain ⟨a1, a2⟩ := twoPass_eq_twoProc law (fA cs) (rep cs) (Int.ne_of_gt hc.1) (rep_fA cs hn) L hL cs.length
      (length_fA cs) (fA_zero cs)
    obtain ⟨b1, b2⟩ := twoPass_eq_twoProc law (fA [cs.getD k 1]) (cs.getD k 1) (Int.ne_of_gt hc.2)
      (rep_fA [cs.getD k 1] Nat.one_pos) L hL 1 (length_fA _) (fA_zero _)
    rw [a1, a2, b1, b2]
    have key : ∀ flag, (twoProc law flag (fA cs) (trimI L)).recs.map (toGk k) =
        (twoProc law flag (fA [cs.getD k 1]) (trimI L)).recs.map (toGk 0) := fun flag =>
      (twoProc_gk (Or.inr hl) hc hk flag _ (trimI_ne_nil L hL)).1.trans
        (twoProc_gk (law := law) (cs := [cs.getD k 1]) (k := 0) (Or.inl rfl) ⟨hc.2, hc.2⟩ Nat.one_pos flag _
          (trimI_ne_nil L hL)).1.symm
    exact ⟨key _, key _⟩

end PylifeVerif.HCM.C05L
