import Mathlib.Probability.Distributions.Gaussian.Real
import Mathlib.MeasureTheory.Group.Convolution

/-!
# The Gaussian overlap (stress–strength interference) integral

`P(S ≤ c L)` for independent `L ~ N(m, σ²)`, `S ~ N(d, s²)` equals `Φ((c m − d) / √(c² σ² + s²))` (`gaussian_overlap`); the forms in
which `pf_norm_load` and `pf_arbitrary_load` meet it are instances: the centred load here (`gaussian_overlap_sigma`), the
standardised load variable and the windowed ones in `GaussianWindow`.
-/

namespace PylifeVerif.GaussianOverlap

open MeasureTheory ProbabilityTheory
open scoped NNReal

/-- standard normal distribution function Φ -/
noncomputable def stdNormalCdf (x : ℝ) : ℝ := (gaussianReal 0 1).real (Set.Iic x)

/-- `scipy.stats.norm.pdf(x, loc = 0, scale = σ)` -/
noncomputable def normPdf (σ x : ℝ) : ℝ := (σ * Real.sqrt (2 * Real.pi))⁻¹ * Real.exp (-(x ^ 2) / (2 * σ ^ 2))

private theorem stdGauss_real_pos {s : Set ℝ} (hs : volume s ≠ 0) :
    0 < (gaussianReal 0 1).real s := by
  have h1 : (gaussianReal 0 1) s ≠ 0 := fun h =>
    hs (gaussianReal_absolutelyContinuous' 0 (one_ne_zero) h)
  rw [Measure.real, ENNReal.toReal_pos_iff]
  exact ⟨pos_iff_ne_zero.2 h1, measure_lt_top _ _⟩

theorem stdNormalCdf_neg (x : ℝ) : stdNormalCdf (-x) = 1 - stdNormalCdf x := by
  have := nullSingletonClass_gaussianReal (μ := 0) (v := 1) one_ne_zero
  have hmap : (gaussianReal 0 1).map (fun y => -y) = gaussianReal 0 1 := by
    rw [gaussianReal_map_neg, neg_zero]
  unfold stdNormalCdf
  conv_lhs => rw [← hmap]
  rw [map_measureReal_apply (by fun_prop) measurableSet_Iic]
  have hpre : (fun y : ℝ => -y) ⁻¹' Set.Iic (-x) = (Set.Iio x)ᶜ := by
    ext y; simp
  rw [hpre, probReal_compl_eq_one_sub measurableSet_Iio, measureReal_congr Iio_ae_eq_Iic]

theorem stdNormalCdf_mem_Ioo (x : ℝ) : 0 < stdNormalCdf x ∧ stdNormalCdf x < 1 := by
  have hpos : ∀ y : ℝ, 0 < stdNormalCdf y := fun y =>
    stdGauss_real_pos (by simp)
  exact ⟨hpos x, sub_pos.1 (stdNormalCdf_neg x ▸ hpos (-x))⟩

theorem stdNormalCdf_add_Ioc {x y : ℝ} (h : x ≤ y) :
    stdNormalCdf x + (gaussianReal 0 1).real (Set.Ioc x y) = stdNormalCdf y := by
  rw [stdNormalCdf, stdNormalCdf, ← measureReal_union (Set.Iic_disjoint_Ioc le_rfl) measurableSet_Ioc,
    Set.Iic_union_Ioc_eq_Iic h]

theorem stdNormalCdf_strictMono : StrictMono stdNormalCdf := by
  intro x y hxy
  rw [← stdNormalCdf_add_Ioc hxy.le]
  exact lt_add_of_pos_right _ (stdGauss_real_pos (by simp [hxy]))

theorem gaussianReal_Iic (m : ℝ) {v : ℝ≥0} (hv : v ≠ 0) (x : ℝ) :
    (gaussianReal m v).real (Set.Iic x) = stdNormalCdf ((x - m) / Real.sqrt v) := by
  have hs : 0 < Real.sqrt v := Real.sqrt_pos.2 (by positivity)
  have hmap : gaussianReal m v
      = ((gaussianReal 0 1).map (Real.sqrt v * ·)).map (· + m) := by
    rw [gaussianReal_map_const_mul, gaussianReal_map_add_const]
    congr 1
    · simp
    · apply NNReal.eq
      simp [Real.sq_sqrt]
  rw [hmap, stdNormalCdf, Measure.map_map (by fun_prop) (by fun_prop)]
  rw [map_measureReal_apply (by fun_prop) measurableSet_Iic]
  congr 1
  ext y
  simp only [Set.mem_preimage, Function.comp_apply, Set.mem_Iic, le_div_iff₀ hs, le_sub_iff_add_le, mul_comm]

theorem stdNormalCdf_measurable : Measurable stdNormalCdf :=
  stdNormalCdf_strictMono.monotone.measurable

theorem stdNormalCdf_nonneg (x : ℝ) : 0 ≤ stdNormalCdf x := (stdNormalCdf_mem_Ioo x).1.le

theorem stdNormalCdf_le_one (x : ℝ) : stdNormalCdf x ≤ 1 := (stdNormalCdf_mem_Ioo x).2.le

/-- Convolution form: `P(L' + S ≤ 0)` for independent `L' ~ N(μ, vL)`, `S ~ N(Δ, vS)` as an integral against the law
of `L'`. -/
private theorem conv_Iic_zero (μ Δ : ℝ) {vL vS : ℝ≥0} (hS : vS ≠ 0) :
    ((gaussianReal μ vL) ∗ (gaussianReal Δ vS)).real (Set.Iic 0)
      = ∫ x, stdNormalCdf ((-x - Δ) / Real.sqrt vS) ∂(gaussianReal μ vL) := by
  have hint : Integrable (fun x : ℝ => stdNormalCdf ((-x - Δ) / Real.sqrt vS)) (gaussianReal μ vL) :=
    .of_mem_Icc 0 1 (stdNormalCdf_measurable.comp (by fun_prop)).aemeasurable
      (ae_of_all _ fun _ => ⟨stdNormalCdf_nonneg _, stdNormalCdf_le_one _⟩)
  have hinner : ∀ x : ℝ, ∫⁻ y, (Set.Iic (0 : ℝ)).indicator 1 (x + y) ∂(gaussianReal Δ vS)
      = ENNReal.ofReal (stdNormalCdf ((-x - Δ) / Real.sqrt vS)) := by
    intro x
    have hfun : (fun y : ℝ => (Set.Iic (0 : ℝ)).indicator (1 : ℝ → ENNReal) (x + y))
        = (Set.Iic (-x)).indicator 1 := by
      rw [← zero_sub x, ← Set.preimage_const_add_Iic]
      rfl
    rw [hfun, lintegral_indicator_one measurableSet_Iic, ← gaussianReal_Iic Δ hS, ofReal_measureReal]
  rw [Measure.real, ← lintegral_indicator_one measurableSet_Iic,
    Measure.lintegral_conv (measurable_one.indicator measurableSet_Iic)]
  simp_rw [hinner]
  rw [← ofReal_integral_eq_lintegral_ofReal hint (ae_of_all _ fun x => stdNormalCdf_nonneg _),
    ENNReal.toReal_ofReal (integral_nonneg fun x => stdNormalCdf_nonneg _)]

theorem normPdf_eq_gaussianPDFReal {σ : ℝ} (hσ : 0 ≤ σ) (x : ℝ) :
    normPdf σ x = gaussianPDFReal 0 (.mk (σ ^ 2) (sq_nonneg σ)) x := by
  unfold normPdf gaussianPDFReal
  rw [NNReal.coe_mk, sub_zero, Real.sqrt_mul (by positivity : (0 : ℝ) ≤ 2 * Real.pi), Real.sqrt_sq hσ, mul_comm σ]

theorem nnreal_sq_ne_zero {σ : ℝ} (hσ : 0 < σ) : NNReal.mk (σ ^ 2) (sq_nonneg σ) ≠ 0 :=
  NNReal.coe_ne_zero.1 (pow_pos hσ 2).ne'

/-! `normPdf σ (· − m)` is the density of `N(m, σ²)`: an integral against it, over the line or over a window, is an
integral against that law. -/

theorem integral_normPdf_mul {σ : ℝ} (hσ : 0 < σ) (m : ℝ) (g : ℝ → ℝ) :
    ∫ y, normPdf σ (y - m) * g y = ∫ y, g y ∂(gaussianReal m (.mk (σ ^ 2) (sq_nonneg σ))) := by
  rw [integral_gaussianReal_eq_integral_smul (nnreal_sq_ne_zero hσ)]
  simp only [normPdf_eq_gaussianPDFReal hσ.le, gaussianPDFReal_sub, zero_add, smul_eq_mul]

theorem intervalIntegral_normPdf_mul {σ : ℝ} (hσ : 0 < σ) (m : ℝ) (g : ℝ → ℝ) {a b : ℝ} (hab : a ≤ b) :
    ∫ y in a..b, normPdf σ (y - m) * g y
      = ∫ y in Set.Ioc a b, g y ∂(gaussianReal m (.mk (σ ^ 2) (sq_nonneg σ))) := by
  rw [intervalIntegral.integral_of_le hab, ← integral_indicator measurableSet_Ioc,
    ← integral_indicator measurableSet_Ioc, ← integral_normPdf_mul hσ]
  simp only [Set.indicator_mul_right]

/-- Overlap integral: load `L ~ N(m, σ²)` (density `normPdf σ (y − m)`), weight `Φ((c y − d)/s)` - the distribution
function of a strength `S ~ N(d, s²)` at `c L`.  It is the probability that `−c L + S ≤ 0`, and `−c L + S` is normal; location
and scale are moved on the laws (Mathlib's maps of `gaussianReal`), never by a substitution in an integral. -/
theorem gaussian_overlap (m σ c d s : ℝ) (hσ : 0 < σ) (hs : 0 < s) :
    ∫ y, normPdf σ (y - m) * stdNormalCdf ((c * y - d) / s)
      = stdNormalCdf ((c * m - d) / Real.sqrt (c ^ 2 * σ ^ 2 + s ^ 2)) := by
  have hS := nnreal_sq_ne_zero hs
  have h := conv_Iic_zero (-c * m) d (vL := .mk ((-c) ^ 2) (sq_nonneg _) * .mk (σ ^ 2) (sq_nonneg σ)) hS
  rw [gaussianReal_conv_gaussianReal, gaussianReal_Iic _ (add_pos_of_nonneg_of_pos zero_le (pos_iff_ne_zero.2 hS)).ne',
    ← gaussianReal_map_const_mul,
    integral_map (by fun_prop) (stdNormalCdf_measurable.fun_comp (by fun_prop)).aestronglyMeasurable,
    ← integral_normPdf_mul hσ] at h
  simp only [NNReal.coe_add, NNReal.coe_mul, NNReal.coe_mk, Real.sqrt_sq hs.le, neg_sq, neg_mul, neg_neg, zero_sub,
    neg_add, ← sub_eq_add_neg] at h
  exact h.symm

/-- load centred at 0, in the load variable itself: `pdf(x, loc=0, scale=σL) * cdf(x, loc=Δ, scale=σS)` in the notation
of `scipy.stats.norm` (`pf_norm_load` integrates the standardised form, `gaussian_overlap_standardised`) -/
theorem gaussian_overlap_sigma (Δ σL σS : ℝ) (hL : 0 < σL) (hS : 0 < σS) :
    ∫ x, normPdf σL x * stdNormalCdf ((x - Δ) / σS)
      = stdNormalCdf (-Δ / Real.sqrt (σL ^ 2 + σS ^ 2)) := by
  simpa only [sub_zero, one_mul, mul_zero, zero_sub, one_pow] using gaussian_overlap 0 σL 1 Δ σS hL hS

theorem stdNormalCdf_zero : stdNormalCdf 0 = 1 / 2 := by
  have h := stdNormalCdf_neg 0
  rw [neg_zero] at h
  linarith

/-- non-vacuity: equal unit scatter, unit safety margin -/
example : ∫ x, ((1 * Real.sqrt (2 * Real.pi))⁻¹ * Real.exp (-(x ^ 2) / (2 * (1 : ℝ) ^ 2)))
        * stdNormalCdf ((x - 1) / 1)
      = stdNormalCdf (-1 / Real.sqrt (1 ^ 2 + 1 ^ 2)) :=
  gaussian_overlap_sigma 1 1 1 one_pos one_pos

end PylifeVerif.GaussianOverlap
