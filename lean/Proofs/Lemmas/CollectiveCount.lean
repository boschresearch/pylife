/-
Helper lemmas for C14: integer class counts (`natTo`, `linspace`, `minL`, `maxL`, `autoEdges`): the edges numpy
derives from a bin count are weakly increasing and cover every value, so a two-dimensional histogram on them holds the
whole weight (`count_hist2d_total`).  At the end three instances: automatic edges, `kap_compose_coarsen`, a source with a point class.
-/
import Proofs.Lemmas.Collective
import Proofs.Lemmas.ListFacts

namespace PylifeVerif.Collective

attribute [local simp] lit_zero lit_one lit_two lit_half

theorem natTo_eq (n : Nat) : (natTo n : ℝ) = (n : ℝ) := by
  induction n with
  | zero => simp [natTo]
  | succ k ih => simp [natTo, ih]

theorem linspace_length (a b : ℝ) (n : Nat) : (linspace a b n).length = n + 1 := by
  simp [linspace]

theorem linspace_mono (a b : ℝ) (n : Nat) (h : a ≤ b) : Mono (linspace a b n) := by
  rw [mono_iff_pairwise, linspace]
  rcases Nat.eq_zero_or_pos n with rfl | hn
  · exact List.pairwise_singleton _ _
  have hnR : (0 : ℝ) < natTo n := natTo_eq n ▸ Nat.cast_pos.mpr hn
  have hstep : 0 ≤ (b - a) / natTo n := div_nonneg (sub_nonneg.mpr h) hnR.le
  have hle : ∀ {i j : Nat}, i ≤ j → (natTo i : ℝ) * ((b - a) / natTo n) ≤ natTo j * ((b - a) / natTo n) := by
    intro i j hij
    rw [natTo_eq i, natTo_eq j]
    exact mul_le_mul_of_nonneg_right (Nat.cast_le.mpr hij) hstep
  refine List.pairwise_append.mpr ⟨?_, List.pairwise_singleton _ _, ?_⟩
  · rw [List.pairwise_map]
    exact List.pairwise_lt_range.imp fun hij => add_le_add_left (hle hij.le) a
  · intro x hx y hy
    rw [List.mem_singleton.mp hy]
    obtain ⟨k, hk, rfl⟩ := List.mem_map.mp hx
    -- `k * step ≤ n * step = b - a`
    have h1 := hle (List.mem_range.mp hk).le
    rw [mul_div_cancel₀ _ hnR.ne'] at h1
    exact le_sub_iff_add_le.mp h1

theorem linspace_spec (a b : ℝ) (n : Nat) (hn : 0 < n) (h : a ≤ b) : ∃ rest, linspace a b n = a :: rest ∧ rest ≠ [] ∧
    Mono (a :: rest) ∧ (a :: rest).getLast (List.cons_ne_nil _ _) = b := by
  obtain ⟨m, rfl⟩ := Nat.exists_eq_succ_of_ne_zero hn.ne'
  have h0 : (natTo 0 : ℝ) * ((b - a) / natTo (m + 1)) + a = a := by rw [natTo_eq, Nat.cast_zero, zero_mul, zero_add]
  have h1 : linspace a b (m + 1) = a ::
      (((List.range m).map Nat.succ).map (fun k => natTo k * ((b - a) / natTo (m + 1)) + a) ++ [b]) := by
    rw [linspace, List.range_succ_eq_map, List.map_cons, List.cons_append, h0]
  exact ⟨_, h1, by simp, h1 ▸ linspace_mono a b (m + 1) h, List.getLast_append_singleton (a :: _)⟩

theorem minL_le : ∀ (l : List ℝ), ∀ x ∈ l, minL l ≤ x
  | [], _, hx => by cases hx
  | a :: as, x, hx =>
    foldl_select (R := (· ≤ ·)) le_refl le_trans (fun m y => if y < m then y else m)
      (fun m y => by split_ifs with h; exacts [h.le, le_rfl])
      (fun m y => by split_ifs with h; exacts [le_rfl, not_lt.mp h]) as a x hx

theorem le_maxL : ∀ (l : List ℝ), ∀ x ∈ l, x ≤ maxL l
  | [], _, hx => by cases hx
  | a :: as, x, hx =>
    foldl_select (R := (· ≥ ·)) le_refl ge_trans (fun m y => if m < y then y else m)
      (fun m y => by split_ifs with h; exacts [h.le, le_rfl])
      (fun m y => by split_ifs with h; exacts [le_rfl, not_lt.mp h]) as a x hx

theorem minL_le_maxL (l : List ℝ) : minL l ≤ maxL l := by
  cases l with
  | nil => exact le_rfl
  | cons a as =>
    exact le_trans (minL_le (a :: as) a (List.mem_cons_self ..)) (le_maxL (a :: as) a (List.mem_cons_self ..))

theorem autoEdges_spec (vals : List ℝ) (n : Nat) (hn : 0 < n) : ∃ e0 rest, autoEdges vals n = e0 :: rest ∧ rest ≠ [] ∧
    Mono (e0 :: rest) ∧ ∀ v ∈ vals, e0 ≤ v ∧ v ≤ (e0 :: rest).getLast (List.cons_ne_nil _ _) := by
  have hmm := minL_le_maxL vals
  unfold autoEdges
  simp only []
  split_ifs with hlt
  · obtain ⟨rest, h1, h2, h3, h4⟩ := linspace_spec (minL vals) (maxL vals) n hn hmm
    exact ⟨minL vals, rest, h1, h2, h3, fun v hv => h4 ▸ ⟨minL_le vals v hv, le_maxL vals v hv⟩⟩
  · rw [lit_half]
    have hlo : minL vals - 1 / 2 ≤ minL vals := sub_le_self _ (by norm_num)
    have hhi : maxL vals ≤ maxL vals + 1 / 2 := le_add_of_nonneg_right (by norm_num)
    obtain ⟨rest, h1, h2, h3, h4⟩ := linspace_spec (minL vals - 1 / 2) (maxL vals + 1 / 2) n hn
      (hlo.trans (hmm.trans hhi))
    exact ⟨_, rest, h1, h2, h3, fun v hv => h4 ▸ ⟨hlo.trans (minL_le vals v hv), (le_maxL vals v hv).trans hhi⟩⟩

theorem count_hist2d_total (pts : List (ℝ × ℝ × ℝ)) (nx ny : Nat) (hx : 0 < nx) (hy : 0 < ny) :
    total ((hist2d (autoEdges (pts.map (·.1)) nx) (autoEdges (pts.map (·.2.1)) ny) pts).map total) =
      (pts.map (·.2.2)).sum := by
  obtain ⟨x0, xr, hex, hxr, hmx, hcx⟩ := autoEdges_spec (pts.map (·.1)) nx hx
  obtain ⟨y0, yr, hey, hyr, hmy, hcy⟩ := autoEdges_spec (pts.map (·.2.1)) ny hy
  rw [hex, hey, hist2d_rows_total _ y0 yr pts hyr hmy, hist_total x0 xr _ hxr hmx, List.filter_map, List.map_map,
    List.filter_filter, List.filter_eq_self.mpr]
  · rfl
  intro p hp
  simp [hcx _ (List.mem_map_of_mem hp), hcy _ (List.mem_map_of_mem hp)]

example : autoEdges ([1, 3] : List ℝ) 2 = [1, 2, 3] := by
  simp [autoEdges, minL, maxL, linspace, natTo, List.range_succ]
  norm_num

/-- source class `(1/2, 5]` (not covered by `B = [0, 1, 2, 3]`), target class `(1, 3]` with both end points in `B` -/
example : ((pairs ([0, 1, 2, 3] : List ℝ)).map fun p => kap p.1 p.2 (1 / 2) 5 * kap 1 3 p.1 p.2).sum =
    kap 1 3 (1 / 2) 5 :=
  kap_compose_coarsen (1 / 2) 5 1 3 0 [1, 2, 3] ⟨by norm_num, by norm_num, by norm_num, trivial⟩
    (by norm_num) (by norm_num) (by simp) (by simp)

-- a source with a point class `(1, 1]` has `s.l ≤ s.r` for all its classes
example : ∀ s ∈ ([⟨0, 1, 2⟩, ⟨1, 1, 5⟩, ⟨-1, 4, 1⟩] : List (Bin ℝ)), s.l ≤ s.r := by
  intro s hs
  simp at hs
  rcases hs with rfl | rfl | rfl <;> norm_num

end PylifeVerif.Collective
