/-
Real-number meaning of the helpers of `Generated/Prelude.lean`: the numpy functions that are written in a Float-accurate way
(`np_log1p`, `np_expm1`: Kahan's correction factor) ARE `log (1 + x)` and `exp x - 1` over ℝ; python's builtins `py_max`, `py_min`
(an `if` each) are `max` and `min`.
The bridge tactic of the material laws rewrites with these lemmas (`gen_real` in `Proofs/Lemmas/MaterialLawsGen.lean`), so that
the property proofs see the same real expression whichever spelling (`np.log(1. + x)` / `np.log1p(x)`) the source uses.  The
material laws as they are written today contain none of the four helpers: the lemmas are there for a re-spelt source.
-/
import Proofs.RealNum
import Generated.Prelude
import Mathlib.Tactic.Linarith

namespace PylifeVerif.Generated

theorem np_log1p_real (x : ℝ) : np_log1p x = Real.log (1 + x) := by
  simp only [np_log1p, lit_one, transc_log]
  rcases eq_or_ne x 0 with rfl | hx
  · simp
  · rw [if_pos (by rwa [lt_or_lt_iff_ne, ne_eq, add_eq_left]), add_sub_cancel_left, div_self hx, mul_one]

theorem np_expm1_real (x : ℝ) : np_expm1 x = Real.exp x - 1 := by
  simp only [np_expm1, lit_one, transc_log, transc_exp, Real.log_exp]
  rcases eq_or_ne x 0 with rfl | hx
  · simp
  · have hne : Real.exp x ≠ 1 := fun h => hx (Real.exp_eq_one_iff x |>.mp h)
    rw [if_pos (lt_or_lt_iff_ne.mpr hne), if_neg (by linarith [Real.exp_pos x]), div_self hx, mul_one]

theorem py_max_real (a b : ℝ) : py_max a b = max a b := by
  unfold py_max; split_ifs with h
  · exact (max_eq_right h.le).symm
  · exact (max_eq_left (not_lt.mp h)).symm

theorem py_min_real (a b : ℝ) : py_min a b = min a b := by
  unfold py_min; split_ifs with h
  · exact (min_eq_right h.le).symm
  · exact (min_eq_left (not_lt.mp h)).symm

end PylifeVerif.Generated
