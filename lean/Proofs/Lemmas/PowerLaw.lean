/-
The power law through the point `(B, A)`, `x ↦ A * (x / B) ^ e` with `e < 0`, and two of them glued at the knee `B`
(`twoSlope`).  The Wöhler line (`N = ND (L/SD)^(-k)`, `L = SD (N/ND)^(-1/k)`) and the FKM-nonlinear component curves
(`N = 10³ (P/P_Z)^(1/d)`, `P = P_Z (N/10³)^d`) are of this form in both directions; the inverse of a two-slope law is the
two-slope law with the roles of `A` and `B` exchanged and the inverted exponents in the other order.  Last: `CutPair`, a
strictly decreasing law `f` with its inverse `g`, and `cut g L D`, the inverse cut off at the endurance value - what `calc_N` /
`calc_P` of both FKM-nonlinear curves are, and from which C09 reads its inverse, branch and continuity theorems.
-/
import Mathlib.Analysis.SpecialFunctions.Pow.Real
import Mathlib.Analysis.SpecialFunctions.Pow.Continuity

namespace PylifeVerif.PowerLaw

variable {A B B' e e₁ e₂ x y : ℝ}

theorem at_knee (A : ℝ) {B : ℝ} (hB : B ≠ 0) (e : ℝ) : A * (B / B) ^ e = A := by
  rw [div_self hB, Real.one_rpow, mul_one]

theorem pos (hA : 0 < A) (hB : 0 < B) (hx : 0 < x) (e : ℝ) : 0 < A * (x / B) ^ e :=
  mul_pos hA (Real.rpow_pos_of_pos (div_pos hx hB) e)

theorem strictAnti (hA : 0 < A) (hB : 0 < B) (he : e < 0) (hx : 0 < x) (hxy : x < y) :
    A * (y / B) ^ e < A * (x / B) ^ e :=
  mul_lt_mul_of_pos_left (Real.rpow_lt_rpow_of_neg (div_pos hx hB) (div_lt_div_of_pos_right hxy hB) he) hA

theorem antitone (hA : 0 ≤ A) (hB : 0 < B) (he : e ≤ 0) (hx : 0 < x) (hxy : x ≤ y) :
    A * (y / B) ^ e ≤ A * (x / B) ^ e :=
  mul_le_mul_of_nonneg_left
    (Real.rpow_le_rpow_of_nonpos (div_pos hx hB) (div_le_div_of_nonneg_right hxy hB.le) he) hA

theorem lt_knee (hA : 0 < A) (hB : 0 < B) (he : e < 0) (h : B < x) : A * (x / B) ^ e < A := by
  have := strictAnti hA hB he hB h
  rwa [at_knee A hB.ne'] at this

theorem le_knee (hA : 0 ≤ A) (hB : 0 < B) (he : e ≤ 0) (h : B ≤ x) : A * (x / B) ^ e ≤ A := by
  have := antitone hA hB he hB h
  rwa [at_knee A hB.ne'] at this

theorem gt_knee (hA : 0 < A) (hB : 0 < B) (he : e < 0) (hx : 0 < x) (h : x < B) : A < A * (x / B) ^ e := by
  have := strictAnti hA hB he hx h
  rwa [at_knee A hB.ne'] at this

theorem ge_knee (hA : 0 ≤ A) (hB : 0 < B) (he : e ≤ 0) (hx : 0 < x) (h : x ≤ B) : A ≤ A * (x / B) ^ e := by
  have := antitone hA hB he hx h
  rwa [at_knee A hB.ne'] at this

theorem inverse (hA : A ≠ 0) (hB : 0 < B) (he : e ≠ 0) (hx : 0 < x) : B * (A * (x / B) ^ e / A) ^ e⁻¹ = x := by
  rw [mul_div_cancel_left₀ _ hA, Real.rpow_rpow_inv (div_pos hx hB).le he, mul_div_cancel₀ _ hB.ne']

theorem inverse' (hA : A ≠ 0) (hB : 0 < B) (he : e ≠ 0) (hx : 0 < x) : B * (A * (x / B) ^ e⁻¹ / A) ^ e = x := by
  have := inverse hA hB (inv_ne_zero he) hx
  rwa [inv_inv] at this

theorem continuousOn (A : ℝ) (hB : B ≠ 0) (e : ℝ) : ContinuousOn (fun x => A * (x / B) ^ e) (Set.Ioi 0) :=
  continuousOn_const.mul
    ((continuousOn_id.div_const B).rpow_const fun _ hx => Or.inl (div_ne_zero (ne_of_gt hx) hB))

noncomputable def twoSlope (A B e₁ e₂ x : ℝ) : ℝ := if B ≤ x then A * (x / B) ^ e₁ else A * (x / B) ^ e₂

theorem twoSlope_of_le (h : B ≤ x) : twoSlope A B e₁ e₂ x = A * (x / B) ^ e₁ := if_pos h

theorem twoSlope_of_lt (h : x < B) : twoSlope A B e₁ e₂ x = A * (x / B) ^ e₂ := if_neg (not_le.mpr h)

theorem twoSlope_knee (hB : B ≠ 0) : twoSlope A B e₁ e₂ B = A := by
  rw [twoSlope_of_le le_rfl, at_knee A hB]

/-- at the knee itself either formula may be used -/
theorem twoSlope_of_ge (hB : B ≠ 0) (h : x ≤ B) : twoSlope A B e₁ e₂ x = A * (x / B) ^ e₂ := by
  rcases eq_or_lt_of_le h with rfl | h
  · rw [twoSlope_knee hB, at_knee A hB]
  · exact twoSlope_of_lt h

theorem twoSlope_pos (hA : 0 < A) (hB : 0 < B) (hx : 0 < x) : 0 < twoSlope A B e₁ e₂ x := by
  unfold twoSlope
  split_ifs
  · exact pos hA hB hx e₁
  · exact pos hA hB hx e₂

theorem twoSlope_strictAntiOn (hA : 0 < A) (hB : 0 < B) (h₁ : e₁ < 0) (h₂ : e₂ < 0) :
    StrictAntiOn (twoSlope A B e₁ e₂) (Set.Ioi 0) := by
  intro x hx y _ hxy
  rcases lt_or_ge x B with hxB | hxB
  · rcases lt_or_ge y B with hyB | hyB
    · rw [twoSlope_of_lt hxB, twoSlope_of_lt hyB]
      exact strictAnti hA hB h₂ hx hxy
    · rw [twoSlope_of_lt hxB, twoSlope_of_le hyB]
      exact lt_of_le_of_lt (le_knee hA.le hB h₁.le hyB) (gt_knee hA hB h₂ hx hxB)
  · rw [twoSlope_of_le hxB, twoSlope_of_le (le_trans hxB hxy.le)]
    exact strictAnti hA hB h₁ hx hxy

theorem twoSlope_lt_knee_iff (hA : 0 < A) (hB : 0 < B) (h₁ : e₁ < 0) (h₂ : e₂ < 0) (hx : 0 < x) :
    twoSlope A B e₁ e₂ x < A ↔ B < x := by
  have := (twoSlope_strictAntiOn hA hB h₁ h₂).lt_iff_gt hx hB
  rwa [twoSlope_knee hB.ne'] at this

theorem twoSlope_gt_knee_iff (hA : 0 < A) (hB : 0 < B) (h₁ : e₁ < 0) (h₂ : e₂ < 0) (hx : 0 < x) :
    A < twoSlope A B e₁ e₂ x ↔ x < B := by
  have := (twoSlope_strictAntiOn hA hB h₁ h₂).lt_iff_gt hB hx
  rwa [twoSlope_knee hB.ne'] at this

theorem twoSlope_eq_knee_iff (hA : 0 < A) (hB : 0 < B) (h₁ : e₁ < 0) (h₂ : e₂ < 0) (hx : 0 < x) :
    twoSlope A B e₁ e₂ x = A ↔ x = B := by
  have := (twoSlope_strictAntiOn hA hB h₁ h₂).injOn.eq_iff hx hB
  rwa [twoSlope_knee hB.ne'] at this

theorem twoSlope_inverse (hA : 0 < A) (hB : 0 < B) (h₁ : e₁ < 0) (h₂ : e₂ < 0) (hx : 0 < x) :
    twoSlope B A e₂⁻¹ e₁⁻¹ (twoSlope A B e₁ e₂ x) = x := by
  rcases lt_or_ge x B with h | h
  · rw [twoSlope_of_lt h, twoSlope_of_le (gt_knee hA hB h₂ hx h).le, inverse hA.ne' hB h₂.ne hx]
  · rw [twoSlope_of_le h, twoSlope_of_ge hA.ne' (le_knee hA.le hB h₁.le h), inverse hA.ne' hB h₁.ne hx]

theorem twoSlope_continuousOn (A : ℝ) (hB : B ≠ 0) (e₁ e₂ : ℝ) :
    ContinuousOn (twoSlope A B e₁ e₂) (Set.Ioi 0) := by
  -- on `x > 0`, glue the two laws along the closed set `B ≤ x`, where they agree on the frontier `x = B`
  have h₁ := continuousOn A hB e₁
  have h₂ := continuousOn A hB e₂
  rw [continuousOn_iff_continuous_domRestrict] at h₁ h₂ ⊢
  exact Continuous.if_le h₁ h₂ continuous_const continuous_subtype_val fun x hx => by
    simp only [← hx, at_knee A hB]

theorem twoSlope_mono_knee (hA : 0 < A) (hB' : 0 < B') (hBB : B' ≤ B) (h₁ : e₁ < 0) (h₂ : e₂ < 0) (hx : 0 < x) :
    twoSlope A B' e₁ e₂ x ≤ twoSlope A B e₁ e₂ x := by
  have hB := lt_of_lt_of_le hB' hBB
  have unit : ∀ {b : ℝ}, 0 < b → twoSlope A b e₁ e₂ x = twoSlope A 1 e₁ e₂ (x / b) := fun hb => by
    simp only [twoSlope, div_one, one_le_div hb]
  rw [unit hB', unit hB]
  exact (twoSlope_strictAntiOn hA one_pos h₁ h₂).antitoneOn (div_pos hx hB) (div_pos hx hB')
    (div_le_div_of_nonneg_left hx.le hB' hBB)

/-! ### a decreasing law, its inverse, and the endurance cut

Both component curves have this shape: the life `f P` falls strictly with the parameter, `g` is the inverse law, and
`calc_P` follows `g` only up to the life limit `L = f D` of the endurance value `D` and stays at `D` from there on. -/

/-- `f`: `calc_N` without the endurance cut (`pramN`, `prajN`); `g`: the branch formula of `calc_P` below the life limit;
`D`: the endurance value; `L = f D`: its life (`fatigue_life_limit`). -/
structure CutPair (f g : ℝ → ℝ) (D L : ℝ) : Prop where
  anti : StrictAntiOn f (Set.Ioi 0)
  fpos : ∀ {x}, 0 < x → 0 < f x
  gpos : ∀ {y}, 0 < y → 0 < g y
  gf : ∀ {x}, 0 < x → g (f x) = x
  fg : ∀ {y}, 0 < y → f (g y) = y
  gcont : ContinuousOn g (Set.Ioi 0)
  hD : 0 < D
  hL : f D = L

noncomputable def cut (g : ℝ → ℝ) (L D y : ℝ) : ℝ := if y < L then g y else D

variable {f g : ℝ → ℝ} {D L : ℝ}

theorem cut_of_lt (h : y < L) : cut g L D y = g y := if_pos h

theorem cut_of_ge (h : L ≤ y) : cut g L D y = D := if_neg (not_lt.mpr h)

namespace CutPair
variable (k : CutPair f g D L)
include k

theorem L_pos : 0 < L := k.hL ▸ k.fpos k.hD

theorem lt_limit_iff (hx : 0 < x) : f x < L ↔ D < x := k.hL ▸ k.anti.lt_iff_gt hx k.hD

theorem g_limit : g L = D := k.hL ▸ k.gf k.hD

theorem ganti : StrictAntiOn g (Set.Ioi 0) := fun _ ha _ hb hab =>
  (k.anti.lt_iff_gt (k.gpos ha) (k.gpos hb)).mp (by rwa [k.fg ha, k.fg hb])

theorem cut_f (hx : D < x) : cut g L D (f x) = x := by
  have hx0 := lt_trans k.hD hx
  rw [cut_of_lt ((k.lt_limit_iff hx0).mpr hx), k.gf hx0]

theorem f_cut (hy : 0 < y) (hyL : y < L) : f (cut g L D y) = y := by rw [cut_of_lt hyL, k.fg hy]

theorem cut_gt (hy : 0 < y) (hyL : y < L) : D < cut g L D y := by
  rw [cut_of_lt hyL, ← k.lt_limit_iff (k.gpos hy), k.fg hy]
  exact hyL

theorem cut_strictAntiOn : StrictAntiOn (cut g L D) (Set.Ioc 0 L) := by
  intro a ha b hb hab
  have haL := lt_of_lt_of_le hab hb.2
  rcases eq_or_lt_of_le hb.2 with heq | hlt
  · rw [cut_of_ge heq.ge]
    exact k.cut_gt ha.1 haL
  · rw [cut_of_lt haL, cut_of_lt hlt]
    exact k.ganti ha.1 hb.1 hab

theorem cut_continuousOn : ContinuousOn (cut g L D) (Set.Ioi 0) := by
  -- the cut is a maximum: the inverse law is above `D` before the limit and below it after
  refine (continuousOn_const.sup k.gcont : ContinuousOn (fun y => max D (g y)) _).congr fun y hy => ?_
  beta_reduce
  rcases lt_or_ge y L with hlt | hge
  · rw [cut_of_lt hlt]
    exact (max_eq_right (cut_of_lt hlt ▸ k.cut_gt hy hlt).le).symm
  · rw [cut_of_ge hge, ← k.g_limit]
    exact (max_eq_left (k.ganti.antitoneOn k.L_pos hy hge)).symm

end CutPair

end PylifeVerif.PowerLaw
