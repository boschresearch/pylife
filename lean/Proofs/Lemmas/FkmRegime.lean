/-
Kernel-checked REFUTATION of the conjecture behind the second disjunct of `C10.Regime`
(`Proofs/C10.lean`: `Regime … := early = false ∨ countRun 1 ds ≤ countRun 2 ds + 1`).

Conjecture: for every output of the HCM model `HCM.twoPass` the number `n1` of hystereses recorded in the
first pass (`run_index = 1`) is at most one more than the number `n2` recorded in the second pass (`run_index = 2`).

It is FALSE, in the model and in the real code alike:

    [100,-200,300,-400,500,-600]        n1 = 5,  n2 = 3          (`n1_n2_witness`)
    [1,-2,3,-4,5,-6,7,-8,9,-10]         n1 = 9,  n2 = 5          (`n1_n2_witness_10`)

Reason.  In an alternating sequence with strictly growing absolute values every turning point of the first pass
exceeds the largest absolute load seen so far: nothing closes, every turning point after the first one records a
half-counted Memory-3 hysteresis (`2m − 1` of them for `2m` samples).  In the second pass the load maximum is already
known, and the `2m` samples close pairwise: `m` closed hystereses `(-200,100), (-400,300), (-600,500)`.
So `n1 − n2 = m − 1` grows with `m`.  The pattern is evaluated in the kernel for `m ≤ 12` (`alternating_profile_upto_12`: a
finite check, NOT a proof for all `m`; the general statement is not proved here).
-/
import Model.Assessment
import Proofs.Lemmas.FkmNonlinear
import Proofs.C05Mirror
import Proofs.C05Code
import Mathlib.Tactic.NormNum

namespace PylifeVerif.C10.RegimeRefuted
open PylifeVerif.HCM

/-- a one-point load sequence (`= C04.one = C10.one`) -/
def one (s : List Int) : List Vec := s.map fun x => [x]

/-- number of hystereses the code records in the first pass, stub law `lawLinear` -/
def n1 (s : List Int) : Nat := ((twoPass lawLinear (one s)).recs.filter (fun h => h.run = 1)).length

/-- number of hystereses the code records in the second pass -/
def n2 (s : List Int) : Nat := ((twoPass lawLinear (one s)).recs.filter (fun h => h.run = 2)).length

/-- the witness, with its records spelled out: five Memory-3 halves in pass 1, three closed hystereses in pass 2 -/
theorem regime_witness_records :
    (twoPass lawLinear (one [100,-200,300,-400,500,-600])).recs.map
        (fun h => (h.run, h.closed, h.loadMin, h.loadMax)) =
      [(1, false, [-100], [100]), (1, false, [-200], [200]), (1, false, [-300], [300]), (1, false, [-400], [400]),
       (1, false, [-500], [500]), (2, true, [-200], [100]), (2, true, [-400], [300]), (2, true, [-600], [500])] := by
  decide +kernel

/-! ### symmetries of the run column

The counts `n1`, `n2` read only the run column of the records.  That column does not change when the load sequence is
multiplied by a positive factor (a batch of the two points with factors `1` and `c` records one table, whose projections
are what each point records alone: `C05.hcm_batch_eq_single_code`) or negated (`C05.hcm_neg_mirror_code`). -/

def runs (s : List Int) : List Nat := (twoPass lawLinear (one s)).recs.map (·.run)

theorem n_eq_count (s : List Int) : n1 s = (runs s).count 1 ∧ n2 s = (runs s).count 2 := by
  have hc : ∀ r : Nat, ((twoPass lawLinear (one s)).recs.filter (fun h => h.run = r)).length = (runs s).count r := by
    intro r
    rw [runs, List.count_eq_countP, List.countP_map, List.countP_eq_length_filter]
    rfl
  exact ⟨hc 1, hc 2⟩

theorem counts_of_runs {s t : List Int} (h : runs s = runs t) : n1 s = n1 t ∧ n2 s = n2 t := by
  rw [(n_eq_count s).1, (n_eq_count s).2, (n_eq_count t).1, (n_eq_count t).2, h]
  exact ⟨rfl, rfl⟩

theorem runs_of_proj {k k' : Nat} {a b : List Hyst} (h : a.map (C05.proj k) = b.map (C05.proj k')) :
    a.map (·.run) = b.map (·.run) := by
  have := congrArg (List.map fun p => p.2.2.2) h
  rw [List.map_map, List.map_map] at this
  exact this

theorem runs_scale {c : Int} (hc : 0 < c) (s : List Int) : runs (s.map (· * c)) = runs s := by
  have hpos : ∀ d ∈ [1, c], 0 < d := by
    intro d hd
    rcases List.mem_pair.mp hd with rfl | rfl
    · exact Int.one_pos
    · exact hc
  have h0 := C05.hcm_batch_eq_single_code lawLinear C05.signPreserving_lawLinear s [1, c] hpos 0 Nat.zero_lt_two
  have h1 := C05.hcm_batch_eq_single_code lawLinear C05.signPreserving_lawLinear s [1, c] hpos 1 Nat.one_lt_two
  have e0 : (s.map fun l => [[1, c].getD 0 1 * l]) = one s :=
    List.map_congr_left fun l _ => congrArg (fun x => [x]) (Int.one_mul l)
  have e1 : (s.map fun l => [[1, c].getD 1 1 * l]) = one (s.map (· * c)) := by
    rw [one, List.map_map]
    exact List.map_congr_left fun l _ => congrArg (fun x => [x]) (Int.mul_comm c l)
  rw [e0] at h0
  rw [e1] at h1
  exact (runs_of_proj h1).symm.trans (runs_of_proj h0)

theorem runs_neg (s : List Int) : runs (s.map (- ·)) = runs s := by
  have e : one (s.map (- ·)) = (one s).map vneg := by
    rw [one, one, List.map_map, List.map_map]
    rfl
  rw [runs, e, (C05.hcm_neg_mirror_code lawLinear C05.oddLaw_linear _).1, List.map_map]
  rfl

theorem runs_neg_scale {c : Int} (hc : 0 < c) (s : List Int) : runs (s.map (· * -c)) = runs s := by
  have e : s.map (· * -c) = (s.map (· * c)).map (- ·) := by
    rw [List.map_map]
    exact List.map_congr_left fun x _ => Int.mul_neg x c
  rw [e, runs_neg, runs_scale hc]

/-! ### the pattern: alternating, strictly growing absolute values -/

/-- `[1, -2, 3, -4, …, -(2m)]` -/
def alt (m : Nat) : List Int :=
  (List.range (2 * m)).map fun (i : Nat) => if i % 2 = 0 then (Int.ofNat i + 1) else -(Int.ofNat i + 1)

example : alt 3 = [1, -2, 3, -4, 5, -6] := by decide

/-- The records of `alt m`, reduced to run index, closed flag and zero-mean flag: `2m − 1` Memory-3 halves in pass 1, then
`m` closed hystereses in pass 2 — checked for `m ≤ 12` (a finite check, not the general claim). -/
theorem alternating_profile_upto_12 :
    ∀ m ∈ List.range 13, (twoPass lawLinear (one (alt m))).recs.map (fun h => (h.run, h.closed, h.zeroMean)) =
      List.replicate (2 * m - 1) (1, false, true) ++ List.replicate m (2, true, false) := by
  decide +kernel

theorem alternating_pattern_upto_12 :
    ∀ m ∈ List.range 13, 1 ≤ m → n1 (alt m) = 2 * m - 1 ∧ n2 (alt m) = m := by
  intro m hm _
  have hr : runs (alt m) = List.replicate (2 * m - 1) 1 ++ List.replicate m 2 := by
    have := congrArg (List.map (·.1)) (alternating_profile_upto_12 m hm)
    rwa [List.map_map, List.map_append, List.map_replicate, List.map_replicate] at this
  rw [(n_eq_count _).1, (n_eq_count _).2, hr, List.count_append, List.count_append, List.count_replicate,
    List.count_replicate, List.count_replicate, List.count_replicate]
  exact ⟨rfl, Nat.zero_add m⟩

theorem alternating_pattern_scaled_upto_12 :
    ∀ m ∈ List.range 13, 1 ≤ m →
      n1 ((alt m).map (· * 100)) = 2 * m - 1 ∧ n2 ((alt m).map (· * 100)) = m := by
  intro m hm h1
  obtain ⟨e1, e2⟩ := counts_of_runs (runs_scale (c := 100) (by decide) (alt m))
  rw [e1, e2]
  exact alternating_pattern_upto_12 m hm h1

theorem alternating_pattern_mirrored_upto_12 :
    ∀ m ∈ List.range 13, 1 ≤ m →
      n1 ((alt m).map (· * -7)) = 2 * m - 1 ∧ n2 ((alt m).map (· * -7)) = m := by
  intro m hm h1
  obtain ⟨e1, e2⟩ := counts_of_runs (runs_neg_scale (c := 7) (by decide) (alt m))
  rw [e1, e2]
  exact alternating_pattern_upto_12 m hm h1

/-- in pass 1 all of them are Memory-3 halves, in pass 2 all are closed (same finite range) -/
theorem alternating_pattern_kinds_upto_12 :
    ∀ m ∈ List.range 13, ∀ h ∈ (twoPass lawLinear (one (alt m))).recs,
      (h.run = 1 → h.closed = false ∧ h.zeroMean = true) ∧ (h.run = 2 → h.closed = true) := by
  intro m hm h hh
  have hmem := List.mem_map_of_mem (f := fun h : Hyst => (h.run, h.closed, h.zeroMean)) hh
  rw [alternating_profile_upto_12 m hm, List.mem_append] at hmem
  rcases hmem with h1 | h2
  · have e := Prod.mk.inj (List.eq_of_mem_replicate h1)
    exact ⟨fun _ => Prod.mk.inj e.2, fun hr => absurd (e.1.symm.trans hr) (by decide)⟩
  · have e := Prod.mk.inj (List.eq_of_mem_replicate h2)
    exact ⟨fun hr => absurd (e.1.symm.trans hr) (by decide), fun _ => (Prod.mk.inj e.2).1⟩

/-! ### the two witnesses: `(alt 3).map (· * 100)` and `alt 5` -/

theorem n1_n2_witness : n1 [100,-200,300,-400,500,-600] = 5 ∧ n2 [100,-200,300,-400,500,-600] = 3 :=
  alternating_pattern_scaled_upto_12 3 (by decide) (by decide)

theorem n1_n2_witness_10 : n1 [1,-2,3,-4,5,-6,7,-8,9,-10] = 9 ∧ n2 [1,-2,3,-4,5,-6,7,-8,9,-10] = 5 :=
  alternating_pattern_upto_12 5 (by decide) (by decide)

/-- **The conjecture `n1 ≤ n2 + 1` is false.** -/
theorem not_forall_n1_le_n2_add_one : ¬ ∀ s : List Int, n1 s ≤ n2 s + 1 := by
  intro h
  have h6 := h [100,-200,300,-400,500,-600]
  rw [n1_n2_witness.1, n1_n2_witness.2] at h6
  exact absurd h6 (by decide)

/-- slack 3 does not do either: the second witness has the gap 4 (and the gap `m − 1` grows with the length, see the head) -/
theorem not_forall_n1_le_n2_add_three : ¬ ∀ s : List Int, n1 s ≤ n2 s + 3 := by
  intro h
  have h10 := h [1,-2,3,-4,5,-6,7,-8,9,-10]
  rw [n1_n2_witness_10.1, n1_n2_witness_10.2] at h10
  exact absurd h10 (by decide)

/-! ### the same in the terms of `C10.Regime` (`countRun` over ℝ) -/

open PylifeVerif.FkmNl PylifeVerif.Assess

theorem countRun_rows (conv : Int → ℝ) (M E : ℝ) (c : PramCurve ℝ) (k run : Nat) (recs : List Hyst) :
    countRun run (dam c (rowsOf conv M E k recs)) = ((recs.filter (fun h => h.run = run)).length : ℝ) := by
  rw [countRun_eq, dam, rowsOf, List.map_map, List.map_map, List.filter_map, List.length_map]
  rfl

/-- **The second disjunct of `C10.Regime` fails on `[100,-200,300,-400,500,-600]`** for every curve, material and
unit conversion: `countRun 1 ds = 5`, `countRun 2 ds = 3`, and `5 ≤ 3 + 1` is false.  (`ds` is `C10.dam c rows`
written out.) -/
theorem regime_second_disjunct_refuted (conv : Int → ℝ) (M E : ℝ) (c : PramCurve ℝ) :
    let rows := rowsOf conv M E 0 (twoPass lawLinear (one [100,-200,300,-400,500,-600])).recs
    let ds := rows.map fun r => (rowD c r, r.run)
    countRun 1 ds = 5 ∧ countRun 2 ds = 3 ∧ ¬ (countRun 1 ds ≤ countRun 2 ds + 1) := by
  intro rows ds
  have h1 : countRun 1 ds = 5 :=
    (countRun_rows conv M E c 0 1 _).trans ((congrArg Nat.cast n1_n2_witness.1).trans Nat.cast_ofNat)
  have h2 : countRun 2 ds = 3 :=
    (countRun_rows conv M E c 0 2 _).trans ((congrArg Nat.cast n1_n2_witness.2).trans Nat.cast_ofNat)
  refine ⟨h1, h2, ?_⟩
  rw [h1, h2]; norm_num

end PylifeVerif.C10.RegimeRefuted
