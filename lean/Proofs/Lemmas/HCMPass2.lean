/-
The HCM loop above a base `M` of largest absolute value ("rooted machine", `mStep` / `mRun`) is the
four-point rewriting system of `Proofs/Lemmas/Periodic.lean`.

* `mStep_spec`: the closings are `Step`s of the four-point system (`Dec`: the ranges of the stack
  decrease towards the top, hence the HCM test implies the four-point condition).
* `K` (`K_base`, `K_step`, `K_run`): the invariant along a run - the word fed since the base reduces to the stack,
  the emitted cycles are those of the reduction; `aRun_sat` of `HCMPass2Abs.lean` carries it along the load-only machine.
  `mStep_nil_iff`: the stack empties exactly when the base value recurs; `mRun_reset`: from there on the stack is that of a fresh run.
* `window`: over a closed word `M … M` the emitted cycles are `outOf` of that word; `window_shift`: the
  same when the machine starts in the middle of the window and goes round once.
-/
import Proofs.Lemmas.Periodic

namespace PylifeVerif.C04
open PylifeVerif.Rainflow PylifeVerif.HCM PylifeVerif.HCM.Spec

/-- ranges decrease towards the top (list: top first) -/
def Dec : List Int → Prop
  | j :: i :: h :: rest => absDiff j i < absDiff i h ∧ Dec (i :: h :: rest)
  | _ => True

theorem Dec.tail {j : Int} {l : List Int} (h : Dec (j :: l)) : Dec l := by
  match l, h with
  | [], _ => trivial
  | [_], _ => trivial
  | _ :: _ :: _, h => exact h.2

/-- The HCM closing rule for the turning point `x` on the stack part `A` (top first) that lies above the
base `M`; closing the pair `(M, j)` resets the part to `[]` (the new point takes the place of the base). -/
def mStep (M : Int) : List Int → Int → List (Int × Int) × List Int
  | [], x => ([], [x])
  | [j], x => if absDiff x j < absDiff j M then ([], [x, j]) else ([(min M j, max M j)], [])
  | j :: i :: rest, x =>
    if absDiff x j < absDiff j i then ([], x :: j :: i :: rest)
    else
      let r := mStep M rest x
      ((min i j, max i j) :: r.1, r.2)

def mRun (M : Int) : List Int → List Int → List (Int × Int) × List Int
  | A, [] => ([], A)
  | A, x :: xs =>
    let r := mStep M A x
    let r' := mRun M r.2 xs
    (r.1 ++ r'.1, r'.2)

theorem mRun_append (M : Int) (xs ys : List Int) : ∀ A : List Int,
    mRun M A (xs ++ ys) =
      ((mRun M A xs).1 ++ (mRun M (mRun M A xs).2 ys).1, (mRun M (mRun M A xs).2 ys).2) := by
  induction xs with
  | nil => intro A; simp [mRun]
  | cons x xs ih => intro A; simp [mRun, ih]

/-- Outcome of `mStep` (words in feed order, base first): either `x` is pushed on a suffix `A'` of
`A` after four-point steps, or everything is closed down to the base, lastly the pair `(M, j)`. -/
theorem mStep_spec (M : Int) (A : List Int) (x : Int) (hD : Dec (A ++ [M])) :
    (∃ A', (mStep M A x).2 = x :: A' ∧
        Steps (M :: (A.reverse ++ [x])) (mStep M A x).1 (M :: (A'.reverse ++ [x])) ∧
        Dec (x :: (A' ++ [M])) ∧ ∀ a ∈ A', a ∈ A) ∨
    (∃ E' j, (mStep M A x).2 = [] ∧ (mStep M A x).1 = E' ++ [(min M j, max M j)] ∧
        Steps (M :: (A.reverse ++ [x])) E' [M, j, x] ∧ absDiff j M ≤ absDiff x j ∧ j ∈ A) := by
  fun_induction mStep M A x with
  | case1 x =>
    left; exact ⟨[], rfl, Steps.refl _, trivial, fun a h => h⟩
  | case2 j x h =>
    left; exact ⟨[j], rfl, Steps.refl _, ⟨h, trivial⟩, fun a h => h⟩
  | case3 j x h =>
    right; exact ⟨[], j, rfl, rfl, Steps.refl _, by omega, by simp⟩
  | case4 j i rest x h =>
    left; exact ⟨j :: i :: rest, rfl, Steps.refl _, ⟨h, hD⟩, fun a h => h⟩
  | case5 j i rest x h r ih =>
    have hD' : Dec (rest ++ [M]) := hD.tail.tail
    obtain ⟨hh, r0, hr⟩ : ∃ hh r0, rest ++ [M] = hh :: r0 := by
      cases rest with
      | nil => exact ⟨M, [], rfl⟩
      | cons a b => exact ⟨a, b ++ [M], rfl⟩
    have hstep : Step (x :: (j :: i :: rest ++ [M])) (min i j, max i j) (x :: (rest ++ [M])) := by
      have h1 : Dec (j :: i :: hh :: r0) := hr ▸ hD
      have h1 := h1.1
      rw [List.cons_append, List.cons_append, hr]
      -- the ranges decrease towards the top, and `x` overshoots the topmost one
      refine Step.here x j i hh r0 ⟨?_, ?_⟩
      · rw [absDiff_comm i j, absDiff_comm hh i]
        exact Nat.le_of_lt h1
      · rw [absDiff_comm i j, absDiff_comm j x]
        exact Nat.le_of_not_lt h
    have hstep : Step (M :: ((j :: i :: rest).reverse ++ [x])) (min i j, max i j)
        (M :: (rest.reverse ++ [x])) := by
      simpa using hstep.reverse
    rcases ih hD' with ⟨A', h1, h2, h3, h4⟩ | ⟨E', j', h1, h2, h3, h4, h5⟩
    · left
      exact ⟨A', h1, Steps.head hstep h2, h3, fun a ha => by simp [h4 a ha]⟩
    · right
      refine ⟨(min i j, max i j) :: E', j', h1, ?_, Steps.head hstep h3, h4, by simp [h5]⟩
      show (min i j, max i j) :: r.1 = _
      rw [show r.1 = E' ++ [(min M j', max M j')] from h2]; rfl

/-- closing the pair `(M, j)` above a base of largest absolute value: the new point is `M` -/
theorem close_base_eq (M j x : Int) (hz : Zig [M, j, x]) (hj : j.natAbs ≤ M.natAbs)
    (hx : x.natAbs ≤ M.natAbs) (h : absDiff j M ≤ absDiff x j) : x = M := by
  have := zig_peak [] M j x [] hz
  unfold absDiff at h
  omega

/-- History invariant: the word `H` fed since the base was reached reduces to the current stack,
possibly with one closed base pair `(M, m)` still in the word; the ranges on the stack decrease
and `M` bounds the stack. -/
def K (M : Int) (H : List Int) (Es : List (Int × Int)) (A : List Int) : Prop :=
  Dec (A ++ [M]) ∧ (∀ a ∈ A, a.natAbs ≤ M.natAbs) ∧
  ((∃ E', Steps H E' (M :: A.reverse) ∧ Es.Perm E') ∨
    (∃ E' m, Steps H E' (M :: m :: M :: A.reverse) ∧ Es.Perm (E' ++ [(min m M, max m M)])))

theorem K_base (M : Int) : K M [M] [] [] :=
  ⟨trivial, (fun _ h => nomatch h), Or.inl ⟨[], Steps.refl _, List.Perm.refl _⟩⟩

theorem K_zig {M : Int} {H : List Int} {Es : List (Int × Int)} {A : List Int} (x : Int)
    (hK : K M H Es A) (hz : Zig (H ++ [x])) : Zig (M :: (A.reverse ++ [x])) := by
  rcases hK.2.2 with ⟨E', hS, _⟩ | ⟨E', m, hS, _⟩
  · have := (hS.suffix [x]).zig hz
    simpa using this
  · have := (hS.suffix [x]).zig hz
    exact zig_infix [M, m] (M :: (A.reverse ++ [x])) [] (by simpa using this)

theorem K_step (M : Int) (H : List Int) (Es : List (Int × Int)) (A : List Int) (x : Int)
    (hK : K M H Es A) (hz : Zig (H ++ [x])) (hx : x.natAbs ≤ M.natAbs) :
    K M (H ++ [x]) (Es ++ (mStep M A x).1) (mStep M A x).2 := by
  have hzw := K_zig x hK hz
  obtain ⟨hD, hb, hK⟩ := hK
  rcases mStep_spec M A x hD with ⟨A', h1, h2, h3, h4⟩ | ⟨E1, j, h1, h2, h3, h4, h5⟩
  · rw [h1]
    refine ⟨by simpa using h3, ?_, ?_⟩
    · intro a ha
      rcases List.mem_cons.1 ha with rfl | ha
      · exact hx
      · exact hb a (h4 a ha)
    · rcases hK with ⟨E', hS, hP⟩ | ⟨E', m, hS, hP⟩
      · left
        refine ⟨E' ++ (mStep M A x).1, ?_, hP.append_right _⟩
        have := (hS.suffix [x]).trans h2
        simpa using this
      · right
        refine ⟨E' ++ (mStep M A x).1, m, ?_, ?_⟩
        · have := (hS.suffix [x]).trans (h2.prefix [M, m])
          simpa using this
        · refine (hP.append_right _).trans ?_
          simp only [List.append_assoc]
          exact List.Perm.append_left _ List.perm_append_comm
  · have hxM : x = M := close_base_eq M j x (h3.zig hzw) (hb j h5) hx h4
    rw [h1, h2]
    refine ⟨trivial, (fun _ h => nomatch h), ?_⟩
    subst hxM
    rcases hK with ⟨E', hS, hP⟩ | ⟨E', m, hS, hP⟩
    · right
      refine ⟨E' ++ E1, j, ?_, ?_⟩
      · have := (hS.suffix [x]).trans h3
        simpa using this
      · rw [← List.append_assoc, Int.min_comm, Int.max_comm]
        exact (hP.append_right _).append_right _
    · right
      obtain ⟨E5, u, hS5, hP5⟩ := five_nf x m j
      refine ⟨E' ++ E1 ++ E5, u, ?_, ?_⟩
      · have := ((hS.suffix [x]).trans (h3.prefix [x, m])).trans hS5
        simpa using this
      · have e1 : (Es ++ (E1 ++ [(min x j, max x j)])).Perm
            ((E' ++ E1) ++ [(min m x, max m x), (min j x, max j x)]) := by
          rw [Int.min_comm x j, Int.max_comm x j]
          have : (Es ++ (E1 ++ [(min j x, max j x)])).Perm
              ((E' ++ [(min m x, max m x)]) ++ (E1 ++ [(min j x, max j x)])) := hP.append_right _
          refine this.trans ?_
          simp only [List.append_assoc]
          apply List.Perm.append_left
          have e : E1 ++ [(min m x, max m x), (min j x, max j x)] =
              (E1 ++ [(min m x, max m x)]) ++ [(min j x, max j x)] := by simp
          rw [e, ← List.append_assoc]
          exact List.Perm.append_right _ List.perm_append_comm
        refine e1.trans ?_
        rw [List.append_assoc (E' ++ E1)]
        exact List.Perm.append_left _ hP5.symm

theorem mStep_nil_iff (M : Int) (A : List Int) (x : Int) (hz : Zig (M :: (A.reverse ++ [x])))
    (hD : Dec (A ++ [M])) (hb : ∀ a ∈ A, a.natAbs ≤ M.natAbs) (hx : x.natAbs ≤ M.natAbs) :
    (mStep M A x).2 = [] ↔ x = M := by
  rcases mStep_spec M A x hD with ⟨A', h1, h2, h3, h4⟩ | ⟨E1, j, h1, _, h3, h4, h5⟩
  · rw [h1]
    refine ⟨fun h => absurd h (List.cons_ne_nil _ _), fun hxM => ?_⟩
    subst hxM
    exfalso
    have hz' := h2.zig hz
    match A', h3, h4, hz' with
    | [], _, _, hz' => exact zig_ne x x [] hz' rfl
    | [j], h3, _, _ =>
      have := h3.1
      unfold absDiff at this
      omega
    | j :: i :: r, h3, h4, hz' =>
      have h5 := h3.1
      have hi := hb i (h4 i (by simp))
      have hj := hb j (h4 j (by simp))
      have := zig_peak (x :: r.reverse) i j x [] (by simpa using hz')
      unfold absDiff at h5
      omega
  · exact ⟨fun _ => close_base_eq M j x (h3.zig hz) (hb j h5) hx h4, fun _ => h1⟩

theorem K_run (M : Int) (xs : List Int) : ∀ (H : List Int) (Es : List (Int × Int)) (A : List Int),
    K M H Es A → Zig (H ++ xs) → (∀ x ∈ xs, x.natAbs ≤ M.natAbs) →
    K M (H ++ xs) (Es ++ (mRun M A xs).1) (mRun M A xs).2 ∧
      (xs.getLast? = some M → (mRun M A xs).2 = []) := by
  induction xs with
  | nil =>
    intro H Es A hK _ _
    simp only [mRun, List.append_nil]
    exact ⟨hK, by simp⟩
  | cons x xs ih =>
    intro H Es A hK hz hx
    have hz1 : Zig (H ++ [x]) := zig_infix [] (H ++ [x]) xs (by simpa using hz)
    obtain ⟨i1, i4⟩ := ih (H ++ [x]) (Es ++ (mStep M A x).1) (mStep M A x).2
      (K_step M H Es A x hK hz1 (hx x (by simp))) (by simpa using hz)
      (fun y hy => hx y (by simp [hy]))
    simp only [mRun]
    refine ⟨by simpa using i1, ?_⟩
    intro hl
    cases xs with
    | nil =>
      simp only [List.getLast?_singleton, Option.some.injEq] at hl
      subst hl
      simp only [mRun]
      exact (mStep_nil_iff x A x (K_zig x hK hz1) hK.1 hK.2.1 (Nat.le_refl _)).2 rfl
    | cons y ys =>
      apply i4
      simpa [List.getLast?_cons_cons] using hl

/-- Started on the bare base `M` (largest absolute value) and fed a closed
alternating word `M … M`, the HCM closing rule ends on the bare base again and has emitted exactly
the cycles that the four-point counting (`outOf`) finds in that closed word. -/
theorem window (M : Int) (ys : List Int) (hz : Zig (M :: ys)) (hb : ∀ y ∈ ys, y.natAbs ≤ M.natAbs)
    (hl : ys.getLast? = some M) :
    (mRun M [] ys).2 = [] ∧ (outOf (M :: ys)).Perm (mRun M [] ys).1 := by
  obtain ⟨⟨_, _, k1⟩, k4⟩ := K_run M ys [M] [] [] (K_base M) (by simpa using hz) hb
  have hA := k4 hl
  refine ⟨hA, ?_⟩
  rw [hA] at k1
  simp only [List.nil_append, List.singleton_append] at k1
  obtain ⟨t, ht⟩ : ∃ t, ys = t ++ [M] := by
    rcases List.eq_nil_or_concat' ys with rfl | ⟨t, b, rfl⟩
    · simp at hl
    · simp at hl
      exact ⟨t, by rw [hl]⟩
  rcases k1 with ⟨E', hS, _⟩ | ⟨E', m, hS, hP⟩
  · exfalso
    rw [ht] at hS
    obtain ⟨N', hN⟩ := hS.ends
    simp at hN
  · have := outOf_perm (M :: ys) hz E' M m M (by simpa using hS)
    exact this.trans hP.symm

theorem mRun_reset (M : Int) (u v : List Int) (hz : Zig (M :: (u ++ [M])))
    (hb : ∀ y ∈ u, y.natAbs ≤ M.natAbs) : (mRun M [] (u ++ M :: v)).2 = (mRun M [] v).2 := by
  obtain ⟨_, h⟩ := K_run M (u ++ [M]) [M] [] [] (K_base M) hz fun y hy => by
    rcases List.mem_append.1 hy with hy | hy
    · exact hb y hy
    · rw [List.mem_singleton.1 hy]
  have e : u ++ M :: v = (u ++ [M]) ++ v := by simp
  rw [e, mRun_append, h (by simp)]

/-- The machine has been fed `r` since the bare base; `q`, the base value and `r` again
follow.  What is emitted up to `M` is the end of the closed window `M r q M`, what is emitted behind `M`
its beginning. -/
theorem window_shift (M : Int) (r q : List Int) (hz : Zig (M :: (r ++ (q ++ M :: r))))
    (hb : ∀ y ∈ r ++ q, y.natAbs ≤ M.natAbs) :
    (mRun M (mRun M [] r).2 (q ++ M :: r)).1.Perm (outOf (M :: (r ++ q ++ [M]))) := by
  have hb' : ∀ y ∈ r ++ (q ++ [M]), y.natAbs ≤ M.natAbs := by
    intro y hy
    rw [← List.append_assoc, List.mem_append, List.mem_singleton] at hy
    rcases hy with hy | rfl
    · exact hb y hy
    · exact Nat.le_refl _
  have hzw : Zig (M :: (r ++ (q ++ [M]))) := zig_infix [] _ r (by simpa using hz)
  obtain ⟨k1, _⟩ := K_run M r [M] [] [] (K_base M) (zig_infix [] _ (q ++ [M]) (by simpa using hzw))
    fun y hy => hb' y (List.mem_append_left _ hy)
  obtain ⟨_, k2⟩ := K_run M (q ++ [M]) _ _ _ k1 (by simpa using hzw)
    fun y hy => hb' y (List.mem_append_right _ hy)
  obtain ⟨_, w⟩ := window M (r ++ (q ++ [M])) hzw hb' (by simp)
  have e : q ++ M :: r = (q ++ [M]) ++ r := by simp
  rw [mRun_append] at w
  rw [e, mRun_append, k2 (by simp), List.append_assoc]
  exact (w.trans List.perm_append_comm).symm

end PylifeVerif.C04
