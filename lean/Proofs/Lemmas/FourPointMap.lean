/-
The four-point closing rule under a correspondence of points that respects the closing test:
cycles and stacks correspond point by point (`fpClose_rel`, `fpFeed_rel`; for a map of the points
`fpClose_map`, `fpFeed_map`), and so does the canonical state of the detector (`fpCanon_map`: the one
equivariance lemma, for maps of the values such as `x ↦ a x + b`, `a ≠ 0`, and for maps of the indices).
At the head the point and cycle maps in which the C03 theorems are stated.

Namespaces: `C03` for these maps; `RainflowCor` (not this file's name: `RainflowCor.mapC` appears in the
statements of `RainflowCorollaries.lean`) for everything else.
-/
import Proofs.Lemmas.FourPointChunks
import Mathlib.Data.List.Forall2

namespace PylifeVerif.C03
open PylifeVerif.Rainflow

/-! The point maps of the C03 statements: on values (`mapPt`) and on indices (`reidxPt`); their cycle
maps are `RainflowCor.mapC` of them (by `rfl`). -/

def mapPt (f : Int → Int) (p : Pt) : Pt := (p.1, f p.2)
def mapCycle (f : Int → Int) (c : Cycle) : Cycle := (mapPt f c.1, mapPt f c.2)

def reidxPt (g : Nat → Nat) (p : Pt) : Pt := (g p.1, p.2)
def reidxCycle (g : Nat → Nat) (c : Cycle) : Cycle := (reidxPt g c.1, reidxPt g c.2)

end PylifeVerif.C03

namespace PylifeVerif.RainflowCor
open PylifeVerif.Rainflow PylifeVerif.C03
open PylifeVerif.Rainflow.Lit (CloseCond)

/-- cycles related end point by end point -/
def RelC (R : Pt → Pt → Prop) (c c' : Cycle) : Prop := R c.1 c'.1 ∧ R c.2 c'.2

/-- `R` respects the closing test for the closing values `d`, `d'`. -/
def Respects (R : Pt → Pt → Prop) (d d' : Int) : Prop :=
  ∀ a a' b b' c c', R a a' → R b b' → R c c' → (CloseCond a b c d ↔ CloseCond a' b' c' d')

theorem fpClose_rel (R : Pt → Pt → Prop) (d d' : Int) (hR : Respects R d d') (st st' : List Pt)
    (hst : List.Forall₂ R st st') :
    List.Forall₂ (RelC R) (fpClose st d).1 (fpClose st' d').1 ∧
      List.Forall₂ R (fpClose st d).2 (fpClose st' d').2 := by
  fun_induction fpClose st d generalizing st' with
  | case1 c b a rest d h r ih =>
    match st', hst with
    | _, .cons hc (.cons hb (.cons ha hrest)) =>
      rw [Common.fpClose_pos' _ _ _ _ d' ((hR _ _ _ _ _ _ ha hb hc).1 h)]
      obtain ⟨i1, i2⟩ := ih hR _ (.cons ha hrest)
      exact ⟨.cons ⟨hb, hc⟩ i1, i2⟩
  | case2 c b a rest d h =>
    match st', hst with
    | _, .cons hc (.cons hb (.cons ha hrest)) =>
      rw [Common.fpClose_neg' _ _ _ _ d' (mt (hR _ _ _ _ _ _ ha hb hc).2 h)]
      exact ⟨.nil, .cons hc (.cons hb (.cons ha hrest))⟩
  | case3 st d hshort =>
    match st, st', hst, hshort with
    | _, _, .nil, _ => rw [Common.fpClose_nil']; exact ⟨.nil, .nil⟩
    | _, _, .cons hc .nil, _ => rw [Common.fpClose_one']; exact ⟨.nil, .cons hc .nil⟩
    | _, _, .cons hc (.cons hb .nil), _ =>
      rw [Common.fpClose_two']; exact ⟨.nil, .cons hc (.cons hb .nil)⟩
    | _, _, .cons _ (.cons _ (.cons _ _)), hshort => exact absurd rfl (hshort _ _ _ _)

theorem fpFeed_rel (R : Pt → Pt → Prop) (hR : ∀ p p', R p p' → Respects R p.2 p'.2)
    (ps ps' : List Pt) (hps : List.Forall₂ R ps ps') : ∀ (st st' : List Pt), List.Forall₂ R st st' →
      List.Forall₂ (RelC R) (fpFeed st ps).1 (fpFeed st' ps').1 ∧
        List.Forall₂ R (fpFeed st ps).2 (fpFeed st' ps').2 := by
  induction hps with
  | nil => intro st st' h; exact ⟨.nil, h⟩
  | @cons p p' l l' hp _ ih =>
    intro st st' h
    rw [Common.fpFeed_cons, Common.fpFeed_cons]
    obtain ⟨c1, c2⟩ := fpClose_rel R p.2 p'.2 (hR p p' hp) st st' h
    obtain ⟨i1, i2⟩ := ih _ _ (.cons hp c2)
    exact ⟨List.rel_append c1 i1, i2⟩

theorem respects_of_val (R : Pt → Pt → Prop) (hR : ∀ p q, R p q → p.2 = q.2) (d : Int) :
    Respects R d d := by
  intro a a' b b' c c' ha hb hc
  rw [CloseCond, hR _ _ ha, hR _ _ hb, hR _ _ hc, CloseCond]

/-- image of a cycle under a map of points -/
def mapC (g : Pt → Pt) (c : Cycle) : Cycle := (g c.1, g c.2)

theorem forall₂_map_iff {α : Type} (g : α → α) (l l' : List α) :
    List.Forall₂ (fun p q => g p = q) l l' ↔ l' = l.map g := by
  rw [← List.forall₂_map_left_iff (f := g) (R := Eq), List.forall₂_eq_eq_eq]
  exact eq_comm

theorem relC_map (g : Pt → Pt) : RelC (fun p q => g p = q) = fun c c' => mapC g c = c' := by
  funext c c'
  exact propext ⟨fun h => Prod.ext h.1 h.2, fun h => by rw [← h]; exact ⟨rfl, rfl⟩⟩

section Map
variable (g : Pt → Pt) (f : Int → Int)
  (hg : ∀ a b c d, CloseCond (g a) (g b) (g c) (f d) ↔ CloseCond a b c d)
include hg

theorem fpClose_map (st : List Pt) (d : Int) :
    fpClose (st.map g) (f d) = ((fpClose st d).1.map (mapC g), (fpClose st d).2.map g) := by
  obtain ⟨h1, h2⟩ := fpClose_rel (fun p q => g p = q) d (f d)
    (by rintro a _ b _ c _ rfl rfl rfl; exact (hg a b c d).symm) st (st.map g)
    ((forall₂_map_iff g st _).2 rfl)
  rw [relC_map, forall₂_map_iff] at h1
  rw [forall₂_map_iff] at h2
  exact Prod.ext h1 h2

theorem fpFeed_map (hgf : ∀ p, (g p).2 = f p.2) (st ps : List Pt) :
    fpFeed (st.map g) (ps.map g) = ((fpFeed st ps).1.map (mapC g), (fpFeed st ps).2.map g) := by
  obtain ⟨h1, h2⟩ := fpFeed_rel (fun p q => g p = q)
    (by rintro p _ rfl a _ b _ c _ rfl rfl rfl; rw [hgf p]; exact (hg a b c p.2).symm) ps (ps.map g)
    ((forall₂_map_iff g ps _).2 rfl) st (st.map g) ((forall₂_map_iff g st _).2 rfl)
  rw [relC_map, forall₂_map_iff] at h1
  rw [forall₂_map_iff] at h2
  exact Prod.ext h1 h2

end Map

theorem absDiff_affine (a b x y : Int) : absDiff (a * x + b) (a * y + b) = a.natAbs * absDiff x y := by
  unfold absDiff
  rw [← Int.natAbs_mul]; congr 1; rw [Int.mul_sub]; omega

/-- An affine map with non-zero slope scales every range by `|a|`: the closing test comes out the same. -/
theorem closeCond_affine (a b : Int) (ha : a ≠ 0) (p q r : Pt) (d : Int) :
    CloseCond (mapPt (a * · + b) p) (mapPt (a * · + b) q) (mapPt (a * · + b) r) (a * d + b) ↔
      CloseCond p q r d := by
  have hpos : 0 < a.natAbs := Int.natAbs_pos.mpr ha
  simp only [CloseCond, mapPt, absDiff_affine]
  exact and_congr (Nat.mul_le_mul_left_iff hpos) (Nat.mul_le_mul_left_iff hpos)

/-- **The canonical state under a map `g` of the points that respects the closing test**, `f` being what
`g` does to the values: if `g` takes the first point to the first point and the turning points to the
turning points, and `f` the last sample to the last sample, then it takes cycles to cycles and the stack
to the stack.  (`g = mapPt f` for a map of the values, `f = id` for a map of the indices.) -/
theorem fpCanon_map (g : Pt → Pt) (f : Int → Int)
    (hg : ∀ a b c d, CloseCond (g a) (g b) (g c) (f d) ↔ CloseCond a b c d)
    (hgf : ∀ p, (g p).2 = f p.2) (s s' : List Int) (ch ch' : List Nat)
    (h0 : s'.head?.map (fun x => ((0 : Nat), x)) = s.head?.map (fun x => g (0, x)))
    (hT : findTurns s' = (findTurns s).map g) (hl : s'.getLast? = s.getLast?.map f) :
    (fpCanon s' ch').cycles = (fpCanon s ch).cycles.map (mapC g) ∧
      (fpCanon s' ch').stack = (fpCanon s ch).stack.map g ∧
      (fpCanon s' ch').last = (fpCanon s ch).last.map f := by
  cases s with
  | nil =>
    cases s' with
    | nil => exact ⟨rfl, rfl, rfl⟩
    | cons _ _ => simp at h0
  | cons x xs =>
    cases s' with
    | nil => simp at h0
    | cons x' xs' =>
      have h0' : [((0 : Nat), x')] = [(0, x)].map g := by simpa using h0
      have hl' : (x' :: xs').getLast! = f (x :: xs).getLast! := by
        rw [getLast!_cons, getLast!_cons]
        simpa [List.getLast?_eq_some_getLast (List.cons_ne_nil _ _)] using hl
      simp only [fpCanon_cons, fpFeedClose, hT, h0', hl', fpFeed_map g f hg hgf, fpClose_map g f hg,
        List.map_append, Option.map_some, and_self]

end PylifeVerif.RainflowCor
