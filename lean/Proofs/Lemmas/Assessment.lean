/-
Helper lemmas for C10 (`Model/Assessment.lean`): the binned look-up under proportional loads; the maximum absolute load
under a sample inserted, appended or prepended between others; tables with positive secondary-branch values (`Tables.SecPos`:
the look-up keeps the sign); the monotonicity of the P_RAM lifetime in the damages (`DamLE`) and of the damage of a row in
`P_RAM` and in the component curve.
-/
import Model.Assessment
import Proofs.Lemmas.FkmNonlinear
import Proofs.Lemmas.ListFacts
import Mathlib.Tactic.Ring
import Mathlib.Tactic.Linarith
import Mathlib.Tactic.Positivity
import Mathlib.Data.List.Forall2

namespace PylifeVerif.Assess
open PylifeVerif.HCM PylifeVerif.FkmNl

/-! ### class selection is invariant under a common positive factor -/

theorem firstFrom_congr {p q : Nat → Bool} (h : ∀ i, p i = q i) (i fuel : Nat) :
    firstFrom p i fuel = firstFrom q i fuel :=
  congrArg (firstFrom · i fuel) (funext h)

theorem natAbs_mul_nonneg (c x : Int) (hc : 0 ≤ c) : ((c * x).natAbs : Int) = c * (x.natAbs : Int) := by
  rw [Int.natAbs_mul]
  push_cast
  rw [abs_of_nonneg hc]

/-- The class found with the FIRST point's load `c0/ck · x` in the first point's grid (maximum `c0·M`) is the class
found with the point's own load `x` in its own grid (maximum `ck·M`). -/
theorem classQ_first_eq_own (n : Nat) (M c0 ck x : Int) (cnt : Nat) (h0 : 0 < c0) (hk : 0 < ck) :
    classQ n (c0 * M) (c0 * x) ck cnt = classQ n (ck * M) x 1 cnt := by
  unfold classQ
  apply firstFrom_congr
  intro i
  rw [natAbs_mul_nonneg c0 x h0.le]
  have key : ((n : Int) * (c0 * (x.natAbs : Int)) ≤ (i : Int) * (c0 * M) * ck) ↔
      ((n : Int) * (x.natAbs : Int) ≤ (i : Int) * (ck * M) * 1) := by
    have e1 : (n : Int) * (c0 * (x.natAbs : Int)) = c0 * ((n : Int) * (x.natAbs : Int)) := by ring
    have e2 : (i : Int) * (c0 * M) * ck = c0 * ((i : Int) * (ck * M) * 1) := by ring
    rw [e1, e2]
    constructor
    · intro h; exact Int.le_of_mul_le_mul_left h h0
    · intro h; exact Int.mul_le_mul_of_nonneg_left h h0.le
  exact decide_eq_decide.mpr key

theorem lawBatch_eq_lawOwn (n : Nat) (M c0 ck : Int) (t : Tables) (h0 : 0 < c0) (hk : 0 < ck) :
    lawBatch n (c0 * M) c0 ck t = lawOwn n (ck * M) t := by
  unfold lawOwn lawBatch
  simp only [classQ_first_eq_own n M c0 ck _ _ h0 hk, one_mul]

theorem foldl_maxAbs_scale (c : Int) (hc : 0 ≤ c) : ∀ (L : List Int) (m : Int),
    (L.map (c * ·)).foldl (fun m x => max m (x.natAbs : Int)) (c * m) = c * L.foldl (fun m x => max m (x.natAbs : Int)) m
  | [], m => rfl
  | x :: xs, m => by
    simp only [List.map_cons, List.foldl_cons]
    rw [natAbs_mul_nonneg c x hc, ← mul_max_of_nonneg _ _ hc]
    exact foldl_maxAbs_scale c hc xs _

theorem maxAbsI_scale (c : Int) (hc : 0 ≤ c) (L : List Int) : maxAbsI (L.map (c * ·)) = c * maxAbsI L := by
  unfold maxAbsI
  have := foldl_maxAbs_scale c hc L 0
  rwa [mul_zero] at this

/-- In a call for points with proportional loads `cs` the look-up of point `k` (class from the first point's load in the
first point's grid) is the look-up the point gets alone. -/
theorem lawBatch_ratios (n : Nat) (t : Tables) (L cs : List Int) (hc : ∀ c ∈ cs, 0 < c) (k : Nat) (hk : k < cs.length) :
    lawBatch n (maxAbsI (L.map (cs.headD 1 * ·))) (cs.headD 1) (cs.getD k 1) t
      = lawOwn n (maxAbsI (L.map (cs.getD k 1 * ·))) t := by
  have hk0 := hc _ (getD_mem cs 1 k hk)
  have h00 : 0 < cs.headD 1 := by
    cases cs with
    | nil => simp at hk
    | cons c0 rest => exact hc c0 List.mem_cons_self
  rw [maxAbsI_scale _ h00.le, maxAbsI_scale _ hk0.le]
  exact lawBatch_eq_lawOwn n (maxAbsI L) _ _ t h00 hk0

theorem map_single_scale (c : Int) (L : List Int) : ((L.map (c * ·)).map fun l => [l]) = L.map fun l => [c * l] := by
  rw [List.map_map]; rfl

theorem map_one_mul (L : List Int) : L.map (1 * ·) = L := by simp

/-! ### the maximum absolute load does not see a sample that lies between two others -/

theorem foldl_maxAbs_mono (L : List Int) : ∀ m m' : Int, m ≤ m' →
    L.foldl (fun m x => max m (x.natAbs : Int)) m ≤ L.foldl (fun m x => max m (x.natAbs : Int)) m' := by
  induction L with
  | nil => intro m m' h; exact h
  | cons x xs ih => intro m m' h; exact ih _ _ (max_le_max h le_rfl)

theorem foldl_maxAbs_absorb (L : List Int) : ∀ m v : Int, v ≤ m →
    L.foldl (fun m x => max m (x.natAbs : Int)) (max m v) = L.foldl (fun m x => max m (x.natAbs : Int)) m := by
  intro m v h; rw [max_eq_left h]

theorem foldl_maxAbs_max (L : List Int) : ∀ m v : Int,
    L.foldl (fun m x => max m (x.natAbs : Int)) (max m v) = max (L.foldl (fun m x => max m (x.natAbs : Int)) m) v := by
  induction L with
  | nil => intro m v; rfl
  | cons x xs ih => intro m v; rw [List.foldl_cons, List.foldl_cons, max_right_comm, ih]

theorem maxAbsI_insert_at (pre post : List Int) (v : Int) :
    maxAbsI (pre ++ v :: post) = max (maxAbsI (pre ++ post)) (v.natAbs : Int) := by
  unfold maxAbsI
  rw [List.foldl_append, List.foldl_cons, foldl_maxAbs_max, List.foldl_append]

theorem natAbs_le_maxAbsI {l : List Int} {x : Int} (hx : x ∈ l) : (x.natAbs : Int) ≤ maxAbsI l := by
  obtain ⟨pre, post, rfl⟩ := List.append_of_mem hx
  rw [maxAbsI_insert_at]
  exact le_max_right _ _

theorem maxAbsI_insert_between (pre post : List Int) {a b v : Int} (ha : a ∈ pre ++ post) (hb : b ∈ pre ++ post)
    (hv : (a ≤ v ∧ v ≤ b) ∨ (b ≤ v ∧ v ≤ a)) : maxAbsI (pre ++ v :: post) = maxAbsI (pre ++ post) := by
  have hle : (v.natAbs : Int) ≤ max (a.natAbs : Int) (b.natAbs : Int) := by
    simp only [Int.natCast_natAbs]
    rcases hv with h | h
    · exact abs_le_max_abs_abs h.1 h.2
    · rw [max_comm]; exact abs_le_max_abs_abs h.1 h.2
  rw [maxAbsI_insert_at]
  exact max_eq_left (le_trans hle (max_le (natAbs_le_maxAbsI ha) (natAbs_le_maxAbsI hb)))

theorem maxAbsI_insert (pre post : List Int) (x y v : Int) (hv : (x ≤ v ∧ v ≤ y) ∨ (y ≤ v ∧ v ≤ x)) :
    maxAbsI (pre ++ x :: v :: y :: post) = maxAbsI (pre ++ x :: y :: post) := by
  have := maxAbsI_insert_between (pre ++ [x]) (y :: post) (a := x) (b := y) (by simp) (by simp) hv
  simpa only [List.append_assoc, List.singleton_append] using this

theorem maxAbsI_append (s : List Int) (a z v : Int) (hs : s.head? = some a) (hz : s.getLast? = some z)
    (hv : (a ≤ v ∧ v ≤ z) ∨ (z ≤ v ∧ v ≤ a)) : maxAbsI (s ++ [v]) = maxAbsI s := by
  have := maxAbsI_insert_between s [] (by rw [List.append_nil]; exact List.mem_of_mem_head? hs)
    (by rw [List.append_nil]; exact List.mem_of_getLast? hz) hv
  rwa [List.append_nil] at this

/-- in front of the sequence `0`, the load at which the first pass starts, takes the place of the left neighbour -/
theorem maxAbsI_prepend (s : List Int) (a v : Int) (hs : s.head? = some a) (h0 : (0 ≤ v ∧ v ≤ a) ∨ (a ≤ v ∧ v ≤ 0)) :
    maxAbsI (v :: s) = maxAbsI s := by
  have hle : (v.natAbs : Int) ≤ (a.natAbs : Int) := by
    simp only [Int.natCast_natAbs]
    rcases h0 with h | h
    · exact abs_le_abs_of_nonneg h.1 h.2
    · exact abs_le_abs_of_nonpos h.2 h.1
  have := maxAbsI_insert_at [] s v
  rw [List.nil_append, List.nil_append] at this
  rw [this]
  exact max_eq_left (le_trans hle (natAbs_le_maxAbsI (List.mem_of_mem_head? hs)))

/-! ### the look-up keeps the sign of the load -/

/-- all values of the secondary-branch tables are positive (true for every monotone notch law) -/
def Tables.SecPos (t : Tables) : Prop :=
  t.dsig ≠ [] ∧ t.deps ≠ [] ∧ (∀ v ∈ t.dsig, 0 < v) ∧ (∀ v ∈ t.deps, 0 < v)

theorem tval_sign (tab : List Int) (hne : tab ≠ []) (hp : ∀ v ∈ tab, 0 < v) (cls : Nat) (d : Int) :
    (0 < d → 0 < tval tab cls d) ∧ (d < 0 → tval tab cls d < 0) ∧ (d = 0 → tval tab cls d = 0) := by
  have h : 0 < tab.getD (min cls tab.length - 1) 0 :=
    hp _ (getD_mem tab 0 _ (by have := List.length_pos_iff.mpr hne; omega))
  unfold tval
  refine ⟨fun hd => ?_, fun hd => ?_, fun hd => ?_⟩
  · rw [Int.sign_eq_one_of_pos hd, one_mul]; exact h
  · rw [Int.sign_eq_neg_one_of_neg hd]; omega
  · rw [hd]; simp

/-! ### the lifetime is antitone in the damages -/

/-- pointwise order of two damage columns with the same run labels -/
def DamLE (ds ds' : List (ℝ × Nat)) : Prop := List.Forall₂ (fun a b => a.1 ≤ b.1 ∧ a.2 = b.2) ds ds'

theorem DamLE.length_eq {ds ds' : List (ℝ × Nat)} (h : DamLE ds ds') : ds.length = ds'.length :=
  List.Forall₂.length_eq h

theorem DamLE.sum_le {ds ds' : List (ℝ × Nat)} (h : DamLE ds ds') : (ds.map (·.1)).sum ≤ (ds'.map (·.1)).sum :=
  List.Forall₂.sum_le_sum (List.forall₂_map_left_iff.2 (List.forall₂_map_right_iff.2 (h.imp fun _ _ hab => hab.1)))

theorem DamLE.filter {ds ds' : List (ℝ × Nat)} (h : DamLE ds ds') (r : Nat) :
    DamLE (ds.filter fun p => p.2 = r) (ds'.filter fun p => p.2 = r) :=
  List.rel_filter (fun a b hab => by simp only [hab.2]) h

theorem DamLE.sumRun_le {ds ds' : List (ℝ × Nat)} (h : DamLE ds ds') (r : Nat) : sumRun r ds ≤ sumRun r ds' := by
  rw [sumRun_eq, sumRun_eq]
  exact (h.filter r).sum_le

theorem DamLE.countRun_eq {ds ds' : List (ℝ × Nat)} (h : DamLE ds ds') (r : Nat) : countRun r ds = countRun r ds' := by
  rw [FkmNl.countRun_eq, FkmNl.countRun_eq, (h.filter r).length_eq]

theorem forall₂_mem_right {α β : Type} {R : α → β → Prop} {l : List α} {u : List β} (h : List.Forall₂ R l u) :
    ∀ b ∈ u, ∃ a ∈ l, R a b := by
  induction h with
  | nil => intro b hb; simp at hb
  | cons hab _ ih =>
    intro b hb
    rcases List.mem_cons.mp hb with rfl | hb
    · exact ⟨_, List.mem_cons_self, hab⟩
    · obtain ⟨a, ha, hr⟩ := ih b hb
      exact ⟨a, List.mem_cons_of_mem _ ha, hr⟩

theorem DamLE.nonneg {ds ds' : List (ℝ × Nat)} (h : DamLE ds ds') (h0 : ∀ p ∈ ds, 0 ≤ p.1) : ∀ p ∈ ds', 0 ≤ p.1 := by
  intro p hp
  obtain ⟨a, ha, hab⟩ := forall₂_mem_right h p hp
  exact le_trans (h0 a ha) hab.1

/-- the index the larger damages reach is admissible for the smaller ones -/
theorem DamLE.firstGe_le {ds ds' : List (ℝ × Nat)} (h : DamLE ds ds') (v : ℝ) (acc acc' : ℝ) (hacc : acc ≤ acc') :
    firstGe v (cumsumFrom acc' (ds'.map (·.1))) ≤ firstGe v (cumsumFrom acc (ds.map (·.1))) := by
  obtain ⟨h1, h2⟩ := (le_firstGe_cumsum_iff v _ acc' _).mp le_rfl
  refine (le_firstGe_cumsum_iff v _ acc _).mpr ⟨by rwa [List.length_map, h.length_eq, ← List.length_map], fun j hj => ?_⟩
  refine lt_of_le_of_lt (add_le_add hacc ?_) (h2 j hj)
  rw [← List.map_take, ← List.map_take]
  exact DamLE.sum_le (List.forall₂_take _ h)

theorem countRun_nonneg (r : Nat) (ds : List (ℝ × Nat)) : 0 ≤ countRun r ds := by
  rw [countRun_eq]; positivity

/-- eq. (2.6-90) is antitone in both damage sums, as long as the first pass alone stays below one -/
theorem DamLE.x_le {ds ds' : List (ℝ × Nat)} (h : DamLE ds ds') (hD1 : sumRun 1 ds ≤ 1) (hD2 : 0 < sumRun 2 ds) :
    (1 - sumRun 1 ds') / sumRun 2 ds' ≤ (1 - sumRun 1 ds) / sumRun 2 ds :=
  div_le_div₀ (sub_nonneg.2 hD1) (sub_le_sub_left (h.sumRun_le 1) 1) hD2 (h.sumRun_le 2)

theorem DamLE.regular_le {ds ds' : List (ℝ × Nat)} (h : DamLE ds ds') (hD1 : sumRun 1 ds ≤ 1) (hD2 : 0 < sumRun 2 ds) :
    ((1 - sumRun 1 ds') / sumRun 2 ds' + 1) * countRun 2 ds' ≤ ((1 - sumRun 1 ds) / sumRun 2 ds + 1) * countRun 2 ds := by
  rw [← h.countRun_eq 2]
  exact mul_le_mul_of_nonneg_right (add_le_add_left (h.x_le hD1 hD2) 1) (countRun_nonneg 2 ds)

/-- **Monotonicity of the lifetime in the damages.**  `ds'` has pointwise larger damages than `ds`.
`hD2`: when `ds` does not fail within the two recorded passes, its second pass damages at all (otherwise the code
returns `inf`, which the real-number model cannot express).  `hcnt`: when `ds'` fails within the two recorded passes but
`ds` does not, the first pass has at most one hysteresis more than the second (the early-failure lifetime counts
hystereses of both passes, the regular lifetime counts second-pass hystereses only). -/
theorem nCycles_antitone {ds ds' : List (ℝ × Nat)} (h : DamLE ds ds') (h0 : ∀ p ∈ ds, 0 ≤ p.1)
    (hrun : ∀ p ∈ ds, p.2 = 1 ∨ p.2 = 2)
    (hD2 : (lifetimeOfDamages ds).early = false → 0 < sumRun 2 ds)
    (hcnt : (lifetimeOfDamages ds).early = false → (lifetimeOfDamages ds').early = true →
      countRun 1 ds ≤ countRun 2 ds + 1) :
    (lifetimeOfDamages ds').nCycles ≤ (lifetimeOfDamages ds).nCycles := by
  have h0' := h.nonneg h0
  have hmono : (lifetimeOfDamages ds').idx ≤ (lifetimeOfDamages ds).idx := by
    rw [lifetime_idx, lifetime_idx]
    exact h.firstGe_le 1 0 0 le_rfl
  by_cases he : (lifetimeOfDamages ds).early = true
  · -- both fail early: the larger damages reach one no later
    have he' : (lifetimeOfDamages ds').early = true :=
      (lifetime_early_iff_sum ds' h0').mpr (le_trans ((lifetime_early_iff_sum ds h0).mp he) h.sum_le)
    rw [(lifetime_of_early ds he).2, (lifetime_of_early ds' he').2]
    exact_mod_cast hmono
  · have hef : (lifetimeOfDamages ds).early = false := by simpa using he
    have hlt : sumRun 1 ds + sumRun 2 ds < 1 := not_le.mp (mt (lifetime_early_iff_runs ds h0 hrun).mpr he)
    have hD2p := hD2 hef
    have hD1 : sumRun 1 ds ≤ 1 := by linarith
    rw [(lifetime_of_not_early ds hef).2, lifetime_x]
    by_cases he' : (lifetimeOfDamages ds').early = true
    · -- `idx' + 1 ≤ n₁ + n₂ ≤ 2 n₂ + 1`, and `x ≥ 1` makes the regular lifetime at least `2 n₂`
      rw [(lifetime_of_early ds' he').2]
      have hlen : ((lifetimeOfDamages ds').idx : ℝ) + 1 ≤ countRun 1 ds + countRun 2 ds := by
        rw [← length_eq_count12 ds hrun, h.length_eq]
        exact_mod_cast (lifetime_early_iff ds').mp he'
      have hx1 : 1 ≤ (1 - sumRun 1 ds) / sumRun 2 ds := by
        rw [le_div_iff₀ hD2p]; linarith
      have hc := hcnt hef he'
      have := mul_le_mul_of_nonneg_right hx1 (countRun_nonneg 2 ds)
      linarith
    · have hef' : (lifetimeOfDamages ds').early = false := by simpa using he'
      rw [(lifetime_of_not_early ds' hef').2, lifetime_x]
      exact h.regular_le hD1 hD2p

/-! ### the damage of a row grows with `P_RAM` and falls with the curve -/

theorem rowD_mono_P (c : PramCurve ℝ) (h : c.Slopes) (r r' : Row ℝ) (h0 : 0 ≤ r.P) (hP : r.P ≤ r'.P)
    (hc : r.closed = r'.closed) : rowD c r ≤ rowD c r' := by
  rcases eq_or_lt_of_le h0 with e0 | hpos
  · rw [rowD_zero h r e0.symm]
    exact rowD_nonneg h r' (le_trans h0 hP)
  · have hpos' : 0 < r'.P := lt_of_lt_of_le hpos hP
    rw [rowD_eq, rowD_eq, hc]
    exact div_le_div_of_nonneg_left (rowWeight_pos r').le (pramN_pos h hpos')
      ((pramN_strictAntiOn h).antitoneOn hpos hpos' hP)

theorem rowD_anti_PZ (c c' : PramCurve ℝ) (h : c.Slopes) (h' : c'.Slopes) (hd1 : c'.d1 = c.d1) (hd2 : c'.d2 = c.d2)
    (hPZ : c'.PZ ≤ c.PZ) (r : Row ℝ) (h0 : 0 ≤ r.P) : rowD c r ≤ rowD c' r := by
  rcases eq_or_lt_of_le h0 with e0 | hpos
  · rw [rowD_zero h r e0.symm, rowD_zero h' r e0.symm]
  · rw [rowD_eq, rowD_eq]
    refine div_le_div_of_nonneg_left (rowWeight_pos r).le (pramN_pos h' hpos) ?_
    rw [pramN_eq, pramN_eq, hd1, hd2]
    exact PowerLaw.twoSlope_mono_knee kilo_pos h'.1 hPZ h.inv_d1 h.inv_d2 hpos

theorem damLE_of_rows {α : Type} (f g : α → ℝ × Nat) (rows : List α) (hfg : ∀ r ∈ rows, (f r).1 ≤ (g r).1 ∧ (f r).2 = (g r).2) :
    DamLE (rows.map f) (rows.map g) :=
  List.forall₂_map_left_iff.2 (List.forall₂_map_right_iff.2 (List.forall₂_same.2 hfg))

end PylifeVerif.Assess
