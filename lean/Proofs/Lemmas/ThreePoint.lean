import Proofs.Lemmas.FourPointChunks
import Proofs.Lemmas.Argmax

/-
The three-point rainflow detector model (`tpBack`, `tpLoop`, `tpProcess`, `tpRun`) computes the same
detector state as the four-point model: `tpRun_eq_fpRun : tpRun cs = fpRun cs`.

`threepoint_loop` decides by positions (`start ≥ max lowest_front highest_front`), `fourpoint_loop`
by ranges (`|b-c| ≤ |a-b|`).  Inside one call of the loop the values alternate strictly (`C04.Alt`),
no four consecutive residual values can be closed (`Uni`, the value form of `Lit.Irr`), every dropped
position lies between its residual neighbours (`Nest`), and `hf`, `lf` are the first positions of
maximum and minimum (`IsMaxPos`, `IsMinPos`).  If the range test fails, everything at or below `start`
lies between `v a` and `v start` (`hull_below`) and `v front` does not, so an extreme position lies
above `start`; if it holds, everything above `start` lies between them (`Back.hull`), so no extreme
position does.  Hence the two tests agree (`Back.test_iff`), one pass of the loop body is `fpClose` on
the stack of points (`stage_step`), and the loop of one chunk is `fpFeedClose` (`tpCore_eq_fp`): the
loop scans the stored residual again, which closes nothing on either side (`Lit.fpFeed_rescan`).

Between chunks: since the two models agree so far, the state is the canonical state `fpCanon p ch`
of the four-point detector after the signal `p` (`fpProcess_canon`).  The stack a call starts on is irreducible
and non-empty (`baseOf_canon`); seen from the last sample of the next chunk, the new
turns above it alternate (`canon_key`, from `findTurns_dirOk` of the whole signal through `fpFeed_dirOk`,
`fpClose_dirOk`).
-/

namespace PylifeVerif.ThreePoint
open PylifeVerif.Rainflow
open PylifeVerif.Rainflow.Lit (Irr fpClose_of_irr fpFeed_rescan)
open PylifeVerif.C04 (Alt alt_suffix alt_pop)

def tpStep (t : Array Int) (L : TpLoop) (k : Nat) : TpLoop :=
  tpBack t k (L.ri.length / 2 + 1) L

def tpInit (hf lf : Nat) : TpLoop := { ri := [1, 0], hf := hf, lf := lf, cycles := [] }

theorem tpLoop_eq (t : Array Int) (hf lf : Nat) :
    tpLoop t hf lf = (List.range' 2 (t.size - 2)).foldl (tpStep t) (tpInit hf lf) := by
  rw [List.range'_eq_map_range, List.foldl_map]
  simp only [Nat.add_comm 2]
  rfl

/-- The loop part of `tpProcess` as a function of the residual points, the new turns and the last
sample. -/
def tpCore (base turns : List Pt) (lastv : Int) : List Cycle × List Pt :=
  let pts : Array Pt := (base ++ turns).toArray
  let vals : Array Int := ((base ++ turns).map (·.2) ++ [lastv]).toArray
  let resid := base.map (·.2)
  let L := tpLoop vals (argmax resid) (argmin resid)
  (L.cycles.map fun (s, f) => (pts[s]!, pts[f]!), (L.ri.drop 1).map fun i => pts[i]!)

/- `exact`, `rw` and the unifier reduce the head of the expected type; on statements about the loop
result that would run the loop. -/
attribute [local irreducible] tpLoop tpCore

/-! Strict alternation is `C04.Alt`, here always of a value list with the newest value first:
`Alt up (x :: y :: _)` says `x < y` iff `up`, i.e. the step into the head went down iff `up`. -/

def Btw (x y z : Int) : Prop := (x ≤ z ∧ z ≤ y) ∨ (y ≤ z ∧ z ≤ x)

theorem btw_left (x y : Int) : Btw x y x := by unfold Btw; omega

theorem btw_right (x y : Int) : Btw x y y := by unfold Btw; omega

theorem btw_symm {x y z : Int} (h : Btw x y z) : Btw y x z := by unfold Btw at *; omega

theorem btw_conv {x y p q t : Int} (hp : Btw x y p) (hq : Btw x y q) (ht : Btw p q t) :
    Btw x y t := by
  unfold Btw at *; omega

theorem alt_range_new {u : Bool} {z y x : Int} {r : List Int} (h : Alt u (z :: y :: x :: r)) :
    absDiff y z ≤ absDiff x y ↔ Btw y x z := by
  simp only [Alt] at h
  unfold absDiff Btw
  cases u <;> simp at h <;> omega

theorem alt_range_old {u : Bool} {z y x : Int} {r : List Int} (h : Alt u (z :: y :: x :: r)) :
    absDiff x y ≤ absDiff y z ↔ Btw y z x := by
  simp only [Alt] at h
  unfold absDiff Btw
  cases u <;> simp at h <;> omega

/-- No four consecutive values (newest first) satisfy the four-point closing condition. -/
def Uni : List Int → Prop
  | x3 :: x2 :: x1 :: x0 :: rest =>
    ¬(absDiff x1 x2 ≤ absDiff x0 x1 ∧ absDiff x1 x2 ≤ absDiff x2 x3) ∧ Uni (x2 :: x1 :: x0 :: rest)
  | _ => True

def Nest (v : Nat → Int) : List Nat → Prop
  | p :: q :: r => (∀ i, q < i → i < p → Btw (v q) (v p) (v i)) ∧ Nest v (q :: r)
  | _ => True

theorem uni_tail (x : Int) (l : List Int) (h : Uni (x :: l)) : Uni l := by
  match l, h with
  | [], _ => trivial
  | [_], _ => trivial
  | [_, _], _ => trivial
  | x2 :: x1 :: x0 :: rest, h => exact h.2

theorem uni_drop (pre l : List Int) (h : Uni (pre ++ l)) : Uni l := by
  induction pre with
  | nil => exact h
  | cons p pre ih => exact ih (uni_tail p _ h)

theorem uni_iff_irr : ∀ st : List Pt, Uni (st.map (·.2)) ↔ Irr st
  | _ :: c :: b :: a :: rest => and_congr Iff.rfl (uni_iff_irr (c :: b :: a :: rest))
  | [] => Iff.rfl
  | [_] => Iff.rfl
  | [_, _] => Iff.rfl
  | [_, _, _] => Iff.rfl

theorem fpClose_of_uni (st : List Pt) (d : Int) (h : Uni (d :: st.map (·.2))) :
    fpClose st d = ([], st) :=
  fpClose_of_irr (0, d) st ((uni_iff_irr ((0, d) :: st)).1 h)

/-- Under a range `py`-`x` that exceeds the range `px`-`py` below it, the ranges keep growing
towards the top all the way down (`Uni`), so every position up to `py` has a value between those of
`px` and `py`. -/
theorem hull_below (v : Nat → Int) (prest : List Nat) : ∀ (u : Bool) (x : Int) (py px : Nat),
    Alt u ((py :: px :: prest).map v) → Uni (x :: (py :: px :: prest).map v) →
    absDiff (v px) (v py) < absDiff (v py) x →
    Nest v (py :: px :: prest) → (py :: px :: prest).getLast? = some 0 →
    ∀ q, q ≤ py → Btw (v px) (v py) (v q) := by
  induction prest with
  | nil =>
    intro u x py px _ _ _ hn hl q hq
    simp only [List.getLast?_cons_cons, List.getLast?_singleton, Option.some.injEq] at hl
    subst hl
    by_cases h1 : q = py
    · subst h1; exact btw_right _ _
    · by_cases h2 : q = 0
      · subst h2; exact btw_left _ _
      · exact hn.1 q (by omega) (by omega)
  | cons pw r ih =>
    intro u x py px ha hu hx hn hl q hq
    by_cases h1 : q = py
    · subst h1; exact btw_right _ _
    · by_cases h2 : px < q
      · exact hn.1 q h2 (by omega)
      · simp only [List.map_cons] at ha hu
        have hi1 : absDiff (v pw) (v px) < absDiff (v px) (v py) := by
          have := hu.1; omega
        have key := ih (!u) (v py) px pw ha.2 hu.2 hi1 hn.2
          (by simpa [List.getLast?_cons_cons] using hl) q (by omega)
        exact btw_conv ((alt_range_old ha).1 (by omega)) (btw_left _ _) key

/-- The part of the loop invariant that concerns the stack of residual positions at the moment
position `k` is examined. -/
structure Stk (v : Nat → Int) (k : Nat) (ri : List Nat) : Prop where
  srt : ri.Pairwise (· > ·)
  bnd : ∀ i ∈ ri, i < k
  last : ri.getLast? = some 0
  uni : Uni (ri.map v)
  nest : Nest v ri

theorem Stk.push {v : Nat → Int} {k : Nat} {ri : List Nat} (h : Stk v k ri)
    (hu : Uni (v k :: ri.map v)) (hn : Nest v (k :: ri)) : Stk v (k + 1) (k :: ri) where
  srt := List.pairwise_cons.2 ⟨fun i hi => h.bnd i hi, h.srt⟩
  bnd := fun i hi => by
    rcases List.mem_cons.1 hi with rfl | hi
    · omega
    · exact Nat.lt_succ_of_lt (h.bnd i hi)
  last := by
    have := h.last
    cases ri with
    | nil => simp at this
    | cons x xs => simpa [List.getLast?_cons_cons] using this
  uni := hu
  nest := hn

theorem Stk.tail2 {v : Nat → Int} {k f s a : Nat} {r : List Nat} (h : Stk v k (f :: s :: a :: r)) :
    Stk v k (a :: r) where
  srt := (List.pairwise_cons.1 (List.pairwise_cons.1 h.srt).2).2
  bnd := fun i hi => h.bnd i (List.mem_cons_of_mem _ (List.mem_cons_of_mem _ hi))
  last := by simpa [List.getLast?_cons_cons] using h.last
  uni := uni_tail _ _ (uni_tail _ _ h.uni)
  nest := h.nest.2.2

/-- The three-point position test implies the first four-point range test.  The extreme positions
may cover more than `[0, k)`: inside the stored residual they cover all of it. -/
theorem Stk.fwd {v : Nat → Int} {k front start : Nat} {rest : List Nat}
    (hS : Stk v k (front :: start :: rest)) {u : Bool} (ha : Alt u ((front :: start :: rest).map v))
    {m hf lf : Nat} (hmax : IsMaxPos v m hf) (hmin : IsMinPos v m lf) (hfm : front < m)
    (hpos : max lf hf ≤ start) :
    ∃ a rest', rest = a :: rest' ∧ absDiff (v start) (v front) ≤ absDiff (v a) (v start) := by
  have h1 := hmax.2.1 front hfm
  have h2 := hmin.2.1 front hfm
  have hl := hS.last
  cases rest with
  | nil =>
    exfalso
    simp only [List.getLast?_cons_cons, List.getLast?_singleton, Option.some.injEq] at hl
    subst hl
    have e1 : lf = 0 := by omega
    have e2 : hf = 0 := by omega
    subst e1 e2
    simp only [List.map_cons, List.map_nil, Alt] at ha
    have := ha.1
    cases u <;> simp at this <;> omega
  | cons a rest' =>
    refine ⟨a, rest', rfl, ?_⟩
    by_contra hc
    simp only [List.map_cons] at ha
    have hb := hull_below v rest' (!u) (v front) start a (by simpa using ha.2)
      (by simpa using hS.uni) (by omega) hS.nest.2 (by simpa [List.getLast?_cons_cons] using hl)
    -- `v front` lies between `v lf` and `v hf`, which lie between `v a` and `v start`
    exact hc ((alt_range_new ha).2
      (btw_symm (btw_conv (hb lf (by omega)) (hb hf (by omega)) (Or.inl ⟨h2, h1⟩))))

/-- What holds inside the run of `tpBack` for position `k` while the residual positions are `ri`.
`nest` has `k` on top: the positions above the front have been closed by `k` itself.  `above`: if
the front and the two positions below it pass the first range test, the positions above the front
lie between those two. -/
structure Back (v : Nat → Int) (k : Nat) (u : Bool) (hf lf : Nat) (ri : List Nat) : Prop where
  stk : Stk v k ri
  nest : Nest v (k :: ri)
  alt : Alt u ((k :: ri).map v)
  above : ∀ front start a rest, ri = front :: start :: a :: rest →
    absDiff (v start) (v front) ≤ absDiff (v a) (v start) →
    ∀ i, front < i → i < k → Btw (v start) (v a) (v i)
  hi : IsMaxPos v k hf
  lo : IsMinPos v k lf

section Back
variable {v : Nat → Int} {k : Nat} {u : Bool} {hf lf front start a : Nat} {rest : List Nat}

theorem Back.hull (h : Back v k u hf lf (front :: start :: a :: rest))
    (hc : absDiff (v start) (v front) ≤ absDiff (v a) (v start)) :
    ∀ i, start < i → i < k → Btw (v start) (v a) (v i) := by
  have hfr : Btw (v start) (v a) (v front) := (alt_range_new h.alt.2).1 hc
  intro i h1 h2
  by_cases c1 : i < front
  · exact btw_conv (btw_left _ _) hfr (h.stk.nest.1 i h1 c1)
  · by_cases c2 : i = front
    · subst c2; exact hfr
    · exact h.above _ _ _ _ rfl hc i (by omega) h2

/-- **The position test of `threepoint_loop` is the first range test of `fourpoint_loop`.** -/
theorem Back.test_iff (h : Back v k u hf lf (front :: start :: rest)) :
    max lf hf ≤ start ↔
      ∃ a rest', rest = a :: rest' ∧ absDiff (v start) (v front) ≤ absDiff (v a) (v start) := by
  refine ⟨h.stk.fwd h.alt.2 h.hi h.lo (h.stk.bnd front (by simp)), ?_⟩
  rintro ⟨a, rest', rfl, hc⟩
  have hull := h.hull hc
  have hs : a < start := (List.pairwise_cons.1 (List.pairwise_cons.1 h.stk.srt).2).1 a (by simp)
  -- an extreme position above `start` would have a value between two smaller (larger) ones
  by_contra hcon
  rcases (by omega : start < hf ∨ start < lf) with hh | hh
  · have h1 := hull hf hh h.hi.1
    have e1 := h.hi.2.2 start hh
    have e2 := h.hi.2.2 a (by omega)
    unfold Btw at h1
    omega
  · have h1 := hull lf hh h.lo.1
    have e1 := h.lo.2.2 start hh
    have e2 := h.lo.2.2 a (by omega)
    unfold Btw at h1
    omega

theorem Back.pop (h : Back v k u hf lf (front :: start :: a :: rest))
    (hc : absDiff (v start) (v front) ≤ absDiff (v a) (v start))
    (hc2 : absDiff (v start) (v front) ≤ absDiff (v front) (v k)) :
    Back v k u hf lf (a :: rest) := by
  have hull := h.hull hc
  have ha := h.alt
  have hn := h.stk.nest
  simp only [List.map_cons] at ha
  -- everything above `a` lies between `a` and `x`, if `start` does
  have up : ∀ x, Btw (v a) x (v start) → ∀ i, a < i → i < k → Btw (v a) x (v i) := by
    intro x hx i h1 h2
    by_cases g1 : i < start
    · exact btw_conv (btw_left _ _) hx (hn.2.1 i h1 g1)
    · by_cases g2 : i = start
      · subst g2; exact hx
      · exact btw_conv hx (btw_left _ _) (hull i (by omega) h2)
  refine ⟨h.stk.tail2, ⟨up _ ?_, hn.2.2⟩, alt_pop [] u _ _ _ _ _ h.alt hc, ?_, h.hi, h.lo⟩
  · -- `front` lies between `start` and `a`, and `start` between `front` and `k`
    have b1 := (alt_range_new ha.2).1 hc
    have b2 := (alt_range_old ha).1 hc2
    have z2 := ha.2.1
    unfold Btw at *
    cases u <;> simp at z2 <;> omega
  · -- `start` lies between `a` and `a'`, because `start, a, a', a''` do not close
    rintro _ a' a'' rest' ⟨rfl, rfl⟩ hc' i h1 h2
    have hu := h.stk.uni
    simp only [List.map_cons] at ha hu
    have hs : Btw (v a) (v a') (v start) := (alt_range_new ha.2.2).1 (by have := hu.2.1; omega)
    exact btw_conv ((alt_range_new ha.2.2.2).1 hc') (btw_left _ _) (up _ hs i h1 h2)

end Back

theorem map_vals {P : Nat → Pt} {v : Nat → Int} {k : Nat} (hP : ∀ i, i < k → (P i).2 = v i)
    (l : List Nat) (hl : ∀ i ∈ l, i < k) : (l.map P).map (·.2) = l.map v := by
  rw [List.map_map]
  exact List.map_congr_left fun i hi => hP i (hl i hi)

def posCyc (P : Nat → Pt) (c : Nat × Nat) : Cycle := (P c.1, P c.2)

theorem keep_step {t : Array Int} {P : Nat → Pt} {k : Nat} (hP : ∀ i, i < k → (P i).2 = t[i]!)
    {ri : List Nat} (hS : Stk (fun i => t[i]!) k ri) (hu : Uni (t[k]! :: ri.map (fun i => t[i]!)))
    (hn : Nest (fun i => t[i]!) (k :: ri)) :
    fpClose (ri.map P) t[k]! = ([], ri.map P) ∧
      Stk (fun i => t[i]!) (k + 1) (k :: ri) :=
  ⟨fpClose_of_uni _ _ (by rw [map_vals hP ri hS.bnd]; exact hu), hS.push hu hn⟩

/-- The closing loop of `tpBack` at position `k`, once the extreme positions `hf`, `lf` cover all
positions below `k`, does exactly what `fpClose` does on the corresponding stack of points. -/
theorem tpBack_inner (t : Array Int) (P : Nat → Pt) (k : Nat)
    (hP : ∀ i, i < k → (P i).2 = t[i]!) (u : Bool) (hf lf : Nat) :
    ∀ (fuel : Nat) (ri : List Nat) (cyc : List (Nat × Nat)),
      ri.length / 2 + 1 ≤ fuel → Back (fun i => t[i]!) k u hf lf ri →
      ∃ (ri' : List Nat) (cyc' : List (Nat × Nat)),
        tpBack t k fuel ⟨ri, hf, lf, cyc⟩ = ⟨k :: ri', hf, lf, cyc ++ cyc'⟩ ∧
        fpClose (ri.map P) t[k]! = (cyc'.map (posCyc P), ri'.map P) ∧
        Stk (fun i => t[i]!) (k + 1) (k :: ri') := by
  intro fuel
  induction fuel with
  | zero => intro ri cyc h; omega
  | succ fuel ih =>
    intro ri cyc hfuel hB
    match ri, hfuel, hB with
    | [], _, hB => exact absurd hB.stk.last (by simp)
    | [x], _, hB =>
      exact ⟨[x], [], by simp [tpBack], keep_step hP hB.stk trivial hB.nest⟩
    | front :: start :: rest, hfuel, hB =>
      have hfk : front < k := hB.stk.bnd front (by simp)
      have hsk : start < k := hB.stk.bnd start (by simp)
      have c1 : ¬ t[front]! > t[hf]! := by have := hB.hi.2.1 front hfk; simp only at this; omega
      have c2 : ¬ t[front]! < t[lf]! := by have := hB.lo.2.1 front hfk; simp only at this; omega
      have hsw : absDiff t[k]! t[front]! ≥ absDiff t[front]! t[start]! ↔
          absDiff t[start]! t[front]! ≤ absDiff t[front]! t[k]! := by
        rw [absDiff_comm t[start]!, absDiff_comm _ t[k]!]
      by_cases hc : start ≥ max lf hf ∧ absDiff t[k]! t[front]! ≥ absDiff t[front]! t[start]!
      · -- the three-point rule closes `(start, front)`; so does the four-point rule
        obtain ⟨a, rest', rfl, hc1⟩ := hB.test_iff.1 hc.1
        have hc2 := hsw.1 hc.2
        obtain ⟨ri', cyc', r1, r2, r3⟩ := ih (a :: rest') (cyc ++ [(start, front)])
          (by simp only [List.length_cons] at hfuel ⊢; omega) (hB.pop hc1 hc2)
        refine ⟨ri', (start, front) :: cyc', ?_, ?_, r3⟩
        · simp only [tpBack, if_neg c1, if_neg c2, if_pos hc, r1, List.append_assoc,
            List.singleton_append]
        · simp only [List.map_cons] at r2 ⊢
          rw [Common.fpClose_pos' _ _ _ _ _
            (by rw [hP front hfk, hP start hsk, hP a (hB.stk.bnd a (by simp))]; exact ⟨hc1, hc2⟩), r2]
          rfl
      · -- neither rule closes
        refine ⟨_, [], by simp only [tpBack, if_neg c1, if_neg c2, if_neg hc, List.append_nil],
          keep_step hP hB.stk ?_ hB.nest⟩
        cases rest with
        | nil => trivial
        | cons a rest' =>
          exact ⟨fun h4 => hc ⟨hB.test_iff.2 ⟨a, rest', rfl, h4.1⟩, hsw.2 h4.2⟩, hB.stk.uni⟩

/-- `tpBack` first examines the front for a new extreme and pushes at once if it is one.  That is
the closing loop run with the extreme positions already updated: a front that is an extreme
position fails the position test. -/
theorem tpBack_exam (t : Array Int) (k fuel front start : Nat) (rest : List Nat) (hf lf : Nat)
    (cyc : List (Nat × Nat)) (hsf : start < front) (hlh : t[lf]! ≤ t[hf]!) :
    tpBack t k (fuel + 1) ⟨front :: start :: rest, hf, lf, cyc⟩ =
      tpBack t k (fuel + 1) ⟨front :: start :: rest, if t[front]! > t[hf]! then front else hf,
        if t[front]! < t[lf]! then front else lf, cyc⟩ := by
  by_cases c1 : t[front]! > t[hf]!
  · have c2 : ¬ t[front]! < t[lf]! := by omega
    have c3 : ¬ start ≥ max lf front := by omega
    simp only [tpBack, if_pos c1, if_neg c2, Int.lt_irrefl, gt_iff_lt, if_false, c3, false_and]
  · by_cases c2 : t[front]! < t[lf]!
    · have c3 : ¬ start ≥ max front hf := by omega
      simp only [tpBack, if_neg c1, if_pos c2, Int.lt_irrefl, if_false, c3, false_and]
    · simp only [if_neg c1, if_neg c2]

/-- The examination of the front `k - 1` brings the extreme position up to date for `[0, k)`, whether it
covered `[0, k - 1)` before (`c = 0`) or already `[0, k)` (`c = 1`: the extremes of a stored residual
are known for all of it, see `Stage`). -/
theorem isMaxPos_exam {v : Nat → Int} {k c h : Nat} (hk : 1 ≤ k) (hc : c ≤ 1)
    (H : IsMaxPos v (k - 1 + c) h) : IsMaxPos v k (if v (k - 1) > v h then k - 1 else h) := by
  rcases c with _ | _ | c
  · by_cases c1 : v (k - 1) > v h
    · rw [if_pos c1]; exact isMaxPos_succ_of_lt hk H c1
    · rw [if_neg c1]; exact isMaxPos_succ_of_not_lt H c1
  · rw [show k - 1 + (0 + 1) = k by omega] at H
    rw [if_neg (by have := H.2.1 (k - 1) (by omega); omega)]
    exact H
  · omega

theorem isMinPos_exam {v : Nat → Int} {k c h : Nat} (hk : 1 ≤ k) (hc : c ≤ 1)
    (H : IsMinPos v (k - 1 + c) h) : IsMinPos v k (if v (k - 1) < v h then k - 1 else h) := by
  have := isMaxPos_exam hk hc (isMinPos_iff_neg.1 H)
  simp only [gt_iff_lt, Int.neg_lt_neg_iff] at this
  exact isMinPos_iff_neg.2 this

theorem range'_map_get! {α : Type} [Inhabited α] (l post : List α) :
    (List.range' 0 l.length).map (fun i => (l ++ post).toArray[i]!) = l := by
  apply List.ext_getElem
  · simp
  · intro i h1 h2
    simp only [List.length_map, List.length_range'] at h1
    simp only [List.getElem_map, List.getElem_range', Nat.one_mul, Nat.zero_add,
      List.getElem!_toArray, List.getElem!_eq_getElem?_getD, List.getElem?_append_left h1,
      List.getElem?_eq_getElem h1]
    rfl

theorem drop_reverse_succ (vl : List Int) (k : Nat) (hk : k < vl.length) :
    (vl.drop k).reverse = (vl.drop (k + 1)).reverse ++ [vl.toArray[k]!] := by
  rw [List.drop_eq_getElem_cons hk, List.reverse_cons]
  simp [hk]

/-- Invariant of the three-point loop before position `k` is processed (`vl`: all values,
oldest first).  `alt`: the values still to come, on top of the stack, alternate.  `ext`: `tpBack`
compares the front `k - 1` with the extreme positions only when it processes `k`, so these cover
`[0, k - 1)`, and from the start the whole stored residual, which the loop scans again from
position 2: `c - 1` of its positions are still ahead, and their values, on top of the stack, are
`Uni`. -/
structure Stage (vl : List Int) (k : Nat) (L : TpLoop) : Prop where
  stk : Stk (fun i => vl.toArray[i]!) k L.ri
  top : ∃ r, L.ri = (k - 1) :: r
  alt : ∃ u, Alt u ((vl.drop k).reverse ++ L.ri.map (fun i => vl.toArray[i]!))
  ext : ∃ c, IsMaxPos (fun i => vl.toArray[i]!) (k - 1 + c) L.hf ∧
      IsMinPos (fun i => vl.toArray[i]!) (k - 1 + c) L.lf ∧
      Uni (((List.range' k (c - 1)).map (fun i => vl.toArray[i]!)).reverse ++
        L.ri.map (fun i => vl.toArray[i]!))

theorem stage_step (vl : List Int) (P : Nat → Pt) (k : Nat) (hk2 : 2 ≤ k) (hkN : k < vl.length)
    (hP : ∀ i, i < k → (P i).2 = vl.toArray[i]!) (L : TpLoop) (hS : Stage vl k L) :
    (tpStep vl.toArray L k).ri.map P = P k :: (fpClose (L.ri.map P) vl.toArray[k]!).2 ∧
      (tpStep vl.toArray L k).cycles.map (posCyc P) =
        L.cycles.map (posCyc P) ++ (fpClose (L.ri.map P) vl.toArray[k]!).1 ∧
      Stage vl (k + 1) (tpStep vl.toArray L k) := by
  obtain ⟨hstk, ⟨r, htop⟩, ⟨u, halt⟩, ⟨c, hmax, hmin, hpre⟩⟩ := hS
  obtain ⟨ri, hf, lf, cyc⟩ := L
  obtain rfl : ri = (k - 1) :: r := htop
  obtain ⟨start, rest, rfl⟩ : ∃ s r', r = s :: r' := by
    cases r with
    | nil =>
      have h0 := hstk.last
      simp only [List.getLast?_singleton, Option.some.injEq] at h0
      omega
    | cons s r' => exact ⟨s, r', rfl⟩
  rw [drop_reverse_succ vl k hkN, List.append_assoc, List.singleton_append] at halt
  obtain ⟨u', halt'⟩ := alt_suffix _ _ u halt
  -- what the new stage needs once the result of `tpBack` is known
  suffices h : ∃ (ri' : List Nat) (cyc' : List (Nat × Nat)) (hf' lf' c' : Nat),
      tpStep vl.toArray ⟨(k - 1) :: start :: rest, hf, lf, cyc⟩ k = ⟨k :: ri', hf', lf', cyc ++ cyc'⟩ ∧
      (fpClose (((k - 1) :: start :: rest).map P) vl.toArray[k]! = (cyc'.map (posCyc P), ri'.map P) ∧
        Stk (fun i => vl.toArray[i]!) (k + 1) (k :: ri')) ∧
      IsMaxPos (fun i => vl.toArray[i]!) (k + c') hf' ∧ IsMinPos (fun i => vl.toArray[i]!) (k + c') lf' ∧
      Uni (((List.range' (k + 1) (c' - 1)).map (fun i => vl.toArray[i]!)).reverse ++
        vl.toArray[k]! :: ri'.map (fun i => vl.toArray[i]!)) by
    obtain ⟨ri', cyc', hf', lf', c', e1, ⟨e2, e3⟩, e4, e5, e6⟩ := h
    -- alternation of the new stack is read off the four-point side
    have a1 := fpClose_alt ((vl.drop (k + 1)).reverse) u (((k - 1) :: start :: rest).map P)
      vl.toArray[k]! vl.toArray[k]! (by rw [map_vals hP _ hstk.bnd]; exact halt)
    rw [e2, map_vals hP ri' (List.pairwise_cons.1 e3.srt).1] at a1
    rw [e1, e2]
    exact ⟨rfl, by simp, { stk := e3, top := ⟨ri', by simp⟩, alt := ⟨u, a1⟩, ext := ⟨c', e4, e5, e6⟩ }⟩
  have hsf : start < k - 1 := (List.pairwise_cons.1 hstk.srt).1 start (by simp)
  have hnest : Nest (fun i => vl.toArray[i]!) (k :: (k - 1) :: start :: rest) :=
    ⟨fun i h1 h2 => by omega, hstk.nest⟩
  by_cases hc : c ≤ 1
  · -- the extreme positions cover `[0, k)` once the front has been examined
    have hmax' := isMaxPos_exam (by omega) hc hmax
    have hmin' := isMinPos_exam (by omega) hc hmin
    obtain ⟨ri', cyc', e1, e2⟩ := tpBack_inner vl.toArray P k hP u' _ _ _ _ cyc (Nat.le_refl _)
      ⟨hstk, hnest, halt', by rintro _ _ _ _ ⟨rfl, -⟩ _ i h1 h2; omega, hmax', hmin'⟩
    refine ⟨ri', cyc', _, _, 0, ?_, e2, hmax', hmin', e2.2.uni⟩
    rw [← e1]
    exact tpBack_exam vl.toArray k _ (k - 1) start rest hf lf cyc hsf (hmax.2.1 lf hmin.1)
  · -- `k` is still a position of the stored residual: neither rule closes
    obtain ⟨c, rfl⟩ : ∃ c', c = c' + 2 := ⟨c - 2, by omega⟩
    rw [show k - 1 + (c + 2) = k + (c + 1) by omega] at hmax hmin
    have hpre : Uni (((k :: List.range' (k + 1) c).map (fun i => vl.toArray[i]!)).reverse ++
        ((k - 1) :: start :: rest).map (fun i => vl.toArray[i]!)) := hpre
    rw [List.map_cons, List.reverse_cons, List.append_assoc, List.singleton_append] at hpre
    have hu := uni_drop _ _ hpre
    have c1 : ¬ vl.toArray[k - 1]! > vl.toArray[hf]! := by
      have := hmax.2.1 (k - 1) (by omega); simp only at this; omega
    have c2 : ¬ vl.toArray[k - 1]! < vl.toArray[lf]! := by
      have := hmin.2.1 (k - 1) (by omega); simp only at this; omega
    have c3 : ¬ (start ≥ max lf hf ∧
        absDiff vl.toArray[k]! vl.toArray[k - 1]! ≥ absDiff vl.toArray[k - 1]! vl.toArray[start]!) := by
      intro hc
      obtain ⟨a, r', rfl, h2⟩ := hstk.fwd halt'.2 hmax hmin (by omega) hc.1
      simp only [List.map_cons] at hu
      exact hu.1 ⟨h2, by rw [absDiff_comm vl.toArray[start]!, absDiff_comm _ vl.toArray[k]!]; exact hc.2⟩
    exact ⟨_, [], hf, lf, c + 1,
      by simp only [tpStep, tpBack, if_neg c1, if_neg c2, if_neg c3, List.append_nil],
      keep_step hP hstk hu hnest, hmax, hmin, hpre⟩

theorem tpFold_eq_fpFeed (vl : List Int) (P : Nat → Pt)
    (hP : ∀ i, i + 1 < vl.length → (P i).2 = vl.toArray[i]!) :
    ∀ (j k0 : Nat) (L : TpLoop), 2 ≤ k0 → k0 + j < vl.length → Stage vl k0 L →
      Stage vl (k0 + j) ((List.range' k0 j).foldl (tpStep vl.toArray) L) ∧
      ((List.range' k0 j).foldl (tpStep vl.toArray) L).ri.map P =
        (fpFeed (L.ri.map P) ((List.range' k0 j).map P)).2 ∧
      ((List.range' k0 j).foldl (tpStep vl.toArray) L).cycles.map (posCyc P) =
        L.cycles.map (posCyc P) ++ (fpFeed (L.ri.map P) ((List.range' k0 j).map P)).1 := by
  intro j
  induction j with
  | zero => intro k0 L _ _ hS; simpa [fpFeed] using hS
  | succ j ih =>
    intro k0 L hk0 hlen hS
    simp only [List.range'_succ, List.foldl_cons, List.map_cons, fpFeed, fpPush]
    obtain ⟨e1, e2, e3⟩ := stage_step vl P k0 hk0 (by omega) (fun i hi => hP i (by omega)) L hS
    obtain ⟨i1, i2, i3⟩ := ih (k0 + 1) (tpStep vl.toArray L k0) (by omega) (by omega) e3
    rw [e1] at i2 i3
    rw [e2] at i3
    rw [hP k0 (by omega)]
    exact ⟨by rw [show k0 + (j + 1) = k0 + 1 + j by omega]; exact i1, i2,
      by rw [i3, List.append_assoc]⟩

theorem tpLoop_of_stage (vl : List Int) (P : Nat → Pt)
    (hP : ∀ i, i + 1 < vl.length → (P i).2 = vl.toArray[i]!) (hf lf : Nat)
    (h3 : 3 ≤ vl.length) (hS : Stage vl 2 (tpInit hf lf))
    (d : Int) (hd : vl.toArray[vl.length - 1]! = d) (st turns : List Pt)
    (hfeed : fpFeed [P 1, P 0] ((List.range' 2 (vl.length - 1 - 2)).map P) = fpFeed st turns) :
    ((tpLoop vl.toArray hf lf).cycles.map (posCyc P), ((tpLoop vl.toArray hf lf).ri.drop 1).map P) =
      fpFeedClose st turns d := by
  obtain ⟨m1, m2, m3⟩ := tpFold_eq_fpFeed vl P hP (vl.length - 1 - 2) 2 _ (by omega) (by omega) hS
  rw [show 2 + (vl.length - 1 - 2) = vl.length - 1 by omega] at m1
  change _ = (fpFeed [P 1, P 0] _).2 at m2
  change _ = [] ++ (fpFeed [P 1, P 0] _).1 at m3
  rw [hfeed] at m2 m3
  rw [List.nil_append] at m3
  -- the last position holds the last sample: it is closed against, not fed
  have hL : tpLoop vl.toArray hf lf = tpStep vl.toArray
      ((List.range' 2 (vl.length - 1 - 2)).foldl (tpStep vl.toArray) (tpInit hf lf))
      (vl.length - 1) := by
    rw [tpLoop_eq, List.size_toArray, show vl.length - 2 = (vl.length - 1 - 2) + 1 by omega,
      List.range'_1_concat, show 2 + (vl.length - 1 - 2) = vl.length - 1 by omega,
      List.foldl_append]
    rfl
  obtain ⟨e1, e2, _⟩ := stage_step vl P (vl.length - 1) (by omega) (by omega)
    (fun i hi => hP i (by omega)) _ m1
  rw [← hL, m2, hd] at e1 e2
  rw [e2, m3, List.map_drop, e1]
  rfl

/-- The start of the loop: `hf`, `lf` are the extreme positions of the stored residual (`n0`
values, `Uni`), the first two positions are on the stack. -/
theorem stage_init (vl : List Int) (n0 hf lf : Nat) (u : Bool) (hn : 1 ≤ n0) (h3 : 3 ≤ vl.length)
    (hmax : IsMaxPos (fun i => vl.toArray[i]!) n0 hf) (hmin : IsMinPos (fun i => vl.toArray[i]!) n0 lf)
    (ha : Alt u vl.reverse)
    (hu : Uni ((List.range' 0 n0).map (fun i => vl.toArray[i]!)).reverse) :
    Stage vl 2 (tpInit hf lf) := by
  have hu' : Uni (((List.range' 2 (n0 - 1 - 1)).map (fun i => vl.toArray[i]!)).reverse ++
      [vl.toArray[1]!, vl.toArray[0]!]) := by
    by_cases h2 : n0 ≤ 2
    · rw [show n0 - 1 - 1 = 0 by omega]; trivial
    · rw [show n0 = (n0 - 1 - 1) + 1 + 1 by omega, List.range'_succ, List.range'_succ] at hu
      simpa using hu
  rw [← List.take_append_drop 2 vl, List.reverse_append] at ha
  exact {
    stk := ⟨by simp [tpInit], by intro i hi; simp [tpInit] at hi; omega, rfl, trivial,
      ⟨fun i h1 h2 => by omega, trivial⟩⟩
    top := ⟨[0], rfl⟩
    alt := ⟨u, by
      match vl, h3, ha with
      | x0 :: x1 :: tl, _, ha => simpa [tpInit] using ha⟩
    ext := ⟨n0 - 1, by rw [show 2 - 1 + (n0 - 1) = n0 by omega]; exact ⟨hmax, hmin, hu'⟩⟩ }

/-- The loop of one chunk: positions `0 … N-2` carry `base ++ turns`; feeding them from the empty
stack rebuilds the stored residual (`fpFeed_rescan`) and then feeds the new turns. -/
theorem tpCore_eq_fp (base turns : List Pt) (d : Int) (hb : base ≠ []) (u : Bool)
    (halt : Alt u (d :: (turns.reverse.map (·.2) ++ base.reverse.map (·.2))))
    (hirr : Irr base.reverse) (h2 : 2 ≤ (base ++ turns).length) :
    tpCore base turns d = fpFeedClose base.reverse turns d := by
  unfold tpCore
  simp only []
  generalize hvl : (base ++ turns).map (·.2) ++ [d] = vl
  generalize hPdef : (fun (i : Nat) => (base ++ turns).toArray[i]!) = P
  have hPa : ∀ i : Nat, (base ++ turns).toArray[i]! = P i := fun i => by rw [← hPdef]
  simp only [hPa]
  have hlen : vl.length = (base ++ turns).length + 1 := by rw [← hvl]; simp; omega
  have hP : ∀ i, i + 1 < vl.length → (P i).2 = vl.toArray[i]! := by
    intro i hi
    have hi2 : i < (base ++ turns).length := by omega
    have hi3 : i < ((base ++ turns).map (·.2)).length := by simpa using hi2
    rw [← hvl, ← hPdef]
    simp only [List.getElem!_toArray, List.getElem!_eq_getElem?_getD]
    rw [List.getElem?_append_left hi3, List.getElem?_map, List.getElem?_eq_getElem hi2]
    rfl
  have hlastv : vl.toArray[vl.length - 1]! = d := by rw [← hvl]; simp
  have haltv : Alt u vl.reverse := by rw [← hvl]; simpa using halt
  have hvb : ∀ i, i < (base.map (·.2)).length → vl.toArray[i]! = (base.map (·.2))[i]! :=
    fun i hi => by
      rw [← hvl, List.map_append, List.append_assoc]
      simp only [List.getElem!_toArray, List.getElem!_eq_getElem?_getD,
        List.getElem?_append_left hi]
  have hmax := isMaxPos_argmax (base.map (·.2)) (by simpa using hb) _ hvb
  have hmin := isMinPos_argmin (base.map (·.2)) (by simpa using hb) _ hvb
  rw [List.length_map] at hmax hmin
  have hPall : (List.range' 0 (vl.length - 1)).map P = base ++ turns := by
    have := range'_map_get! (base ++ turns) []
    rw [List.append_nil] at this
    rw [hlen, Nat.add_sub_cancel, ← hPdef]; exact this
  have hvbase : (List.range' 0 base.length).map (fun i => vl.toArray[i]!) = base.map (·.2) := by
    have := range'_map_get! (base.map (·.2)) (turns.map (·.2) ++ [d])
    rwa [List.length_map, ← List.append_assoc, ← List.map_append, hvl] at this
  refine tpLoop_of_stage vl P hP _ _ (by omega)
    (stage_init vl _ _ _ u (List.length_pos_iff.2 hb) (by omega) hmax hmin haltv
      (by rw [hvbase, ← List.map_reverse]; exact (uni_iff_irr _).2 hirr)) d hlastv base.reverse turns ?_
  rw [show vl.length - 1 = (vl.length - 1 - 2) + 1 + 1 by omega, List.range'_succ, List.range'_succ,
    List.map_cons, List.map_cons] at hPall
  have h0 : fpFeed [] (base ++ turns) =
      fpFeed [P 1, P 0] ((List.range' 2 (vl.length - 1 - 2)).map P) := by
    rw [← hPall]; simp [fpFeed, fpPush, Common.fpClose_nil', Common.fpClose_one']
  have h1 := fpFeed_rescan base.reverse hirr
  rw [List.reverse_reverse] at h1
  rw [← h0, Common.fpFeed_append, h1]
  simp

/-- `DirOk` in place of the alternation: it also covers the signal that has not moved yet.  `st` is the stack the
call starts on, top first as the four-point model keeps it. -/
theorem tpCore_eq_fp_of_dirOk (st turns : List Pt) (d : Int) (up : Bool) (hb : st ≠ [])
    (h : DirOk up d (turns.reverse.map (·.2) ++ st.map (·.2))) (hirr : Irr st) :
    tpCore st.reverse turns d = fpFeedClose st turns d := by
  by_cases h1 : ∃ p, st = [p] ∧ turns = []
  · -- two values (in particular a constant signal): the loop is not entered
    obtain ⟨p, rfl, rfl⟩ := h1
    simp [tpCore, tpLoop, fpFeedClose, fpFeed, Common.fpClose_one']
  have hr : st.reverse.reverse = st := List.reverse_reverse st
  rcases h with hx | ha
  · obtain ⟨-, rfl, p, hp⟩ := single_of_append (pre := []) hb hx
    exact absurd ⟨p, hp, rfl⟩ h1
  · have h2 : 2 ≤ (st.reverse ++ turns).length := by
      rcases st with _ | ⟨b0, _ | ⟨b1, st'⟩⟩
      · exact absurd rfl hb
      · cases turns with
        | nil => exact absurd ⟨b0, rfl, rfl⟩ h1
        | cons t0 turns' => simp
      · simp only [List.length_append, List.length_reverse, List.length_cons]; omega
    rw [tpCore_eq_fp _ _ _ (by simpa using hb) _ (by rw [hr]; exact ha) (by rw [hr]; exact hirr) h2, hr]

theorem tpProcess_cons (st : DetState) (s0 : Int) (tl : List Int) :
    tpProcess st (s0 :: tl) =
      { ts := (newTurns st.ts (s0 :: tl)).1,
        stack := (tpCore (baseOf s0 st).reverse (newTurns st.ts (s0 :: tl)).2 (s0 :: tl).getLast!).2,
        last := some (s0 :: tl).getLast!,
        cycles := st.cycles ++ (tpCore (baseOf s0 st).reverse (newTurns st.ts (s0 :: tl)).2 (s0 :: tl).getLast!).1,
        chunks := st.chunks ++ [(s0 :: tl).length] } := by
  have hb : (baseOf s0 st).reverse = if st.last.isNone then [(0, s0)] else st.stack.reverse := by
    unfold baseOf; split <;> rfl
  simp only [tpProcess, tpCore, hb, List.map_toArray, List.push_toArray]

/-- Seen from the last sample of the chunk `c0 :: tl`, the new turns above the stack of the canonical state after the
signal `p` alternate. -/
theorem canon_key (p : List Int) (ch : List Nat) (c0 : Int) (tl : List Int) :
    ∃ up, DirOk up (c0 :: tl).getLast!
      ((newTurns (fpCanon p ch).ts (c0 :: tl)).2.reverse.map (·.2) ++ (baseOf c0 (fpCanon p ch)).map (·.2)) := by
  have hnt : (newTurns (fpCanon p ch).ts (c0 :: tl)).2 = newTurnsOf p (c0 :: tl) := by
    rw [fpCanon_ts, newTurns_canon p _ (List.cons_ne_nil _ _)]
  rw [hnt, getLast!_cons]
  cases p with
  | nil =>
    obtain ⟨up, h, -⟩ := findTurns_dirOk c0 tl []
    rw [newTurnsOf_nil]
    exact ⟨up, by simpa [baseOf, fpCanon_nil] using h⟩
  | cons s0 xs =>
    -- the way points of the whole signal seen from its last sample; feeding and closing the turns of
    -- `s0 :: xs` below the new ones keeps what is seen
    obtain ⟨up, h, -⟩ := findTurns_dirOk s0 (xs ++ c0 :: tl) []
    have hl : (s0 :: (xs ++ c0 :: tl)).getLast (List.cons_ne_nil _ _) = (c0 :: tl).getLast (List.cons_ne_nil _ _) := by
      rw [List.getLast_cons (by simp), List.getLast_append_of_ne_nil _ (List.cons_ne_nil c0 tl)]
    rw [hl, ← List.cons_append, findTurns_restart, List.reverse_append, List.map_append, List.append_assoc] at h
    exact ⟨up, fpClose_dirOk _ _ _ (s0 :: xs).getLast! up (Common.fpFeed_ne_nil _ _ (List.cons_ne_nil _ _))
      (fpFeed_dirOk _ [(0, s0)] _ _ up (List.cons_ne_nil _ _) h)⟩

theorem tp_eq_fp_step (p : List Int) (ch : List Nat) (c : List Int) :
    tpProcess (fpCanon p ch) c = fpProcess (fpCanon p ch) c := by
  cases c with
  | nil => rfl
  | cons c0 tl =>
    obtain ⟨hb, hirr⟩ := baseOf_canon p ch c0
    obtain ⟨up, key⟩ := canon_key p ch c0 tl
    rw [tpProcess_cons, fpProcess_cons, tpCore_eq_fp_of_dirOk _ _ _ _ hb key hirr]

/-- The three-point detector model and the four-point detector model compute the same state on
every sequence of chunks. -/
theorem tpRun_eq_fpRun (cs : List (List Int)) : tpRun cs = fpRun cs :=
  (foldl_canon_skip tpProcess fpCanon (fun _ => rfl)
    (fun p c ch hc => (tp_eq_fp_step p ch c).trans (fpProcess_canon p c ch hc)) cs).trans
    (fpRun_canon cs).symm

end PylifeVerif.ThreePoint
