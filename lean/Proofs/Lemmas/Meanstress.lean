/-
C12 — any list of segments: a segment shift that fires moves the cycle along the iso-damage line of its segment, so a
function that is `k·(1 + M·x)` on every segment (`Compat`) gives a conserved quantity `amp · h(pos R)`
(`transform_potential`); with arrival at the target this determines the transformed cycle (`transform_*_of_compat`).

Also here: the abscissa `pos` / `px` of a ray and the admissible R values `ValidR`; the guards `StepGuard` (one fired step),
`FoldGuard` (one phase), `TransformGuard` (the three phases of a run); the two sorts of the model as insertion sorts by the key.
-/
import Model.Meanstress
import Proofs.Literals
import Mathlib.Tactic.Ring
import Mathlib.Tactic.Linarith
import Mathlib.Tactic.FieldSimp
import Mathlib.Data.Real.Basic
import Mathlib.Data.List.Sort

namespace PylifeVerif.Meanstress
open ExtR

/-- Abscissa of the ray `R` in the normalised Haigh diagram (mean stress / amplitude). -/
noncomputable def pos : ExtR ℝ → ℝ
  | fin r => (1 + r) / (1 - r)
  | _ => -1

/-- The goal as it is stored: `1.0 ↦ -inf`. -/
noncomputable def normGoal (g : ExtR ℝ) : ExtR ℝ := if g.isOne then ninf else g

-- global on purpose: the `simp` calls of the C12 files that import this one count on these three
attribute [simp] lit_one lit_zero lit_half

theorem pos_push (R g : ExtR ℝ) : pos (push R g) = pos R := by
  cases R <;> simp only [push] <;> (try split) <;> simp [pos]

/-- `pos (fin r)` as a function of the real number `r`: strictly increasing on `r < 1` (`px_lt`), with `px (-1) = 0`, `px 0 = 1`. -/
noncomputable def px (r : ℝ) : ℝ := (1 + r) / (1 - r)

theorem pos_fin (r : ℝ) : pos (fin r) = px r := rfl

theorem px0 : px 0 = 1 := by simp [px]

theorem px_lt {a b : ℝ} (ha : a < 1) (hb : b < 1) : px a < px b ↔ a < b := by
  unfold px
  rw [div_lt_div_iff₀ (by linarith) (by linarith)]
  constructor <;> intro h <;> nlinarith

theorem px_le {a b : ℝ} (ha : a < 1) (hb : b < 1) : px a ≤ px b ↔ a ≤ b := by
  unfold px
  rw [div_le_div_iff₀ (by linarith) (by linarith)]
  constructor <;> intro h <;> nlinarith

theorem px_lt_m1 {a : ℝ} (ha : 1 < a) : px a < -1 := by
  rw [px, div_lt_iff_of_neg (by linarith)]; linarith

theorem px_gt_m1 {a : ℝ} (ha : a < 1) : -1 < px a := by
  rw [px, lt_div_iff₀ (by linarith)]; linarith

theorem px_ne_m1 {r : ℝ} (h : r ≠ 1) : px r ≠ -1 :=
  (lt_or_gt_of_ne h).elim (fun h => (px_gt_m1 h).ne') fun h => (px_lt_m1 h).ne

theorem px_le_one {r : ℝ} (h : r ≤ 0) : px r ≤ 1 :=
  ((px_le (h.trans_lt zero_lt_one) zero_lt_one).2 h).trans_eq px0

theorem one_le_px {r : ℝ} (h0 : 0 ≤ r) (h1 : r < 1) : 1 ≤ px r :=
  px0.symm.trans_le ((px_le zero_lt_one h1).2 h0)

theorem px_nonneg {r : ℝ} (h0 : -1 ≤ r) (h1 : r < 1) : 0 ≤ px r :=
  div_nonneg (by linarith) (by linarith)

/-- A real number ≠ 1, or -∞: what `load_collective.R` gives for a cycle of positive amplitude, and the targets the code is
defined for (`1` and `+∞` are not). -/
def ValidR : ExtR ℝ → Prop | fin r => r ≠ 1 | ninf => True | _ => False

theorem pos_inj : ∀ {R R' : ExtR ℝ}, ValidR R → ValidR R' → pos R = pos R' → R = R'
  | fin r, fin r', hR, hR', h => by
    simp only [pos, div_eq_div_iff (sub_ne_zero.2 (Ne.symm hR)) (sub_ne_zero.2 (Ne.symm hR'))] at h
    congr 1; linarith
  | fin _, ninf, hR, _, h => absurd h (px_ne_m1 hR)
  | ninf, fin _, _, hR, h => absurd h.symm (px_ne_m1 hR)
  | ninf, ninf, _, _, _ => rfl
  | pinf, _, hR, _, _ | nan, _, hR, _, _ => hR.elim
  | _, pinf, _, hR, _ | _, nan, _, hR, _ => hR.elim

theorem isOne_valid {g : ExtR ℝ} (hg : ValidR g) : g.isOne = false := by
  rcases g with q | _ | _ | _ <;> simp [ValidR] at hg <;> simp [ExtR.isOne]
  intro h1; exact lt_of_le_of_ne h1 hg

theorem normGoal_valid {g : ExtR ℝ} (hg : ValidR g) : normGoal g = g := by
  rw [normGoal, isOne_valid hg]; rfl

theorem normGoal_fin {a : ℝ} (h : a ≠ 1) : normGoal (fin a) = fin a := normGoal_valid (g := fin a) h
theorem normGoal_ninf : normGoal (ninf : ExtR ℝ) = ninf := normGoal_valid (g := ninf) trivial
theorem normGoal_one : normGoal (fin (1:ℝ)) = ninf := by simp [normGoal, ExtR.isOne]

theorem isOne_push (R g : ExtR ℝ) : (push R g).isOne = R.isOne := by
  cases R <;> simp only [push] <;> (try split) <;> simp [ExtR.isOne]

/-- The test of `step` (both ends closed), applied there to the pushed R value: the step fires iff `memSeg (push c.R g) s`. -/
def memSeg (R : ExtR ℝ) (s : Seg ℝ) : Prop := (ExtR.le s.lo R && ExtR.le R s.hi) = true

theorem step_of_mem {s : Seg ℝ} {g : ExtR ℝ} {c : Cyc ℝ} (h : memSeg (push c.R g) s) :
    step s g c = ⟨transAmp s.M c (normGoal g), normGoal g⟩ := if_pos h

theorem step_of_not_mem {s : Seg ℝ} {g : ExtR ℝ} {c : Cyc ℝ} (h : ¬ memSeg (push c.R g) s) : step s g c = c :=
  if_neg h

/-- What a fired step needs so that the exact iso-damage amplitude exists and stays positive:
the cycle is not at `R = 1`/`+inf`/`nan`, the (stored) goal is a real number ≠ 1 or `-inf`, and the
iso-damage line of the segment has positive amplitude at both ends of the move. -/
def StepGuard (s : Seg ℝ) (g : ExtR ℝ) (c : Cyc ℝ) : Prop :=
  (match c.R with | fin r => r ≠ 1 | ninf => True | _ => False) ∧
  (match normGoal g with | fin q => q ≠ 1 | ninf => True | _ => False) ∧
  0 < 1 + s.M * pos c.R ∧ 0 < 1 + s.M * pos (normGoal g)

/-- The two `match`es of `StepGuard` are `ValidR`. -/
theorem validR_match {R : ExtR ℝ} :
    ValidR R ↔ (match R with | fin r => r ≠ 1 | ninf => True | _ => False) := by
  cases R <;> exact Iff.rfl

/-- `transformed_amplitude` of a cycle with admissible R: its mean is `amp · pos R`. -/
theorem transAmp_valid (M : ℝ) {c : Cyc ℝ} (hR : ValidR c.R) (g' : ExtR ℝ) :
    transAmp M c g' = match g' with
      | ninf => (c.amp + M * (c.amp * pos c.R)) / (1 - M)
      | fin q => (1 - q) * (c.amp + M * (c.amp * pos c.R)) / (1 - q + M * (1 + q))
      | _ => 0 := by
  obtain ⟨a, R⟩ := c
  rcases R with r | _ | _ | _
  · have hne : ¬ (r ≤ 1 ∧ 1 ≤ r) := fun h => hR (le_antisymm h.1 h.2)
    cases g' <;> simp only [transAmp, fillna0, lit_one, lit_zero, le_refl, if_true, hne, if_false, pos, mul_div_assoc]
  · exact hR.elim
  · cases g' <;> simp only [transAmp, fillna0, lit_one, lit_zero, le_refl, if_true, pos, mul_neg_one]
  · exact hR.elim

theorem transAmp_mul (M : ℝ) (c : Cyc ℝ) (g' : ExtR ℝ) (hR : ValidR c.R) (hg : ValidR g')
    (h2 : 0 < 1 + M * pos g') :
    transAmp M c g' * (1 + M * pos g') = c.amp * (1 + M * pos c.R) := by
  rw [transAmp_valid M hR]
  generalize pos c.R = x
  rcases g' with q | _ | _ | _
  · have hq : 1 - q ≠ 0 := fun h => hg (by linarith)
    have e : 1 + M * pos (fin q) = (1 - q + M * (1 + q)) / (1 - q) := by simp only [pos]; field_simp
    rw [e] at h2 ⊢
    have hd : 1 - q + M * (1 + q) ≠ 0 := fun h => by rw [h, zero_div] at h2; exact lt_irrefl _ h2
    field_simp
  · exact hg.elim
  · simp only [pos] at h2 ⊢
    have : 1 - M ≠ 0 := by linarith
    field_simp
    ring
  · exact hg.elim

/-- `h` is the iso-damage line `k·(1 + s.M·x)` at every ray of the segment `s` (`R = 1` apart, which has no abscissa): the
first clause of `SegPot` and of `CompatPos`. -/
def OnLine (h : ℝ → ℝ) (s : Seg ℝ) (k : ℝ) : Prop :=
  ∀ R, memSeg R s → R.isOne = false → h (pos R) = k * (1 + s.M * pos R)

/-- `h` restricted to the segment `s` is the iso-damage line `k·(1 + M·x)`, also at the goal `g`. -/
def SegPot (h : ℝ → ℝ) (s : Seg ℝ) (g : ExtR ℝ) : Prop :=
  ∃ k : ℝ, (∀ R, memSeg R s → R.isOne = false → h (pos R) = k * (1 + s.M * pos R)) ∧
    h (pos (normGoal g)) = k * (1 + s.M * pos (normGoal g))

/-- The damage potential `amplitude · h(mean/amplitude)` of a cycle. -/
noncomputable def potential (h : ℝ → ℝ) (c : Cyc ℝ) : ℝ := c.amp * h (pos c.R)

/-- The push over the flipping point keeps the ray: a cycle on which `s` fires lies on the line of `s`. -/
theorem line_of_fires {h : ℝ → ℝ} {s : Seg ℝ} {k : ℝ} (hk : OnLine h s k) {R g : ExtR ℝ}
    (hf : memSeg (push R g) s) (hR : ValidR R) : h (pos R) = k * (1 + s.M * pos R) := by
  have := hk (push R g) hf (by rw [isOne_push]; exact isOne_valid hR)
  rwa [pos_push] at this

theorem step_potential (h : ℝ → ℝ) (s : Seg ℝ) (g : ExtR ℝ) (c : Cyc ℝ) (hp : SegPot h s g)
    (hg : memSeg (push c.R g) s → StepGuard s g c) :
    potential h (step s g c) = potential h c := by
  by_cases hf : memSeg (push c.R g) s
  · obtain ⟨hR, hG, h1, h2⟩ := hg hf
    obtain ⟨k, hk, hkg⟩ := hp
    have e1 := line_of_fires hk hf (validR_match.2 hR)
    have := transAmp_mul s.M c (normGoal g) (validR_match.2 hR) (validR_match.2 hG) h2
    rw [step_of_mem hf]
    change transAmp s.M c (normGoal g) * h (pos (normGoal g)) = c.amp * h (pos c.R)
    rw [hkg, e1]
    calc transAmp s.M c (normGoal g) * (k * (1 + s.M * pos (normGoal g)))
        = k * (transAmp s.M c (normGoal g) * (1 + s.M * pos (normGoal g))) := by ring
      _ = k * (c.amp * (1 + s.M * pos c.R)) := by rw [this]
      _ = c.amp * (k * (1 + s.M * pos c.R)) := by ring
  · rw [step_of_not_mem hf]

/-- `StepGuard` for every step of the fold over `l` that fires, each at the cycle the fold has reached there (`.1` the head's
step, `.2` the rest after it). -/
def FoldGuard (goalOf : Seg ℝ → ExtR ℝ) : List (Seg ℝ) → Cyc ℝ → Prop
  | [], _ => True
  | s :: ss, c => (memSeg (push c.R (goalOf s)) s → StepGuard s (goalOf s) c) ∧
      FoldGuard goalOf ss (step s (goalOf s) c)

theorem fold_potential (h : ℝ → ℝ) (goalOf : Seg ℝ → ExtR ℝ) (l : List (Seg ℝ)) (c : Cyc ℝ)
    (hp : ∀ s ∈ l, SegPot h s (goalOf s)) (hg : FoldGuard goalOf l c) :
    potential h (l.foldl (fun c s => step s (goalOf s) c) c) = potential h c := by
  induction l generalizing c with
  | nil => rfl
  | cons s ss ih =>
    simp only [List.foldl_cons]
    rw [ih _ (fun t ht => hp t (List.mem_cons_of_mem _ ht)) hg.2]
    exact step_potential h s (goalOf s) c (hp s List.mem_cons_self) hg.1

/-! ### The two sorts of `segments_left_from_R_goal` / `segments_right_from_R_goal` are stable insertion sorts by the key -/

/-- `s` comes strictly before `t` by the key; with a `nan` key neither way. -/
abbrev KR (s t : Seg ℝ) : Prop := ExtR.lt (segKey s) (segKey t) = true

theorem foldr_insertAsc (l : List (Seg ℝ)) : l.foldr insertAsc [] = l.insertionSort fun a b => ¬ KR b a := by
  have h : ∀ x l, insertAsc x l = l.orderedInsert (fun a b => ¬ KR b a) x := by
    intro x l
    induction l with
    | nil => rfl
    | cons y ys ih => rw [List.orderedInsert_cons, ite_not, ← ih]; rfl
  exact congrArg (fun f => l.foldr f []) (funext₂ h)

theorem foldr_insertDesc (l : List (Seg ℝ)) : l.foldr insertDesc [] = l.insertionSort fun a b => ¬ KR a b := by
  have h : ∀ x l, insertDesc x l = l.orderedInsert (fun a b => ¬ KR a b) x := by
    intro x l
    induction l with
    | nil => rfl
    | cons y ys ih => rw [List.orderedInsert_cons, ite_not, ← ih]; rfl
  exact congrArg (fun f => l.foldr f []) (funext₂ h)

theorem mem_segsLeft {D : List (Seg ℝ)} {g : ExtR ℝ} {s : Seg ℝ} (h : s ∈ segsLeft D g) : s ∈ D := by
  rw [segsLeft, foldr_insertAsc, List.mem_insertionSort] at h
  exact (List.mem_filter.1 h).1

theorem mem_segsRight {D : List (Seg ℝ)} {g : ExtR ℝ} {s : Seg ℝ} (h : s ∈ segsRight D g) : s ∈ D := by
  rw [segsRight, foldr_insertDesc, List.mem_insertionSort] at h
  exact (List.mem_filter.1 h).1

/-! ### The three phases of a run, their guard, and conservation of the potential -/

/-- `h` is an iso-damage potential of the diagram `D` for the target `g`: one `SegPot` for each goal a segment is run with, the
kink `leftBoundary s` in the left phase, the kink `s.lo` in the right phase, and `g` in the last phase if `s` contains `g`. -/
def Compat (h : ℝ → ℝ) (D : List (Seg ℝ)) (g : ExtR ℝ) : Prop :=
  ∀ s ∈ D, SegPot h s (leftBoundary s) ∧ SegPot h s s.lo ∧ (s ∈ segsContaining D g → SegPot h s g)

/-- The cycle after the left phase, and after the left and the right phase, of `transform D g` (`transform_eq`). -/
noncomputable def afterLeft (D : List (Seg ℝ)) (g : ExtR ℝ) (c : Cyc ℝ) : Cyc ℝ :=
  (segsLeft D g).foldl (fun c s => step s (leftBoundary s) c) c
noncomputable def afterRight (D : List (Seg ℝ)) (g : ExtR ℝ) (c : Cyc ℝ) : Cyc ℝ :=
  (segsRight D g).foldl (fun c s => step s s.lo c) (afterLeft D g c)

/-- "The exact iso-damage amplitude stays positive" along the run the code makes: a finite conjunction of
comparisons of real numbers, one `StepGuard` per segment shift that fires. -/
def TransformGuard (D : List (Seg ℝ)) (g : ExtR ℝ) (c : Cyc ℝ) : Prop :=
  FoldGuard leftBoundary (segsLeft D g) c ∧
  FoldGuard (fun s => s.lo) (segsRight D g) (afterLeft D g c) ∧
  FoldGuard (fun _ => g) (segsContaining D g) (afterRight D g c)

theorem transform_eq (D : List (Seg ℝ)) (g : ExtR ℝ) (c : Cyc ℝ) :
    transform D g c = (segsContaining D g).foldl (fun c s => step s g c) (afterRight D g c) := rfl

theorem mem_segsContaining {D : List (Seg ℝ)} {g : ExtR ℝ} {s : Seg ℝ} :
    s ∈ segsContaining D g ↔ s ∈ D ∧ ((ExtR.lt s.lo g && ExtR.le g s.hi) = true ∨
      (∀ t ∈ D, (ExtR.lt t.lo g && ExtR.le g t.hi) = false) ∧ (ExtR.le s.lo g && ExtR.lt g s.hi) = true) := by
  unfold segsContaining
  simp only [List.isEmpty_iff, List.filter_eq_nil_iff, Bool.not_eq_true]
  split <;> rename_i he <;> rw [List.mem_filter]
  · exact ⟨fun h => ⟨h.1, .inr ⟨he, h.2⟩⟩, fun h => ⟨h.1, h.2.elim (fun h' => by rw [he s h.1] at h'; cases h') (·.2)⟩⟩
  · exact ⟨fun h => ⟨h.1, .inl h.2⟩, fun h => ⟨h.1, h.2.elim id fun h' => absurd h'.1 he⟩⟩

theorem ExtR.lt_imp_le {a b : ExtR ℝ} (h : ExtR.lt a b = true) : ExtR.le a b = true := by
  cases a <;> cases b <;> simp_all [ExtR.lt, ExtR.le]
  exact le_of_lt h

theorem memSeg_of_containing {D : List (Seg ℝ)} {g : ExtR ℝ} {s : Seg ℝ} (h : s ∈ segsContaining D g) : memSeg g s := by
  unfold memSeg
  rcases (mem_segsContaining.1 h).2 with h | ⟨_, h⟩ <;> rw [Bool.and_eq_true] at h ⊢
  · exact ⟨ExtR.lt_imp_le h.1, h.2⟩
  · exact ⟨h.1, ExtR.lt_imp_le h.2⟩

/-- Every run of `HaighDiagram.transform` conserves the damage potential. -/
theorem transform_potential (h : ℝ → ℝ) (D : List (Seg ℝ)) (g : ExtR ℝ) (c : Cyc ℝ)
    (hc : Compat h D g) (hg : TransformGuard D g c) :
    potential h (transform D g c) = potential h c := by
  rw [transform_eq, fold_potential h (fun _ => g) _ _ (fun s hs => (hc s (mem_segsContaining.1 hs).1).2.2 hs) hg.2.2]
  unfold afterRight
  rw [fold_potential h (fun s => s.lo) _ _ (fun s hs => (hc s (mem_segsRight hs)).2.1) hg.2.1]
  exact fold_potential h leftBoundary _ _ (fun s hs => (hc s (mem_segsLeft hs)).1) hg.1

/-! ### What conservation of the potential gives once the run arrives at the target

`h` need not vanish nowhere: only its value at the target is divided by. -/

theorem Cyc.eq_of {c d : Cyc ℝ} (ha : c.amp = d.amp) (hR : c.R = d.R) : c = d := by
  cases c; cases d; simp only at ha hR; rw [ha, hR]

theorem transform_amp_of_compat {h : ℝ → ℝ} {D : List (Seg ℝ)} {g : ExtR ℝ} {c : Cyc ℝ}
    (hc : Compat h D g) (hG : TransformGuard D g c) (hr : (transform D g c).R = g) (hp : h (pos g) ≠ 0) :
    (transform D g c).amp = c.amp * h (pos c.R) / h (pos g) := by
  have p := transform_potential h D g c hc hG
  unfold potential at p
  rw [hr] at p
  exact eq_div_of_mul_eq hp p

theorem transform_fixes_of_compat {h : ℝ → ℝ} {D : List (Seg ℝ)} {c : Cyc ℝ}
    (hc : Compat h D c.R) (hG : TransformGuard D c.R c) (hr : (transform D c.R c).R = c.R) (hp : h (pos c.R) ≠ 0) :
    transform D c.R c = c := by
  have p := transform_potential h D c.R c hc hG
  unfold potential at p
  rw [hr] at p
  exact Cyc.eq_of (mul_right_cancel₀ hp p) hr

/-- To `g₁` and then to `g₂` equals to `g₂` directly: both results lie on the ray `g₂` with the potential of `c`. -/
theorem transform_path_of_compat {h : ℝ → ℝ} {D : List (Seg ℝ)} {g₁ g₂ : ExtR ℝ} {c : Cyc ℝ}
    (hc1 : Compat h D g₁) (hc2 : Compat h D g₂) (hp : h (pos g₂) ≠ 0)
    (hr12 : (transform D g₂ (transform D g₁ c)).R = g₂) (hr2 : (transform D g₂ c).R = g₂)
    (hGa : TransformGuard D g₁ c) (hGb : TransformGuard D g₂ (transform D g₁ c)) (hGc : TransformGuard D g₂ c) :
    transform D g₂ (transform D g₁ c) = transform D g₂ c := by
  have p1 := transform_potential h D g₁ c hc1 hGa
  have p12 := transform_potential h D g₂ (transform D g₁ c) hc2 hGb
  have p2 := transform_potential h D g₂ c hc2 hGc
  unfold potential at p1 p12 p2
  rw [hr12, p1, ← p2, hr2] at p12
  exact Cyc.eq_of (mul_right_cancel₀ hp p12) (hr12.trans hr2.symm)

end PylifeVerif.Meanstress
