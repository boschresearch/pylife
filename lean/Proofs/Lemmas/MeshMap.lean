/-
`Meshmapper.process` = `griddata(method='linear')` on a triangulation (`mapMesh3` / `mapMesh2` of `Model/Mesh.lean`):
barycentric weights at the vertices, linear fields, point location.
-/
import Proofs.Lemmas.Mesh
import Mathlib.Tactic.FieldSimp
import Mathlib.Tactic.Linarith
import Mathlib.Tactic.LinearCombination

namespace PylifeVerif.Mesh

/-- The matrix `T` of `baryWeights3`: columns `p₁−p₀, p₂−p₀, p₃−p₀`. -/
def edgeMatrix (p0 p1 p2 p3 : V3 ℝ) : M3 ℝ :=
  ⟨(p1.sub p0).x, (p2.sub p0).x, (p3.sub p0).x, (p1.sub p0).y, (p2.sub p0).y, (p3.sub p0).y,
   (p1.sub p0).z, (p2.sub p0).z, (p3.sub p0).z⟩

/-- Six times the signed volume of the tetrahedron: by `det3_cols` the triple product of the edges at corner 1, which is
also what `tetJ_det` (`MeshG3D`) makes of `det3 (tetJ t)`, the non-degeneracy hypothesis of the gradient theorems.  No
theorem states `t.det = det3 (tetJ t)`: the mapping theorems and the gradient theorems are never applied together. -/
def Tet.det (t : Tet ℝ) : ℝ := det3 (edgeMatrix t.c1.p t.c2.p t.c3.p t.c4.p)

theorem baryWeights3_eq (p0 p1 p2 p3 p : V3 ℝ) :
    baryWeights3 p0 p1 p2 p3 p =
      (1 - ((inv3 (edgeMatrix p0 p1 p2 p3)).mulVec (p.sub p0)).x - ((inv3 (edgeMatrix p0 p1 p2 p3)).mulVec (p.sub p0)).y
          - ((inv3 (edgeMatrix p0 p1 p2 p3)).mulVec (p.sub p0)).z,
       (inv3 (edgeMatrix p0 p1 p2 p3)).mulVec (p.sub p0)) := by
  simp [baryWeights3, edgeMatrix]

theorem baryWeights3_of_mulVec (p0 p1 p2 p3 p l : V3 ℝ) (hdet : det3 (edgeMatrix p0 p1 p2 p3) ≠ 0)
    (hp : p.sub p0 = (edgeMatrix p0 p1 p2 p3).mulVec l) :
    baryWeights3 p0 p1 p2 p3 p = (1 - l.x - l.y - l.z, l) := by
  rw [baryWeights3_eq, hp, inv3_mulVec_mulVec _ hdet]

theorem baryWeights3_vertices (p0 p1 p2 p3 : V3 ℝ) (hdet : det3 (edgeMatrix p0 p1 p2 p3) ≠ 0) :
    baryWeights3 p0 p1 p2 p3 p0 = (1, ⟨0, 0, 0⟩) ∧ baryWeights3 p0 p1 p2 p3 p1 = (0, ⟨1, 0, 0⟩) ∧
    baryWeights3 p0 p1 p2 p3 p2 = (0, ⟨0, 1, 0⟩) ∧ baryWeights3 p0 p1 p2 p3 p3 = (0, ⟨0, 0, 1⟩) := by
  refine ⟨?_, ?_, ?_, ?_⟩
  · rw [baryWeights3_of_mulVec p0 p1 p2 p3 p0 ⟨0, 0, 0⟩ hdet (by simp [edgeMatrix, M3.mulVec, V3.sub])]
    simp
  · rw [baryWeights3_of_mulVec p0 p1 p2 p3 p1 ⟨1, 0, 0⟩ hdet (by simp [edgeMatrix, M3.mulVec, V3.sub])]
    simp
  · rw [baryWeights3_of_mulVec p0 p1 p2 p3 p2 ⟨0, 1, 0⟩ hdet (by simp [edgeMatrix, M3.mulVec, V3.sub])]
    simp
  · rw [baryWeights3_of_mulVec p0 p1 p2 p3 p3 ⟨0, 0, 1⟩ hdet (by simp [edgeMatrix, M3.mulVec, V3.sub])]
    simp

/-- Interpolation inside a non-degenerate tetrahedron reproduces `f = g·x + c` (at every point, inside or not). -/
theorem baryInterp3_linear (p0 p1 p2 p3 p g : V3 ℝ) (c : ℝ) (hdet : det3 (edgeMatrix p0 p1 p2 p3) ≠ 0) :
    baryInterp3 p0 p1 p2 p3 (g.dot p0 + c) (g.dot p1 + c) (g.dot p2 + c) (g.dot p3 + c) p = g.dot p + c := by
  set T : M3 ℝ := edgeMatrix p0 p1 p2 p3 with hT
  have key := mulVec_inv3_mulVec T hdet (p.sub p0)
  simp only [baryInterp3, baryWeights3_eq, ← hT]
  generalize (inv3 T).mulVec (p.sub p0) = l at key ⊢
  have kx := congrArg V3.x key
  have ky := congrArg V3.y key
  have kz := congrArg V3.z key
  simp only [hT, edgeMatrix, M3.mulVec, V3.sub] at kx ky kz
  simp only [V3.dot]
  linear_combination g.x * kx + g.y * ky + g.z * kz

theorem baryInterp3_vertices (p0 p1 p2 p3 : V3 ℝ) (f0 f1 f2 f3 : ℝ) (hdet : det3 (edgeMatrix p0 p1 p2 p3) ≠ 0) :
    baryInterp3 p0 p1 p2 p3 f0 f1 f2 f3 p0 = f0 ∧ baryInterp3 p0 p1 p2 p3 f0 f1 f2 f3 p1 = f1 ∧
    baryInterp3 p0 p1 p2 p3 f0 f1 f2 f3 p2 = f2 ∧ baryInterp3 p0 p1 p2 p3 f0 f1 f2 f3 p3 = f3 := by
  obtain ⟨h0, h1, h2, h3⟩ := baryWeights3_vertices p0 p1 p2 p3 hdet
  refine ⟨?_, ?_, ?_, ?_⟩ <;> simp only [baryInterp3]
  · rw [h0]; simp
  · rw [h1]; simp
  · rw [h2]; simp
  · rw [h3]; simp

/-- Point location followed by interpolation: if some simplex accepts the point and every accepting simplex
interpolates to `v`, the result is `v` whichever simplex is found first. -/
theorem find?_map_eq_some {β γ : Type} (l : List β) (p : β → Bool) (f : β → γ) (v : γ)
    (hex : ∃ t ∈ l, p t = true) (hall : ∀ t ∈ l, p t = true → f t = v) : (l.find? p).map f = some v := by
  cases h : l.find? p with
  | none =>
    obtain ⟨t, ht, hp⟩ := hex
    exact absurd hp (by simpa using List.find?_eq_none.1 h t ht)
  | some t => exact congrArg some (hall t (List.mem_of_find?_eq_some h) (List.find?_some h))

theorem tetInterp_linear (t : Tet ℝ) (g p : V3 ℝ) (c : ℝ) (hdet : t.det ≠ 0)
    (hlin : ∀ q ∈ t.corners, q.f = g.dot q.p + c) : tetInterp t p = g.dot p + c := by
  simp only [Tet.corners, List.mem_cons, List.not_mem_nil, or_false, forall_eq_or_imp, forall_eq] at hlin
  obtain ⟨h1, h2, h3, h4⟩ := hlin
  simp only [tetInterp, h1, h2, h3, h4]
  exact baryInterp3_linear _ _ _ _ p g c hdet

theorem inTet_mono (tol tol' : ℝ) (h : tol ≤ tol') (t : Tet ℝ) (p : V3 ℝ) (hin : inTet tol t p = true) :
    inTet tol' t p = true := by
  simp only [inTet, Bool.and_eq_true, decide_eq_true_eq] at hin ⊢
  obtain ⟨⟨⟨a, b⟩, c⟩, d⟩ := hin
  exact ⟨⟨⟨by linarith, by linarith⟩, by linarith⟩, by linarith⟩

theorem inTet_vertex (tol : ℝ) (htol : 0 ≤ tol) (t : Tet ℝ) (hdet : t.det ≠ 0) (q : Corner ℝ) (hq : q ∈ t.corners) :
    inTet tol t q.p = true ∧ tetInterp t q.p = q.f := by
  obtain ⟨w0, w1, w2, w3⟩ := baryWeights3_vertices t.c1.p t.c2.p t.c3.p t.c4.p hdet
  obtain ⟨v0, v1, v2, v3⟩ := baryInterp3_vertices t.c1.p t.c2.p t.c3.p t.c4.p t.c1.f t.c2.f t.c3.f t.c4.f hdet
  have h0 : -tol ≤ 0 := by linarith
  have h1 : -tol ≤ 1 := by linarith
  simp only [Tet.corners, List.mem_cons, List.not_mem_nil, or_false] at hq
  rcases hq with rfl | rfl | rfl | rfl <;>
    simp only [inTet, tetInterp, w0, w1, w2, w3, v0, v1, v2, v3, h0, h1, decide_true, Bool.and_self, and_self]

def Tri.det (t : Tri ℝ) : ℝ := det2 (t.x1 - t.x0) (t.x2 - t.x0) (t.y1 - t.y0) (t.y2 - t.y0)

theorem baryWeights2_vertices (x0 y0 x1 y1 x2 y2 : ℝ) (hdet : det2 (x1 - x0) (x2 - x0) (y1 - y0) (y2 - y0) ≠ 0) :
    baryWeights2 x0 y0 x1 y1 x2 y2 x0 y0 = (1, 0, 0) ∧ baryWeights2 x0 y0 x1 y1 x2 y2 x1 y1 = (0, 1, 0) ∧
    baryWeights2 x0 y0 x1 y1 x2 y2 x2 y2 = (0, 0, 1) := by
  simp only [det2] at hdet
  -- each numerator is literally `0` or the determinant
  simp only [baryWeights2, det2, lit_one, sub_self, zero_mul, mul_zero, sub_zero, zero_div, div_self hdet, and_self]

theorem baryInterp2_linear (x0 y0 x1 y1 x2 y2 px py gx gy c : ℝ)
    (hdet : det2 (x1 - x0) (x2 - x0) (y1 - y0) (y2 - y0) ≠ 0) :
    baryInterp2 x0 y0 x1 y1 x2 y2 (gx * x0 + gy * y0 + c) (gx * x1 + gy * y1 + c) (gx * x2 + gy * y2 + c) px py
      = gx * px + gy * py + c := by
  simp only [baryInterp2, baryWeights2, lit_one]
  generalize hd : det2 (x1 - x0) (x2 - x0) (y1 - y0) (y2 - y0) = d at hdet ⊢
  field_simp
  rw [← hd]; simp only [det2]; ring

/-- The three corners of a triangle as `(x, y, f)`. -/
def Tri.corners (t : Tri ℝ) : List (ℝ × ℝ × ℝ) := [(t.x0, t.y0, t.f0), (t.x1, t.y1, t.f1), (t.x2, t.y2, t.f2)]

theorem inTri_vertex (tol : ℝ) (htol : 0 ≤ tol) (t : Tri ℝ) (hdet : t.det ≠ 0) (q : ℝ × ℝ × ℝ) (hq : q ∈ t.corners) :
    inTri tol t q.1 q.2.1 = true ∧ triInterp t q.1 q.2.1 = q.2.2 := by
  obtain ⟨w0, w1, w2⟩ := baryWeights2_vertices t.x0 t.y0 t.x1 t.y1 t.x2 t.y2 hdet
  have h0 : -tol ≤ 0 := by linarith
  have h1 : -tol ≤ 1 := by linarith
  simp only [Tri.corners, List.mem_cons, List.not_mem_nil, or_false] at hq
  rcases hq with rfl | rfl | rfl <;>
    simp only [inTri, triInterp, baryInterp2, w0, w1, w2, h0, h1, decide_true, Bool.and_self, one_mul, zero_mul,
      add_zero, zero_add, and_self]

theorem triInterp_linear (t : Tri ℝ) (gx gy c px py : ℝ) (hdet : t.det ≠ 0)
    (hlin : ∀ q ∈ t.corners, q.2.2 = gx * q.1 + gy * q.2.1 + c) : triInterp t px py = gx * px + gy * py + c := by
  simp only [Tri.corners, List.mem_cons, List.not_mem_nil, or_false, forall_eq_or_imp, forall_eq] at hlin
  obtain ⟨h0, h1, h2⟩ := hlin
  simp only [triInterp, h0, h1, h2]
  exact baryInterp2_linear _ _ _ _ _ _ px py gx gy c hdet

theorem inTri_mono (tol tol' : ℝ) (h : tol ≤ tol') (t : Tri ℝ) (px py : ℝ) (hin : inTri tol t px py = true) :
    inTri tol' t px py = true := by
  simp only [inTri, Bool.and_eq_true, decide_eq_true_eq] at hin ⊢
  obtain ⟨⟨a, b⟩, c⟩ := hin
  exact ⟨⟨by linarith, by linarith⟩, by linarith⟩

end PylifeVerif.Mesh
