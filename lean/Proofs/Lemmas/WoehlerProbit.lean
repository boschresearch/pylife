/-
C18 (Wöhler analysis), the Probit analyzer: load scaling, cycle scaling, permutation invariance, for an arbitrary
quantile function `Q`.

`probit` has two branches (`probit_eq`): with fewer than two load levels in the infinite zone it is `elementary`;
otherwise it is the `WoehlerElementary.kneeCurve` whose endurance limit and scatter come from the regression line
`probitLine` through the points `probitPoints`.
Load scaling shifts the abscissae of `probitPoints` by `log10 c`, cycle scaling and permutations leave them alone.
After the three theorems: the data sets that show their guards to be needed (`hff`: `probit_cycle_scale_counterexample`;
`hps`: `sampleDeg`, `probit_load_scale_degenerate`, `probit_load_scale_counterexample`) and one, `sample`, on which all
hypotheses hold in the regular branch.
-/
import Proofs.Lemmas.WoehlerElementary

namespace PylifeVerif.WoehlerProbit

open PylifeVerif.WoehlerAnalysis PylifeVerif.WoehlerBasics

theorem dedup_map_mul {c : ℝ} (hc : 0 < c) (l : List ℝ) : dedup (l.map (c * ·)) = (dedup l).map (c * ·) := by
  fun_induction dedup l with
  | case1 => rfl
  | case2 a => rfl
  | case3 a b rest h ih =>
    simp only [List.map_cons] at ih ⊢
    rw [dedup, eqα_scale hc, if_pos h, ih]
  | case4 a b rest h ih =>
    simp only [List.map_cons] at ih ⊢
    rw [dedup, eqα_scale hc, if_neg h, ih]

theorem mem_of_mem_dedup {l : List ℝ} {x : ℝ} (h : x ∈ dedup l) : x ∈ l := by
  fun_induction dedup l with
  | case1 => exact h
  | case2 a => exact h
  | case3 a b rest _ ih => exact List.mem_cons_of_mem _ (ih h)
  | case4 a b rest _ ih =>
    rcases List.mem_cons.mp h with h1 | h1
    · rw [h1]; exact List.mem_cons_self
    · exact List.mem_cons_of_mem _ (ih h1)

theorem levels_perm {d₁ d₂ : List (Test ℝ)} (h : d₁.Perm d₂) : levels d₁ = levels d₂ := by
  simp only [levels, sort_perm_eq (h.map _)]

section
variable {c : ℝ} {g : Test ℝ → Test ℝ} (hg : WoehlerZones.LoadScaling c g)
include hg

theorem levels_map (hc : 0 < c) (d : List (Test ℝ)) : levels (d.map g) = (levels d).map (c * ·) := by
  simp only [levels, WoehlerZones.loads_map hg, sort_map_mul hc, dedup_map_mul hc]

theorem nLevels_map (hc : 0 < c) (d : List (Test ℝ)) :
    (levels (infiniteZone (d.map g))).length = (levels (infiniteZone d)).length := by
  rw [WoehlerZones.infiniteZone_map hg hc, levels_map hg hc, List.length_map]

theorem group_map (hc : 0 < c) (d : List (Test ℝ)) (L : ℝ) :
    (d.map g).filter (fun t => eqα t.load (c * L)) = (d.filter fun t => eqα t.load L).map g :=
  WoehlerZones.filter_map_of _ _ d fun t _ => by rw [hg.load, eqα_scale hc]

end

theorem exists_of_mem_levels {d : List (Test ℝ)} {L : ℝ} (h : L ∈ levels d) : ∃ t ∈ d, t.load = L := by
  have h1 : L ∈ d.map (·.load) := mem_sort.mp (mem_of_mem_dedup h)
  obtain ⟨t, ht, rfl⟩ := List.mem_map.mp h1
  exact ⟨t, ht, rfl⟩

theorem probitProb_eq_of_lengths {g₁ g₂ : List (Test ℝ)} (h : g₁.length = g₂.length)
    (hf : (fractures g₁).length = (fractures g₂).length) (hr : (runouts g₁).length = (runouts g₂).length) :
    probitProb g₁ = probitProb g₂ := by
  have e : ∀ l : List (Test ℝ), l.isEmpty = decide (l.length = 0) := by
    intro l; cases l <;> simp
  simp only [probitProb, lenα_eq, e, h, hf, hr]

theorem probitProb_perm {g₁ g₂ : List (Test ℝ)} (h : g₁.Perm g₂) : probitProb g₁ = probitProb g₂ :=
  probitProb_eq_of_lengths h.length_eq (h.filter _).length_eq (h.filter _).length_eq

theorem probitProb_map {c : ℝ} {g : Test ℝ → Test ℝ} (hg : WoehlerZones.LoadScaling c g) (l : List (Test ℝ)) :
    probitProb (l.map g) = probitProb l :=
  probitProb_eq_of_lengths (List.length_map _)
    (by rw [WoehlerZones.fractures_map hg, List.length_map]) (by rw [WoehlerZones.runouts_map hg, List.length_map])

theorem probitPoints_perm (Q : ℝ → ℝ) {i₁ i₂ : List (Test ℝ)} (h : i₁.Perm i₂) :
    probitPoints Q i₁ = probitPoints Q i₂ := by
  simp only [probitPoints, levels_perm h]
  apply List.map_congr_left
  intro L _
  have hg : (i₁.filter fun t => eqα t.load L).Perm (i₂.filter fun t => eqα t.load L) := h.filter _
  rw [mean_perm (hg.map _), probitProb_perm hg]

theorem mean_group {inf : List (Test ℝ)} {L : ℝ} (hL : L ∈ levels inf) :
    mean ((inf.filter fun t => eqα t.load L).map (·.load)) = L := by
  obtain ⟨t, ht, htL⟩ := exists_of_mem_levels hL
  apply mean_of_const
  · exact List.ne_nil_of_mem (List.mem_map_of_mem (List.mem_filter.2 ⟨ht, (eqα_iff _ _).2 htL⟩))
  · intro x hx
    obtain ⟨u, hu, rfl⟩ := List.mem_map.mp hx
    exact (eqα_iff _ _).1 (List.mem_filter.1 hu).2

/-- the abscissa, `log10` of the mean load of the level's group, is `log10` of the level -/
theorem probitPoints_eq (Q : ℝ → ℝ) (inf : List (Test ℝ)) :
    probitPoints Q inf = (levels inf).map fun L =>
      (Transc.log10 L, Q (probitProb (inf.filter fun t => eqα t.load L))) := by
  simp only [probitPoints]
  apply List.map_congr_left
  intro L hL
  rw [mean_group hL]

theorem probitPoints_map (Q : ℝ → ℝ) {c : ℝ} {g : Test ℝ → Test ℝ} (hg : WoehlerZones.LoadScaling c g) (hc : 0 < c)
    (inf : List (Test ℝ)) :
    probitPoints Q (inf.map g) = (levels inf).map fun L =>
      (Transc.log10 (c * L), Q (probitProb (inf.filter fun t => eqα t.load L))) := by
  rw [probitPoints_eq, levels_map hg hc, List.map_map]
  exact List.map_congr_left fun L _ => by simp only [Function.comp, group_map hg hc, probitProb_map hg]

theorem probitPoints_scaleLoad (Q : ℝ → ℝ) {c : ℝ} (hc : 0 < c) (inf : List (Test ℝ))
    (hpos : ∀ t ∈ inf, 0 < t.load) :
    probitPoints Q (scaleLoad c inf) = (probitPoints Q inf).map fun p => (p.1 + Transc.log10 c, p.2) := by
  rw [scaleLoad, probitPoints_map Q (.ofLoad c) hc, probitPoints_eq, List.map_map]
  apply List.map_congr_left
  intro L hL
  obtain ⟨t, ht, htL⟩ := exists_of_mem_levels hL
  simp only [Function.comp, log10_mul hc.ne' (htL ▸ hpos t ht).ne']

theorem probitPoints_scaleCycles (Q : ℝ → ℝ) (c : ℝ) (inf : List (Test ℝ)) :
    probitPoints Q (scaleCycles c inf) = probitPoints Q inf := by
  rw [scaleCycles, probitPoints_map Q (.ofCycles c) one_pos, probitPoints_eq]
  simp only [one_mul]

/-- `(slope, intercept)` of the probit regression on reduced data -/
noncomputable def probitLine (Q : ℝ → ℝ) (d : List (Test ℝ)) : ℝ × ℝ := ols (probitPoints Q (infiniteZone d))

theorem probitLine_scaleLoad (Q : ℝ → ℝ) {c : ℝ} (hc : 0 < c) (d : List (Test ℝ)) (hpos : ∀ t ∈ d, 0 < t.load) :
    probitLine Q (scaleLoad c d) =
      ((probitLine Q d).1, (probitLine Q d).2 - (probitLine Q d).1 * Transc.log10 c) := by
  unfold probitLine
  rw [scaleLoad, WoehlerZones.infiniteZone_map (.ofLoad c) hc, ← scaleLoad,
    probitPoints_scaleLoad Q hc _ fun t ht => hpos t (WoehlerZones.mem_infiniteZone.1 ht).2.1, ols_shift_x]

theorem probitLine_scaleCycles (Q : ℝ → ℝ) (c : ℝ) (d : List (Test ℝ)) :
    probitLine Q (scaleCycles c d) = probitLine Q d := by
  unfold probitLine
  rw [scaleCycles, WoehlerZones.infiniteZone_map (.ofCycles c) one_pos, ← scaleCycles, probitPoints_scaleCycles]

theorem probitLine_perm (Q : ℝ → ℝ) {d₁ d₂ : List (Test ℝ)} (h : d₁.Perm d₂) : probitLine Q d₁ = probitLine Q d₂ := by
  unfold probitLine
  rw [probitPoints_perm Q (WoehlerZones.infiniteZone_perm h)]

theorem nLevels_scaleLoad {c : ℝ} (hc : 0 < c) (d : List (Test ℝ)) :
    (levels (infiniteZone (scaleLoad c d))).length = (levels (infiniteZone d)).length :=
  nLevels_map (.ofLoad c) hc d

theorem nLevels_scaleCycles (c : ℝ) (d : List (Test ℝ)) :
    (levels (infiniteZone (scaleCycles c d))).length = (levels (infiniteZone d)).length :=
  nLevels_map (.ofCycles c) one_pos d

/-- the endurance limit `10 ^ (-intercept / slope)` of a probit line whose intercept moves by `-slope · log10 c` -/
theorem ten_pow_shift {ps : ℝ} (hps : ps ≠ 0) (pi : ℝ) {c : ℝ} (hc : 0 < c) :
    (10 : ℝ) ^ (-(pi - ps * Transc.log10 c) / ps) = c * (10 : ℝ) ^ (-pi / ps) := by
  rw [neg_sub, sub_div, mul_div_cancel_left₀ _ hps, sub_eq_add_neg, ← neg_div, Real.rpow_add (by norm_num),
    transc_log10, ten_rpow_log10 hc]

theorem probit_eq (Q : ℝ → ℝ) (d0 : List (Test ℝ)) :
    probit Q d0 =
      if 2 ≤ (levels (infiniteZone (irrelevantRunoutsDropped d0))).length then
        WoehlerElementary.kneeCurve Q (irrelevantRunoutsDropped d0)
          ((10 : ℝ) ^ (-(probitLine Q (irrelevantRunoutsDropped d0)).2 / (probitLine Q (irrelevantRunoutsDropped d0)).1))
          (scatterOfSlope (probitLine Q (irrelevantRunoutsDropped d0)).1)
      else elementary Q d0 := by
  unfold probit elementary probitLine WoehlerElementary.kneeCurve
  dsimp only
  split
  · next a b r heq =>
    rw [heq, if_pos (show 2 ≤ (a :: b :: r).length from Nat.le_add_left 2 r.length)]
    simp only [transc_pow, lit_ten]
  · next hno =>
    rw [if_neg]
    intro h
    match hl : levels (infiniteZone (irrelevantRunoutsDropped d0)), h with
    | a :: b :: r, _ => exact hno a b r hl
    | [_], h => simp at h
    | [], h => simp at h

theorem probit_k1 (Q : ℝ → ℝ) (d : List (Test ℝ)) : (probit Q d).k1 = (elementary Q d).k1 := by
  rw [probit_eq]
  split_ifs <;> rfl

/-- C18 load scaling for Probit.  `hps`: in the regular branch (≥ 2 load levels in the infinite zone) the slope of the
probit regression is not zero.  It is needed for the `SD` and `ND` clauses: with slope `0` the model computes
`SD = 10 ^ (-pi / 0) = 10 ^ 0 = 1` for the original and the scaled data alike (the code produces `inf`/`nan` there), see
`probit_load_scale_degenerate`. -/
theorem probit_load_scale (Q : ℝ → ℝ) {c : ℝ} (hc : 0 < c) (d : List (Test ℝ)) (hpos : ∀ t ∈ d, 0 < t.load)
    (hps : 2 ≤ (levels (infiniteZone (irrelevantRunoutsDropped d))).length →
      (ols (probitPoints Q (infiniteZone (irrelevantRunoutsDropped d)))).1 ≠ 0) :
    (probit Q (scaleLoad c d)).k1 = (probit Q d).k1 ∧ (probit Q (scaleLoad c d)).SD = c * (probit Q d).SD ∧
    (probit Q (scaleLoad c d)).TN = (probit Q d).TN ∧ (probit Q (scaleLoad c d)).TS = (probit Q d).TS ∧
    ((probit Q d).SD ≠ 0 → (probit Q (scaleLoad c d)).ND = (probit Q d).ND) := by
  have hposd : ∀ t ∈ irrelevantRunoutsDropped d, 0 < t.load :=
    WoehlerZones.forall_mem_irrelevantRunoutsDropped hpos
  rw [probit_eq Q (scaleLoad c d), probit_eq Q d, WoehlerZones.irrelevantRunoutsDropped_scaleLoad hc,
    nLevels_scaleLoad hc]
  split_ifs with h2
  · have hps' : (probitLine Q (irrelevantRunoutsDropped d)).1 ≠ 0 := hps h2
    rw [probitLine_scaleLoad Q hc _ hposd]
    dsimp only
    rw [ten_pow_shift hps' _ hc, WoehlerElementary.kneeCurve_scaleLoad Q hc _ hposd]
    exact ⟨rfl, rfl, rfl, rfl, fun h => WoehlerElementary.transitionCycles_scaleLoad hc.ne' h _ _⟩
  · exact WoehlerElementary.elementary_load_scale Q hc d hpos

/-- C18 cycle scaling for Probit.  `hff`: the finite zone of the reduced data contains a fracture.  It is needed for
the `ND` clause, in both branches: without a fracture the finite-zone regression is the regression of the empty
list, `(0, 0)` in the model for the original and the scaled data alike, and `ND = 10 ^ 0 = 1` is not scaled (the code
fails there); `probit_cycle_scale_counterexample` shows it on `d = []`, which takes the fall-back branch.  `hload` is for
the pearl chain, in both branches as well (`kneeCurve_scaleCycles`, `elementary_cycle_scale`). -/
theorem probit_cycle_scale (Q : ℝ → ℝ) {c : ℝ} (hc : 0 < c) (d : List (Test ℝ)) (hpos : ∀ t ∈ d, 0 < t.cycles)
    (hload : ∀ t ∈ d, 0 < t.load)
    (hff : (finiteZone (irrelevantRunoutsDropped d)).filter (fun t => t.fracture) ≠ []) :
    (probit Q (scaleCycles c d)).k1 = (probit Q d).k1 ∧ (probit Q (scaleCycles c d)).ND = c * (probit Q d).ND ∧
    (probit Q (scaleCycles c d)).SD = (probit Q d).SD ∧ (probit Q (scaleCycles c d)).TN = (probit Q d).TN ∧
    (probit Q (scaleCycles c d)).TS = (probit Q d).TS := by
  rw [probit_eq Q (scaleCycles c d), probit_eq Q d, WoehlerZones.irrelevantRunoutsDropped_scaleCycles,
    nLevels_scaleCycles, probitLine_scaleCycles]
  split_ifs
  · rw [WoehlerElementary.kneeCurve_scaleCycles Q hc _ (WoehlerZones.forall_mem_irrelevantRunoutsDropped hpos)
      (WoehlerZones.forall_mem_irrelevantRunoutsDropped hload) hff]
    exact ⟨rfl, rfl, rfl, rfl, rfl⟩
  · exact WoehlerElementary.elementary_cycle_scale Q hc d hpos hload hff

theorem probit_perm_invariant (Q : ℝ → ℝ) {d₁ d₂ : List (Test ℝ)} (h : d₁.Perm d₂) : probit Q d₁ = probit Q d₂ := by
  have hird := WoehlerZones.irrelevantRunoutsDropped_perm h
  rw [probit_eq, probit_eq, levels_perm (WoehlerZones.infiniteZone_perm hird),
    WoehlerElementary.elementary_perm_invariant Q h, WoehlerElementary.kneeCurve_perm Q hird, probitLine_perm Q hird]

/-- `probit_cycle_scale` without `hff` is false: counterexample `d = []`, `c = 2` (`ND = 1` on both sides) -/
theorem probit_cycle_scale_counterexample (Q : ℝ → ℝ) :
    (probit Q (scaleCycles 2 [])).ND ≠ 2 * (probit Q []).ND := by
  have h : probit Q [] = elementary Q [] := by rw [probit_eq, if_neg (by decide)]
  have hs : scaleCycles (2 : ℝ) [] = [] := rfl
  rw [hs, h, WoehlerElementary.elementary_nil_ND]
  norm_num

/-- with a vanishing probit slope in the regular branch the model has `SD = 1` for the scaled and the original data:
`SD' = c * SD` fails for `c ≠ 1` (so `hps` in `probit_load_scale` cannot be dropped) -/
theorem probit_load_scale_degenerate (Q : ℝ → ℝ) {c : ℝ} (hc : 0 < c) (d : List (Test ℝ)) (hpos : ∀ t ∈ d, 0 < t.load)
    (h2 : 2 ≤ (levels (infiniteZone (irrelevantRunoutsDropped d))).length)
    (hps0 : (probitLine Q (irrelevantRunoutsDropped d)).1 = 0) :
    (probit Q (scaleLoad c d)).SD = 1 ∧ (probit Q d).SD = 1 := by
  rw [probit_eq Q (scaleLoad c d), probit_eq Q d, WoehlerZones.irrelevantRunoutsDropped_scaleLoad hc,
    nLevels_scaleLoad hc, if_pos h2, if_pos h2,
    probitLine_scaleLoad Q hc _ (WoehlerZones.forall_mem_irrelevantRunoutsDropped hpos)]
  simp only [hps0, div_zero, Real.rpow_zero]
  exact ⟨rfl, rfl⟩

/-- one fracture and one run-out on a level: Rossow's estimate `(3·1 − 1) / (3·2 + 1)` -/
theorem probitProb_pair (L N L' N' : ℝ) : probitProb [⟨L, N, true⟩, ⟨L', N', false⟩] = 2 / 7 := by
  have hf : fractures [(⟨L, N, true⟩ : Test ℝ), ⟨L', N', false⟩] = [⟨L, N, true⟩] := rfl
  have hr : runouts [(⟨L, N, true⟩ : Test ℝ), ⟨L', N', false⟩] = [⟨L', N', false⟩] := rfl
  rw [probitProb, hf, hr]
  simp only [lenα_eq, List.isEmpty_cons, Bool.false_eq_true, if_false, List.length_cons, List.length_nil, lit_one, lit_three]
  norm_num

/-- a single run-out on a level: `1 − 0.5 ^ (1/1)` -/
theorem probitProb_single_runout (L N : ℝ) : probitProb [⟨L, N, false⟩] = 1 / 2 := by
  have hf : fractures [(⟨L, N, false⟩ : Test ℝ)] = [] := rfl
  rw [probitProb, hf]
  simp only [List.isEmpty_nil, if_true, lenα_eq, List.length_cons, List.length_nil, lit_one]
  norm_num

/-- two mixed levels with the same estimated probability: the probit regression has slope `0` -/
def sampleDeg : List (Test ℝ) := [⟨1, 1, true⟩, ⟨1, 1, false⟩, ⟨2, 1, true⟩, ⟨2, 1, false⟩]

theorem sampleDeg_ird : irrelevantRunoutsDropped sampleDeg = sampleDeg := by
  norm_num [sampleDeg, irrelevantRunoutsDropped, fractures, runouts, eqα]

theorem sampleDeg_inf : infiniteZone sampleDeg = sampleDeg := by
  norm_num [sampleDeg, infiniteZone, runouts, maxRunoutLoad, maxOf]

theorem sampleDeg_levels : levels sampleDeg = [1, 2] := by
  norm_num [sampleDeg, levels, sort, insertSorted, dedup, eqα]

theorem sampleDeg_points (Q : ℝ → ℝ) :
    probitPoints Q sampleDeg = [(0, Q (2 / 7)), (Real.log 2 / Real.log 10, Q (2 / 7))] := by
  have g1 : sampleDeg.filter (fun t => eqα t.load 1) = [⟨1, 1, true⟩, ⟨1, 1, false⟩] := by
    norm_num [sampleDeg, List.filter_cons, eqα_iff]
  have g2 : sampleDeg.filter (fun t => eqα t.load 2) = [⟨2, 1, true⟩, ⟨2, 1, false⟩] := by
    norm_num [sampleDeg, List.filter_cons, eqα_iff]
  rw [probitPoints_eq, sampleDeg_levels]
  simp only [List.map_cons, List.map_nil, g1, g2, probitProb_pair, transc_log10,
    Real.log_one, zero_div]

theorem sampleDeg_slope (Q : ℝ → ℝ) : (ols (probitPoints Q sampleDeg)).1 = 0 := by
  have hx : 0 < Real.log 2 / Real.log 10 := log10_two_pos
  rw [sampleDeg_points, ols_two_points hx.ne, sub_self, zero_div]

/-- `probit_load_scale` without `hps` is false (for every `Q`): counterexample `sampleDeg`, `c = 2` -/
theorem probit_load_scale_counterexample (Q : ℝ → ℝ) :
    (∀ t ∈ sampleDeg, 0 < t.load) ∧ (probit Q (scaleLoad 2 sampleDeg)).SD ≠ 2 * (probit Q sampleDeg).SD := by
  have hpos : ∀ t ∈ sampleDeg, 0 < t.load := by
    simp only [sampleDeg, List.forall_mem_cons, List.not_mem_nil, false_imp_iff, implies_true, and_true]
    norm_num
  refine ⟨hpos, ?_⟩
  have h := probit_load_scale_degenerate Q (c := 2) (by norm_num) sampleDeg hpos
    (by rw [sampleDeg_ird, sampleDeg_inf, sampleDeg_levels]; simp)
    (by unfold probitLine; rw [sampleDeg_ird, sampleDeg_inf]; exact sampleDeg_slope Q)
  rw [h.1, h.2]
  norm_num

/-- a pure run-out level, a mixed level, a fractured level above -/
def sample : List (Test ℝ) := [⟨1, 1, false⟩, ⟨2, 1, true⟩, ⟨2, 1, false⟩, ⟨3, 1, true⟩]

def sampleInf : List (Test ℝ) := [⟨1, 1, false⟩, ⟨2, 1, true⟩, ⟨2, 1, false⟩]

theorem sample_ird : irrelevantRunoutsDropped sample = sample := by
  norm_num [sample, irrelevantRunoutsDropped, fractures, runouts, eqα]

theorem sample_inf : infiniteZone sample = sampleInf := by
  norm_num [sample, sampleInf, infiniteZone, runouts, maxRunoutLoad, maxOf]

theorem sample_ff : (finiteZone sample).filter (fun t => t.fracture) = [⟨3, 1, true⟩] := by
  norm_num [sample, finiteZone, fractures, runouts, maxRunoutLoad, maxOf]

theorem sample_levels : levels sampleInf = [1, 2] := by
  norm_num [sampleInf, levels, sort, insertSorted, dedup, eqα]

theorem sample_points : probitPoints id sampleInf = [(0, 1 / 2), (Real.log 2 / Real.log 10, 2 / 7)] := by
  have g1 : sampleInf.filter (fun t => eqα t.load 1) = [⟨1, 1, false⟩] := by
    norm_num [sampleInf, List.filter_cons, eqα_iff]
  have g2 : sampleInf.filter (fun t => eqα t.load 2) = [⟨2, 1, true⟩, ⟨2, 1, false⟩] := by
    norm_num [sampleInf, List.filter_cons, eqα_iff]
  rw [probitPoints_eq, sample_levels]
  simp only [List.map_cons, List.map_nil, g1, g2, probitProb_pair,
    probitProb_single_runout, transc_log10, Real.log_one, zero_div, id]

theorem sample_slope : (ols (probitPoints id sampleInf)).1 ≠ 0 := by
  have hx : 0 < Real.log 2 / Real.log 10 := log10_two_pos
  rw [sample_points, ols_two_points hx.ne, sub_zero]
  exact div_ne_zero (by norm_num) hx.ne'

/-- the hypotheses of `probit_load_scale` and `probit_cycle_scale` hold on the sample, in the regular branch -/
example :
    (∀ t ∈ sample, 0 < t.load) ∧ (∀ t ∈ sample, 0 < t.cycles) ∧
    2 ≤ (levels (infiniteZone (irrelevantRunoutsDropped sample))).length ∧
    (ols (probitPoints id (infiniteZone (irrelevantRunoutsDropped sample)))).1 ≠ 0 ∧
    (finiteZone (irrelevantRunoutsDropped sample)).filter (fun t => t.fracture) ≠ [] := by
  rw [sample_ird, sample_inf, sample_ff, sample_levels]
  refine ⟨?_, ?_, by simp, sample_slope, by simp⟩ <;>
  · simp only [sample, List.forall_mem_cons, List.not_mem_nil, false_imp_iff, implies_true, and_true]
    norm_num

end PylifeVerif.WoehlerProbit
