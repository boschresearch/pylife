/-
A singular 3×3 matrix has a kernel vector (from Mathlib, through `M3.toMatrix`); hence full column rank of `A` ⇒
`det (AᵀA) ≠ 0` for the 3-column least-squares system of `Model/Mesh.lean`.
-/
import Proofs.Lemmas.Mesh
import Mathlib.LinearAlgebra.Matrix.ToLinearEquiv

namespace PylifeVerif.Mesh

def M3.toMatrix (m : M3 ℝ) : Matrix (Fin 3) (Fin 3) ℝ :=
  !![m.a11, m.a12, m.a13; m.a21, m.a22, m.a23; m.a31, m.a32, m.a33]

theorem det_toMatrix (m : M3 ℝ) : m.toMatrix.det = det3 m := by
  simp [M3.toMatrix, Matrix.det_fin_three, det3]; ring

/-- The converse of `eq_zero_of_mulVec_eq_zero` (`Lemmas/Mesh.lean`): together, `det3 M = 0` iff `M` has a kernel vector
`≠ ⟨0, 0, 0⟩`. -/
theorem exists_mulVec_eq_zero_of_det3 (M : M3 ℝ) (h : det3 M = 0) :
    ∃ w : V3 ℝ, w ≠ ⟨0, 0, 0⟩ ∧ M.mulVec w = ⟨0, 0, 0⟩ := by
  rw [← det_toMatrix] at h
  obtain ⟨v, hv0, hv⟩ := Matrix.exists_mulVec_eq_zero_iff.2 h
  have h0 := congrFun hv 0
  have h1 := congrFun hv 1
  have h2 := congrFun hv 2
  simp [M3.toMatrix, Matrix.mulVec, dotProduct, Fin.sum_univ_three] at h0 h1 h2
  refine ⟨⟨v 0, v 1, v 2⟩, fun hw => hv0 ?_, V3.eq_of _ _ h0 h1 h2⟩
  simp only [V3.mk.injEq] at hw
  funext i
  fin_cases i <;> simp [hw]

theorem det3_normalMatrix_ne_zero (A : List (V3 ℝ))
    (hrank : ∀ v : V3 ℝ, (∀ a ∈ A, a.dot v = 0) → v = ⟨0, 0, 0⟩) :
    det3 (normalMatrix A) ≠ 0 := fun hdet => by
  obtain ⟨w, hw0, hw⟩ := exists_mulVec_eq_zero_of_det3 _ hdet
  exact hw0 (hrank w ((normalMatrix_mulVec_eq_zero_iff A w).1 hw))

end PylifeVerif.Mesh
