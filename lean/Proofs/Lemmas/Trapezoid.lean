/-
The model's list trapezoid (`np.trapezoid`) versus Mathlib's `trapezoidal_integral` (property C15,
`pf_arbitrary_load`): the list rule as a sum over arbitrary nodes (`trapezoid_range`, on which `TrapezoidNonuniform` stands),
identification on uniform nodes, error bound, convergence under refinement.
-/
import Proofs.RealNum
import Model.FailureProb
import Mathlib.MeasureTheory.Integral.IntervalIntegral.TrapezoidalRule

namespace PylifeVerif.TrapezoidLemmas

open PylifeVerif.FailureProb

noncomputable def uniformNodes (a b : ℝ) (N : ℕ) : List ℝ :=
  (List.range (N + 1)).map fun k : ℕ => a + (k : ℝ) * (b - a) / N

theorem trapezoid_cons_cons (p q : ℝ × ℝ) (rest : List (ℝ × ℝ)) :
    trapezoid (p :: q :: rest) = (q.1 - p.1) * (q.2 + p.2) / 2 + trapezoid (q :: rest) := by
  rw [trapezoid, lit_two]

theorem trapezoid_range (x y : ℕ → ℝ) (n : ℕ) :
    trapezoid ((List.range (n + 1)).map fun k => (x k, y k))
      = ∑ k ∈ Finset.range n, (x (k + 1) - x k) * (y (k + 1) + y k) / 2 := by
  induction n generalizing x y with
  | zero =>
    exact lit_zero
  | succ n ih =>
    -- split off the first node: the others are the nodes of `x (· + 1)`, `y (· + 1)`
    rw [List.range_succ_eq_map, List.map_cons, List.map_map, List.range_succ_eq_map, List.map_cons,
      trapezoid_cons_cons, ← List.map_cons, ← List.range_succ_eq_map, Finset.sum_range_succ', add_comm]
    exact congrArg₂ (· + ·) (ih (fun k => x (k + 1)) (fun k => y (k + 1))) rfl

theorem trapezoid_uniform (g : ℝ → ℝ) (a b : ℝ) {N : ℕ} (hN : 0 < N) :
    trapezoid ((uniformNodes a b N).map fun x => (x, g x)) = trapezoidal_integral g N a b := by
  have hN' : (N : ℝ) ≠ 0 := by exact_mod_cast hN.ne'
  have hb : a + (N : ℝ) * ((b - a) / N) = b := by rw [mul_div_cancel₀ _ hN', add_sub_cancel]
  have key := sum_trapezoidal_integral_adjacent_intervals (f := g) (N := N) (a := a)
    (h := (b - a) / N) hN
  rw [hb] at key
  rw [← key, uniformNodes, List.map_map]
  refine (trapezoid_range (fun k : ℕ => a + (k : ℝ) * (b - a) / N)
    (fun k : ℕ => g (a + (k : ℝ) * (b - a) / N)) N).trans (Finset.sum_congr rfl fun k _ => ?_)
  rw [trapezoidal_integral_one]
  push_cast
  simp only [mul_div_assoc]
  ring

theorem pfArbitraryLoad_map {ι : Type} (Φ pdf : ℝ → ℝ) (sm ss : ℝ) (x : ι → ℝ) (l : List ι) :
    pfArbitraryLoad Φ sm ss (l.map fun k => (x k, pdf (x k)))
      = trapezoid (l.map fun k => (x k, pdf (x k) * normCdf Φ (x k) (Transc.log10 sm) ss)) := by
  rw [pfArbitraryLoad, List.map_map]
  rfl

theorem tendsto_of_abs_sub_le {u bound : ℕ → ℝ} {L : ℝ} (h : ∀ᶠ N in Filter.atTop, |u N - L| ≤ bound N)
    (hb : Filter.Tendsto bound Filter.atTop (nhds 0)) : Filter.Tendsto u Filter.atTop (nhds L) := by
  rw [tendsto_iff_dist_tendsto_zero]
  exact squeeze_zero' (Filter.Eventually.of_forall fun _ => dist_nonneg) h hb

theorem trapezoid_uniform_error_le (g : ℝ → ℝ) (a b : ℝ) (hc2 : ContDiffOn ℝ 2 g (Set.uIcc a b)) {ζ : ℝ}
    (hζ : ∀ x, |iteratedDerivWithin 2 g (Set.uIcc a b) x| ≤ ζ) {N : ℕ} (hN : 0 < N) :
    |trapezoid ((uniformNodes a b N).map fun x => (x, g x)) - ∫ x in a..b, g x|
      ≤ |b - a| ^ 3 * ζ / (12 * N ^ 2) := by
  rw [trapezoid_uniform g a b hN]
  exact trapezoidal_error_le_of_c2 hc2 hζ hN

theorem trapezoid_uniform_tendsto (g : ℝ → ℝ) (a b : ℝ) (hc2 : ContDiffOn ℝ 2 g (Set.uIcc a b)) {ζ : ℝ}
    (hζ : ∀ x, |iteratedDerivWithin 2 g (Set.uIcc a b) x| ≤ ζ) :
    Filter.Tendsto (fun N : ℕ => trapezoid ((uniformNodes a b N).map fun x => (x, g x)))
      Filter.atTop (nhds (∫ x in a..b, g x)) := by
  refine tendsto_of_abs_sub_le ((Filter.eventually_gt_atTop 0).mono fun N hN =>
    trapezoid_uniform_error_le g a b hc2 hζ hN) ?_
  have h1 : Filter.Tendsto (fun N : ℕ => (12 * (N : ℝ) ^ 2)) Filter.atTop Filter.atTop :=
    ((Filter.tendsto_pow_atTop two_ne_zero).comp tendsto_natCast_atTop_atTop).const_mul_atTop (by norm_num)
  exact h1.const_div_atTop _

example : trapezoid [((0 : ℝ), (1 : ℝ)), (1, 3), (3, 2)] = 7 := by
  norm_num [trapezoid]

/-- non-vacuity of the uniform identification: `g = id` on `[0, 2]` with two trapezoids -/
example : trapezoid ((uniformNodes 0 2 2).map fun x => (x, x)) = 2 := by
  rw [trapezoid_uniform (fun x => x) 0 2 (by norm_num)]
  norm_num [trapezoidal_integral]

/-- non-vacuity of the hypotheses of the error bound (constant integrand, `ζ = 0`: the rule is exact) -/
example {N : ℕ} (hN : 0 < N) :
    |pfArbitraryLoad (fun _ => 1 / 2) 1 1 ((uniformNodes 0 1 N).map fun x => (x, (1 : ℝ)))
        - ∫ x in (0 : ℝ)..1, (1 : ℝ) * normCdf (fun _ => 1 / 2) x (Transc.log10 1) 1|
      ≤ |(1 : ℝ) - 0| ^ 3 * 0 / (12 * N ^ 2) := by
  rw [pfArbitraryLoad_map (fun _ => 1 / 2) (fun _ => 1) 1 1 (fun x => x)]
  exact trapezoid_uniform_error_le (fun x => (1 : ℝ) * normCdf (fun _ => 1 / 2) x (Transc.log10 1) 1) 0 1
    (by simp only [normCdf]; exact contDiffOn_const) (by intro x; simp [normCdf, iteratedDerivWithin_const]) hN

end PylifeVerif.TrapezoidLemmas
