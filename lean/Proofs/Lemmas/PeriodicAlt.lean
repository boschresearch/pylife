/-
Strictly alternating words (`Alt`, `Zig` of `PeriodicDefs.lean`): unfolding, infixes, the shape of a
window of three, neighbours differ (`zig_adjNe`), and removing an inner pair that the next element overshoots.
-/
import Proofs.Lemmas.PeriodicDefs
import Proofs.Lemmas.Common
import Batteries.Data.List.Basic

namespace PylifeVerif.C04
open PylifeVerif.Rainflow

@[simp] theorem alt_nil (up : Bool) : Alt up [] := trivial
@[simp] theorem alt_one (up : Bool) (a : Int) : Alt up [a] := trivial
theorem alt_true_cons_cons (x y : Int) (r : List Int) :
    Alt true (x :: y :: r) ↔ x < y ∧ Alt false (y :: r) := by simp [Alt]
theorem alt_false_cons_cons (x y : Int) (r : List Int) :
    Alt false (x :: y :: r) ↔ y < x ∧ Alt true (y :: r) := by simp [Alt]

theorem alt_tl (up : Bool) (a : Int) (w : List Int) (h : Alt up (a :: w)) : Alt (!up) w := by
  cases w with
  | nil => trivial
  | cons b r => exact h.2

/-- moving the head weakly away from the second element keeps the alternation -/
theorem alt_head (u : Bool) (x x' : Int) (S : List Int) (h : Alt u (x :: S))
    (hx : if u then x' ≤ x else x ≤ x') : Alt u (x' :: S) := by
  cases S with
  | nil => trivial
  | cons y r =>
    refine ⟨?_, h.2⟩
    have h1 := h.1
    cases u <;> simp only [if_true, Bool.false_eq_true, if_false] at h1 hx ⊢ <;> omega

theorem alt_prefix (A B : List Int) : ∀ up, Alt up (A ++ B) → Alt up A := by
  induction A with
  | nil => intro up _; trivial
  | cons a A' ih =>
    intro up h
    cases A' with
    | nil => trivial
    | cons a1 A2 =>
      exact ⟨h.1, ih (!up) h.2⟩

theorem alt_suffix (A B : List Int) : ∀ up, Alt up (A ++ B) → Zig B := by
  induction A with
  | nil => intro up h; exact ⟨up, h⟩
  | cons a A' ih =>
    intro up h
    exact ih (!up) (alt_tl up a _ h)

theorem zig_infix (A B C : List Int) (h : Zig (A ++ B ++ C)) : Zig B := by
  obtain ⟨up, h⟩ := h
  obtain ⟨up', h'⟩ := alt_suffix A (B ++ C) up (by simpa using h)
  exact ⟨up', alt_prefix B C up' h'⟩

/-- Reading an alternating word backwards: `x` is a peak or a valley seen from either side. -/
theorem alt_reverse_aux : ∀ (l : List Int) (x : Int) (acc : List Int) (u : Bool),
    Alt u (x :: l) → Alt u (x :: acc) → Zig (l.reverse ++ x :: acc)
  | [], _, _, u, _, h2 => ⟨u, h2⟩
  | y :: l, x, acc, u, h1, h2 => by
    rw [List.reverse_cons, List.append_assoc]
    refine alt_reverse_aux l y (x :: acc) (!u) h1.2 ⟨?_, by rwa [Bool.not_not]⟩
    have := h1.1
    cases u <;> simpa using this

theorem zig_reverse (l : List Int) (h : Zig l) : Zig l.reverse := by
  obtain ⟨u, h⟩ := h
  cases l with
  | nil => exact ⟨u, trivial⟩
  | cons x l => simpa using alt_reverse_aux l x [] u h trivial

theorem zig_peak (A : List Int) (a b c : Int) (C : List Int) (h : Zig (A ++ a :: b :: c :: C)) :
    (a < b ∧ c < b) ∨ (b < a ∧ b < c) := by
  obtain ⟨up, hA⟩ := zig_infix A [a, b, c] C (by simpa using h)
  cases up
  · rw [alt_false_cons_cons, alt_true_cons_cons] at hA
    exact Or.inr ⟨hA.1, hA.2.1⟩
  · rw [alt_true_cons_cons, alt_false_cons_cons] at hA
    exact Or.inl ⟨hA.1, hA.2.1⟩

theorem zig_ne (a b : Int) (r : List Int) (h : Zig (a :: b :: r)) : a ≠ b := by
  obtain ⟨up, hA⟩ := h
  cases up
  · exact (Int.ne_of_lt hA.1).symm
  · exact Int.ne_of_lt hA.1

abbrev AdjNe (l : List Int) : Prop := List.IsChain (fun a b : Int => a ≠ b) l

theorem zig_adjNe : ∀ l : List Int, Zig l → AdjNe l
  | [], _ => .nil
  | [a], _ => .singleton a
  | a :: b :: r, ⟨up, h⟩ => .cons_cons (zig_ne a b r ⟨up, h⟩) (zig_adjNe (b :: r) ⟨!up, h.2⟩)

theorem alt_head_congr (up : Bool) (p : Int) (l l' : List Int) (hh : l.head? = l'.head?)
    (hl : Alt (!up) l → Alt (!up) l') (h : Alt up (p :: l)) : Alt up (p :: l') := by
  cases l with
  | nil =>
    cases l' with
    | nil => trivial
    | cons b r => simp at hh
  | cons a r =>
    cases l' with
    | nil => trivial
    | cons b r' =>
      simp only [List.head?_cons, Option.some.injEq] at hh
      subst hh
      exact ⟨h.1, hl h.2⟩

theorem alt_pop (P : List Int) : ∀ (up : Bool) (h i j x : Int) (rem : List Int),
    Alt up (P ++ h :: i :: j :: x :: rem) → absDiff j i ≤ absDiff x j →
    Alt up (P ++ h :: x :: rem) := by
  induction P with
  | nil =>
    intro up h i j x rem hA hc
    unfold absDiff at hc
    cases up
    · rw [List.nil_append, alt_false_cons_cons, alt_true_cons_cons, alt_false_cons_cons] at hA
      exact (alt_false_cons_cons h x rem).2 ⟨by omega, hA.2.2.2⟩
    · rw [List.nil_append, alt_true_cons_cons, alt_false_cons_cons, alt_true_cons_cons] at hA
      exact (alt_true_cons_cons h x rem).2 ⟨by omega, hA.2.2.2⟩
  | cons p P ih =>
    intro up h i j x rem hA hc
    apply alt_head_congr up p (P ++ h :: i :: j :: x :: rem) (P ++ h :: x :: rem) _ _ hA
    · cases P <;> rfl
    · exact fun hA' => ih (!up) h i j x rem hA' hc

end PylifeVerif.C04
