/-
The four-point stack model against the declarative rule: `Spec.reduce4` is `fpClose` with the new point on
top (`reduce4_cons`), `Spec.fourPoint` is `fpFeed` from the first point (`fourPoint_spec_eq`); closing and feeding
permute the points (`fpClose_perm`, `fpFeed_perm`).  Namespace `C02`, as the statements of
`C02FourPoint.lean` that these lemmas serve.
-/
import Proofs.Lemmas.Common

namespace PylifeVerif.C02
open PylifeVerif.Rainflow

abbrev endpoints (c : Cycle) : List Pt := [c.1, c.2]

/-- The spec reduces with the new point on top, the model closes before pushing. -/
theorem reduce4_cons (st : List Pt) (d : Pt) :
    Spec.reduce4 (d :: st) = ((fpClose st d.2).1, d :: (fpClose st d.2).2) := by
  obtain ⟨i, dv⟩ := d
  show Spec.reduce4 ((i, dv) :: st) = ((fpClose st dv).1, (i, dv) :: (fpClose st dv).2)
  fun_induction fpClose st dv with
  | case1 c b a rest d h r ih =>
    rw [Spec.reduce4, if_pos h]
    simp only [ih]
    rfl
  | case2 c b a rest d h =>
    rw [Spec.reduce4, if_neg h]
  | case3 st d hst =>
    unfold Spec.reduce4
    split
    · rename_i heq
      simp at heq
      exact absurd heq.2 (hst _ _ _ _)
    · rfl

/-- The step function of `Spec.fourPoint`. -/
def specStep (acc : List Cycle × List Pt) (p : Pt) : List Cycle × List Pt :=
  let r := Spec.reduce4 (p :: acc.2)
  (acc.1 ++ r.1, r.2)

theorem foldl_specStep (ps : List Pt) : ∀ (cyc : List Cycle) (st : List Pt),
    ps.foldl specStep (cyc, st) = (cyc ++ (fpFeed st ps).1, (fpFeed st ps).2) := by
  induction ps with
  | nil => intro cyc st; simp [fpFeed]
  | cons p ps ih =>
    intro cyc st
    simp only [List.foldl_cons, specStep, reduce4_cons, ih, fpFeed, fpPush, List.append_assoc]

theorem fourPoint_spec_eq (first : Pt) (ps : List Pt) :
    Spec.fourPoint (first :: ps) = ((fpFeed [first] ps).1, (fpFeed [first] ps).2.reverse) := by
  unfold Spec.fourPoint
  change (let r := List.foldl specStep ([], []) (first :: ps); (r.1, r.2.reverse)) = _
  have h1 : specStep ([], []) first = ([], [first]) := by
    simp [specStep, reduce4_cons, fpClose]
  simp only [List.foldl_cons]
  rw [h1, foldl_specStep, List.nil_append]

theorem fpClose_perm (st : List Pt) (d : Int) :
    (((fpClose st d).1.flatMap endpoints) ++ (fpClose st d).2).Perm st := by
  fun_induction fpClose st d with
  | case1 c b a rest d h r ih =>
    simp only [List.flatMap_cons, endpoints, List.cons_append, List.nil_append]
    -- b :: c :: (r.1.flatMap ++ r.2) ~ c :: b :: a :: rest
    exact (List.Perm.swap c b _).trans ((ih.cons b).cons c)
  | case2 c b a rest d h => simp
  | case3 st d hst => simp

theorem fpFeed_perm (ps : List Pt) : ∀ (st : List Pt),
    (((fpFeed st ps).1.flatMap endpoints) ++ (fpFeed st ps).2.reverse).Perm (st.reverse ++ ps) := by
  induction ps with
  | nil => intro st; simp [fpFeed]
  | cons p ps ih =>
    intro st
    simp only [fpFeed, fpPush, List.flatMap_append, List.append_assoc]
    have h1 := ih (p :: (fpClose st p.2).2)
    have h2 := fpClose_perm st p.2
    -- A ++ (B ++ S'.reverse) ~ A ++ ((p :: C).reverse ++ ps)
    refine (List.Perm.append_left _ h1).trans ?_
    simp only [List.reverse_cons, List.append_assoc, List.singleton_append]
    rw [← List.append_assoc]
    refine List.Perm.append_right _ ?_
    refine (List.Perm.append_left _ (List.reverse_perm _)).trans ?_
    exact h2.trans (List.reverse_perm _).symm

end PylifeVerif.C02
