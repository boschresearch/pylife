/-
`argmax` / `argmin` of `Model/Rainflow/Detectors.lean` (numpy's first position of the maximum / minimum):
the fold holds the first position of the maximum of the prefix it has seen (`IsMaxPos`).
Namespace `ThreePoint`: the three-point detector starts its loop at `argmax` / `argmin` of the residuals
(`Lemmas/Periodic.lean` uses the same facts for `argmaxAbs`).
-/
import Model.Rainflow.Detectors

namespace PylifeVerif.ThreePoint
open PylifeVerif.Rainflow

def amStep (acc : Option (Int × Nat)) (x : Int × Nat) : Option (Int × Nat) :=
  match acc with
  | none => some x
  | some a => if x.1 > a.1 then some x else some a

theorem argmax_eq (l : List Int) :
    argmax l = ((l.zipIdx.foldl amStep none).map (·.2)).getD 0 := rfl

def IsMaxPos (v : Nat → Int) (m h : Nat) : Prop :=
  h < m ∧ (∀ i, i < m → v i ≤ v h) ∧ (∀ i, i < h → v i < v h)

def IsMinPos (v : Nat → Int) (m h : Nat) : Prop :=
  h < m ∧ (∀ i, i < m → v h ≤ v i) ∧ (∀ i, i < h → v h < v i)

theorem isMinPos_iff_neg {v : Nat → Int} {m h : Nat} :
    IsMinPos v m h ↔ IsMaxPos (fun i => - v i) m h := by
  unfold IsMinPos IsMaxPos
  simp only [Int.neg_le_neg_iff, Int.neg_lt_neg_iff]

theorem isMaxPos_succ_of_lt {v : Nat → Int} {k h : Nat} (hk : 1 ≤ k) (H : IsMaxPos v (k - 1) h)
    (c : v h < v (k - 1)) : IsMaxPos v k (k - 1) := by
  refine ⟨by omega, fun i hi => ?_, fun i hi => by have := H.2.1 i hi; omega⟩
  by_cases hi' : i < k - 1
  · have := H.2.1 i hi'; omega
  · have : i = k - 1 := by omega
    subst this; omega

theorem isMaxPos_succ_of_not_lt {v : Nat → Int} {k h : Nat} (H : IsMaxPos v (k - 1) h)
    (c : ¬ v h < v (k - 1)) : IsMaxPos v k h := by
  refine ⟨by have := H.1; omega, fun i hi => ?_, H.2.2⟩
  by_cases hi' : i < k - 1
  · exact H.2.1 i hi'
  · have : i = k - 1 := by omega
    subst this; omega

theorem amFold_take (l : List Int) (v : Nat → Int) (hv : ∀ i, i < l.length → v i = l[i]!) :
    ∀ n, n < l.length → ∃ h, (l.take (n + 1)).zipIdx.foldl amStep none = some (v h, h) ∧
      IsMaxPos v (n + 1) h := by
  intro n
  induction n with
  | zero =>
    intro hn
    refine ⟨0, ?_, by omega, fun i hi => ?_, fun i hi => by omega⟩
    · rw [List.take_succ_eq_append_getElem hn]
      simp [amStep, hv 0 hn, hn]
    · rw [show i = 0 by omega]
      exact Int.le_refl _
  | succ n ih =>
    intro hn
    obtain ⟨h, e, H⟩ := ih (by omega)
    have hx : (l[n + 1], 0 + (l.take (n + 1)).length) = (v (n + 1), n + 1) := by
      rw [hv _ hn, List.length_take]
      simp [hn]
      omega
    rw [List.take_succ_eq_append_getElem hn, List.zipIdx_append, List.foldl_append, e]
    simp only [List.zipIdx_cons, List.zipIdx_nil, List.foldl_cons, List.foldl_nil, amStep, hx]
    by_cases c : v h < v (n + 1)
    · exact ⟨n + 1, by rw [if_pos c], isMaxPos_succ_of_lt (k := n + 2) (by omega) H c⟩
    · exact ⟨h, by rw [if_neg c], isMaxPos_succ_of_not_lt (k := n + 2) H c⟩

theorem isMaxPos_argmax (l : List Int) (hl : l ≠ []) (v : Nat → Int)
    (hv : ∀ i, i < l.length → v i = l[i]!) : IsMaxPos v l.length (argmax l) := by
  have hpos : 0 < l.length := List.length_pos_iff.2 hl
  obtain ⟨h, e, H⟩ := amFold_take l v hv (l.length - 1) (by omega)
  rw [show l.length - 1 + 1 = l.length by omega] at e H
  rw [List.take_length] at e
  rw [argmax_eq, e]
  exact H

theorem argmax_spec (l : List Int) (hl : l ≠ []) :
    argmax l < l.length ∧ ∀ x ∈ l, x ≤ l[argmax l]! := by
  have H := isMaxPos_argmax l hl (fun i => l[i]!) (fun _ _ => rfl)
  refine ⟨H.1, fun x hx => ?_⟩
  obtain ⟨j, hj, rfl⟩ := List.getElem_of_mem hx
  have := H.2.1 j hj
  simpa [hj] using this

theorem isMinPos_argmin (l : List Int) (hl : l ≠ []) (v : Nat → Int)
    (hv : ∀ i, i < l.length → v i = l[i]!) : IsMinPos v l.length (argmin l) := by
  have := isMaxPos_argmax (l.map fun x => -x) (by simpa using hl) (fun i => - v i) (fun i hi => by
    have hi' : i < l.length := by simpa using hi
    simp [hv i hi', hi'])
  rw [List.length_map] at this
  exact isMinPos_iff_neg.2 this

end PylifeVerif.ThreePoint
