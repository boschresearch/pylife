/-
The four-point stack model by itself.  Closing keeps the strict alternation of the stack values
(`fpClose_alt`, on `C04.Alt`), also seen from the last sample (`DirOk` of `Turns.lean`), so a
provisional closing with the last sample of a chunk does not change what later closings do
(`fpClose_fpClose`, `fpFeedClose_append`); hence the canonical state `fpCanon` of the detector after a
signal, whatever the chunking (`fpRun_canon`).  Stored stacks are irreducible (`Lit.Irr`), and feeding an
irreducible stack again closes nothing (`Lit.fpFeed_rescan`).

Namespaces: `Rainflow`; `Rainflow.Lit` for the closing rule `CloseCond` and irreducibility `Irr` of a stack
(named after the literal loop, whose re-scan they settle; `Lemmas/ThreePoint.lean` uses them too); `C02`
for `residualPts`, the residual as the C02 / C03 statements report it.
-/
import Proofs.Lemmas.Turns

namespace PylifeVerif.Rainflow
open Common (fpFeed_append)

open PylifeVerif.C04 (Alt alt_pop)

/-! Strict alternation is `C04.Alt`, here of the values of a stack, top first, under the value `v`
that comes next: `Alt u (v :: c :: _)` says `v < c` iff `u`. -/

theorem fpClose_neg (c b a : Pt) (rest : List Pt) (d : Int)
    (h : ¬ (absDiff b.2 c.2 ≤ absDiff a.2 b.2 ∧ absDiff b.2 c.2 ≤ absDiff c.2 d)) :
    fpClose (c :: b :: a :: rest) d = ([], c :: b :: a :: rest) :=
  Common.fpClose_neg' c b a rest d h

/-- **Closing keeps the alternation**, seen from any value `v` above the stack (and whatever lies
above `v`): a closed pair `b, c` has the smaller range, so `a` lies beyond `c`. -/
theorem fpClose_alt (pre : List Int) (u : Bool) (st : List Pt) (v d : Int)
    (h : Alt u (pre ++ v :: st.map (·.2))) :
    Alt u (pre ++ v :: (fpClose st d).2.map (·.2)) := by
  fun_induction fpClose st d with
  | case1 c b a rest d hc r ih => exact ih (alt_pop pre u v c.2 b.2 a.2 _ h hc.1)
  | case2 c b a rest d hc => exact h
  | case3 st d hst => exact h

theorem fpFeed_alt (u : Bool) (ps : List Pt) : ∀ (pre : List Int) (st : List Pt),
    Alt u (pre ++ (ps.reverse.map (·.2) ++ st.map (·.2))) →
      Alt u (pre ++ (fpFeed st ps).2.map (·.2)) := by
  induction ps with
  | nil => intro pre st h; simpa [fpFeed] using h
  | cons p ps ih =>
    intro pre st h
    simp only [fpFeed, fpPush]
    apply ih
    have := fpClose_alt (pre ++ ps.reverse.map (·.2)) u st p.2 p.2 (by simpa using h)
    simpa using this

theorem single_of_append {pre : List Int} {turns st : List Pt} {d : Int} (hb : st ≠ [])
    (h : pre ++ (turns.reverse.map (·.2) ++ st.map (·.2)) = [d]) : pre = [] ∧ turns = [] ∧ ∃ p, st = [p] := by
  have hl := congrArg List.length h
  simp only [List.length_append, List.length_map, List.length_reverse, List.length_singleton] at hl
  have hbl : 0 < st.length := List.length_pos_iff.mpr hb
  exact ⟨List.eq_nil_of_length_eq_zero (by omega), List.eq_nil_of_length_eq_zero (by omega),
    List.length_eq_one_iff.1 (by omega)⟩

theorem single_of_vals {st : List Pt} {d : Int} (h : st.map (·.2) = [d]) : ∃ p, st = [p] :=
  List.length_eq_one_iff.1 (by have := congrArg List.length h; simpa using this)

theorem fpFeed_dirOk (pre : List Int) (st turns : List Pt) (d : Int) (up : Bool) (hb : st ≠ [])
    (h : DirOk up d (pre ++ (turns.reverse.map (·.2) ++ st.map (·.2)))) :
    DirOk up d (pre ++ (fpFeed st turns).2.map (·.2)) := by
  rcases h with h | h
  · obtain ⟨rfl, rfl, p, rfl⟩ := single_of_append hb h
    exact Or.inl (by simpa [fpFeed] using h)
  · exact Or.inr (fpFeed_alt _ turns (d :: pre) st h)

theorem fpClose_dirOk (pre : List Int) (st : List Pt) (d d0 : Int) (up : Bool) (hb : st ≠ [])
    (h : DirOk up d (pre ++ st.map (·.2))) : DirOk up d (pre ++ (fpClose st d0).2.map (·.2)) := by
  rcases h with h | h
  · obtain ⟨rfl, -, p, rfl⟩ := single_of_append (turns := []) hb h
    exact Or.inl (by rwa [Common.fpClose_one'])
  · refine Or.inr ?_
    rw [← List.cons_append, ← List.dropLast_concat_getLast (List.cons_ne_nil d pre), List.append_assoc] at h ⊢
    exact fpClose_alt _ _ st _ d0 h

/-- **Closing with `d`, then with `d'`, is closing with `d'`** when the stack alternates under `d` and
`d'` lies weakly beyond `d` in the direction `up` of the last move: then `|c - d| ≤ |c - d'|` for the top
`c` (`absDiff_le_of_dle`), so every test `|b - c| ≤ |c - d|` that passes with `d` passes with `d'`. -/
theorem fpClose_fpClose (st : List Pt) (d d' : Int) (up : Bool) :
    Alt (!up) (d :: st.map (·.2)) → dle up d d' →
    (fpClose st d).1 ++ (fpClose (fpClose st d).2 d').1 = (fpClose st d').1 ∧
      (fpClose (fpClose st d).2 d').2 = (fpClose st d').2 := by
  fun_induction fpClose st d with
  | case1 c b a rest d h r ih =>
    intro hz hd
    obtain ⟨i1, i2⟩ := ih (alt_pop [] _ d c.2 b.2 a.2 _ hz h.1) hd
    have hcd : absDiff c.2 d ≤ absDiff c.2 d' :=
      absDiff_le_of_dle (dle_of_dlt ((dlt_not up _ _).1 hz.1)) hd
    rw [Common.fpClose_pos' c b a rest d' ⟨h.1, Nat.le_trans h.2 hcd⟩]
    exact ⟨by rw [List.cons_append, i1], i2⟩
  | case2 c b a rest d h =>
    intro _ _; simp
  | case3 st d h =>
    intro _ _; simp

/-- feed decided turns, then close provisionally with the last sample -/
def fpFeedClose (st : List Pt) (N : List Pt) (d' : Int) : List Cycle × List Pt :=
  ((fpFeed st N).1 ++ (fpClose (fpFeed st N).2 d').1, (fpClose (fpFeed st N).2 d').2)

/-- `DirOk` also covers the signal that has not moved yet, whose stack is one point and closes
nothing. -/
theorem fpClose_fpFeedClose (st : List Pt) (d d' : Int) (up : Bool) (N : List Pt)
    (h : DirOk up d (st.map (·.2))) (hd : dle up d (nextVal N d')) :
    (fpClose st d).1 ++ (fpFeedClose (fpClose st d).2 N d').1 = (fpFeedClose st N d').1 ∧
      (fpFeedClose (fpClose st d).2 N d').2 = (fpFeedClose st N d').2 := by
  rcases h with h | h
  · obtain ⟨p, rfl⟩ := single_of_vals h
    rw [Common.fpClose_one']
    exact ⟨rfl, rfl⟩
  · cases N with
    | nil =>
      simp only [fpFeedClose, fpFeed, List.nil_append]
      exact fpClose_fpClose st d d' up h hd
    | cons p N =>
      obtain ⟨h1, h2⟩ := fpClose_fpClose st d p.2 up h hd
      simp only [fpFeedClose, fpFeed, fpPush, h2]
      rw [← h1]
      simp [List.append_assoc]

/-- The splitting law of one `process` call: feeding `T ++ N` and closing with the last sample `d'` is
feeding `T`, closing provisionally with `d` (the last sample of the earlier chunk), then feeding `N` and
closing with `d'` - provided the stack after `T` alternates seen from `d` and the next way point (the
first of `N`, or `d'`) lies weakly beyond `d`, which `findTurns_dirOk` gives for a signal and its turns. -/
theorem fpFeedClose_append (B T N : List Pt) (d d' : Int) (up : Bool)
    (h : DirOk up d ((fpFeed B T).2.map (·.2))) (hd : dle up d (nextVal N d')) :
    fpFeedClose B (T ++ N) d' =
      ((fpFeedClose B T d).1 ++ (fpFeedClose (fpFeedClose B T d).2 N d').1,
        (fpFeedClose (fpFeedClose B T d).2 N d').2) := by
  obtain ⟨h1, h2⟩ := fpClose_fpFeedClose (fpFeed B T).2 d d' up N h hd
  simp only [fpFeedClose, fpFeed_append, List.append_assoc] at h1 h2 ⊢
  rw [h1, h2]

/-- State of the four-point detector after the signal `p` has been fed, in any chunking
(`chunks` is the recorder's list of chunk sizes, the only chunk dependent part). -/
def fpCanon (p : List Int) (chunks : List Nat) : DetState :=
  match p with
  | [] => { chunks := chunks }
  | s0 :: _ =>
    { ts := canonTs p,
      stack := (fpFeedClose [(0, s0)] (findTurns p) p.getLast!).2,
      last := some p.getLast!,
      cycles := (fpFeedClose [(0, s0)] (findTurns p) p.getLast!).1,
      chunks := chunks }

theorem fpCanon_nil (ch : List Nat) : fpCanon [] ch = { chunks := ch } := rfl

theorem fpCanon_cons (s0 : Int) (xs : List Int) (ch : List Nat) :
    fpCanon (s0 :: xs) ch =
      { ts := canonTs (s0 :: xs),
        stack := (fpFeedClose [(0, s0)] (findTurns (s0 :: xs)) (s0 :: xs).getLast!).2,
        last := some (s0 :: xs).getLast!,
        cycles := (fpFeedClose [(0, s0)] (findTurns (s0 :: xs)) (s0 :: xs).getLast!).1,
        chunks := ch } := rfl

/-- One `process` call leads from canonical state to canonical state: `newTurns_canon` for the
bookkeeping, `fpFeedClose_append` (with `findTurns_dirOk` for its hypotheses) for stack and cycles. -/
theorem fpProcess_canon (p c : List Int) (ch : List Nat) (hc : c ≠ []) :
    fpProcess (fpCanon p ch) c = fpCanon (p ++ c) (ch ++ [c.length]) := by
  obtain ⟨c0, cs, rfl⟩ := List.exists_cons_of_ne_nil hc
  cases p with
  | nil =>
    have hn := newTurns_canon [] (c0 :: cs) hc
    rw [canonTs_nil, newTurnsOf_nil] at hn
    simp only [fpProcess, fpCanon, hn, fpFeedClose, List.nil_append]
    simp
  | cons s0 xs =>
    obtain ⟨up, hz, hnext⟩ := findTurns_dirOk s0 xs (c0 :: cs)
    have key := fpFeedClose_append [(0, s0)] (findTurns (s0 :: xs)) (newTurnsOf (s0 :: xs) (c0 :: cs))
      _ (s0 :: xs ++ c0 :: cs).getLast! up (fpFeed_dirOk [] _ _ _ up (List.cons_ne_nil _ _) hz) (by
        rw [show (s0 :: xs ++ c0 :: cs) = s0 :: (xs ++ c0 :: cs) from rfl, getLast!_cons]
        exact hnext)
    rw [← findTurns_restart, ← getLast!_cons, getLast!_append_cons] at key
    simp only [fpProcess, fpCanon, newTurns_canon (s0 :: xs) (c0 :: cs) hc, List.cons_append]
    rw [← List.cons_append, getLast!_append_cons, key, List.append_assoc]
    rfl

/-- **Every run ends in the canonical state of the concatenated signal** (an empty chunk changes nothing
and leaves no chunk size). -/
theorem fpRun_canon (cs : List (List Int)) :
    fpRun cs = fpCanon cs.flatten ((cs.filter (· ≠ [])).map List.length) :=
  foldl_canon_skip fpProcess fpCanon (fun _ => rfl) fpProcess_canon cs

end PylifeVerif.Rainflow

namespace PylifeVerif.Rainflow.Lit
open PylifeVerif.Rainflow PylifeVerif.Rainflow.Common

/-- the closing rule of `fourpoint_loop` for the four points `a b c` (stack) and value `d` -/
def CloseCond (a b c : Pt) (d : Int) : Prop :=
  absDiff b.2 c.2 ≤ absDiff a.2 b.2 ∧ absDiff b.2 c.2 ≤ absDiff c.2 d

/-- A stack (top first) none of whose windows of four consecutive points satisfies the closing rule. -/
def Irr : List Pt → Prop
  | d :: c :: b :: a :: rest => ¬ CloseCond a b c d.2 ∧ Irr (c :: b :: a :: rest)
  | _ => True

theorem irr_tail (p : Pt) (st : List Pt) (h : Irr (p :: st)) : Irr st := by
  match st, h with
  | [], _ => simp [Irr]
  | [_], _ => simp [Irr]
  | [_, _], _ => simp [Irr]
  | _ :: _ :: _ :: _, h => exact h.2

theorem irr_short (st : List Pt) (h : st.length < 4) : Irr st := by
  match st, h with
  | [], _ => simp [Irr]
  | [_], _ => simp [Irr]
  | [_, _], _ => simp [Irr]
  | [_, _, _], _ => simp [Irr]

theorem fpClose_irr (st : List Pt) (d : Int) :
    Irr st → Irr (fpClose st d).2 ∧ ∀ x : Nat, Irr ((x, d) :: (fpClose st d).2) := by
  fun_induction fpClose st d with
  | case1 c b a rest d h r ih =>
    intro hi
    exact ih (irr_tail _ _ (irr_tail _ _ hi))
  | case2 c b a rest d h =>
    intro hi
    exact ⟨hi, fun x => ⟨h, hi⟩⟩
  | case3 st d h =>
    intro hi
    refine ⟨hi, fun x => ?_⟩
    match st, h with
    | [], _ => simp [Irr]
    | [_], _ => simp [Irr]
    | [_, _], _ => simp [Irr]
    | c :: b :: a :: rest, h => exact absurd rfl (h c b a rest)

theorem fpPush_irr (st : List Pt) (p : Pt) (h : Irr st) : Irr (fpPush st p).2 := by
  have := (fpClose_irr st p.2 h).2 p.1
  simpa [fpPush] using this

theorem fpFeed_irr (N : List Pt) : ∀ st : List Pt, Irr st → Irr (fpFeed st N).2 := by
  induction N with
  | nil => intro st h; simpa [fpFeed] using h
  | cons p N ih =>
    intro st h
    simp only [fpFeed]
    exact ih _ (fpPush_irr st p h)

theorem fpClose_of_irr (p : Pt) (st : List Pt) (h : Irr (p :: st)) : fpClose st p.2 = ([], st) := by
  match st, h with
  | [], _ => exact fpClose_nil' _
  | [_], _ => exact fpClose_one' _ _
  | [_, _], _ => exact fpClose_two' _ _ _
  | c :: b :: a :: rest, h => exact fpClose_neg' c b a rest p.2 h.1

theorem fpFeed_rescan (S : List Pt) : Irr S → fpFeed [] S.reverse = ([], S) := by
  induction S with
  | nil => intro _; simp [fpFeed]
  | cons p S ih =>
    intro h
    rw [List.reverse_cons, fpFeed_append, ih (irr_tail p S h)]
    simp [fpFeed, fpPush, fpClose_of_irr p S h]

end PylifeVerif.Rainflow.Lit

namespace PylifeVerif.Rainflow
open Lit

theorem fpCanon_ts (p : List Int) (ch : List Nat) : (fpCanon p ch).ts = canonTs p := by
  cases p <;> rfl

theorem fpCanon_chunks (p : List Int) (ch : List Nat) : (fpCanon p ch).chunks = ch := by
  cases p <;> rfl

theorem fpCanon_last (p : List Int) (ch : List Nat) : (fpCanon p ch).last = p.getLast? := by
  cases p with
  | nil => rfl
  | cons a l =>
    show some (a :: l).getLast! = _
    rw [getLast!_cons, List.getLast?_eq_some_getLast (List.cons_ne_nil _ _)]

theorem fpCanon_stack_irr (p : List Int) (ch : List Nat) : Irr (fpCanon p ch).stack := by
  cases p with
  | nil => trivial
  | cons s0 xs => exact (fpClose_irr _ _ (fpFeed_irr _ _ (irr_short _ (by simp)))).1

theorem fpCanon_stack_ne_nil (s0 : Int) (xs : List Int) (ch : List Nat) :
    (fpCanon (s0 :: xs) ch).stack ≠ [] :=
  Common.fpClose_ne_nil _ _ (Common.fpFeed_ne_nil _ _ (List.cons_ne_nil _ _))

/-- the stack on which a `process` call starts (`x0`: first sample of the chunk) -/
def baseOf (x0 : Int) (σ : DetState) : List Pt := if σ.last.isNone then [(0, x0)] else σ.stack

/-- In a canonical state a `process` call starts on a non-empty irreducible stack. -/
theorem baseOf_canon (p : List Int) (ch : List Nat) (x0 : Int) :
    baseOf x0 (fpCanon p ch) ≠ [] ∧ Irr (baseOf x0 (fpCanon p ch)) := by
  cases p with
  | nil => exact ⟨List.cons_ne_nil _ _, irr_short [(0, x0)] (by simp)⟩
  | cons s0 xs => exact ⟨fpCanon_stack_ne_nil s0 xs ch, fpCanon_stack_irr _ ch⟩

theorem fpProcess_cons (st : DetState) (s0 : Int) (tl : List Int) :
    fpProcess st (s0 :: tl) =
      { ts := (newTurns st.ts (s0 :: tl)).1,
        stack := (fpFeedClose (baseOf s0 st) (newTurns st.ts (s0 :: tl)).2 (s0 :: tl).getLast!).2,
        last := some (s0 :: tl).getLast!,
        cycles := st.cycles ++ (fpFeedClose (baseOf s0 st) (newTurns st.ts (s0 :: tl)).2
          (s0 :: tl).getLast!).1,
        chunks := st.chunks ++ [(s0 :: tl).length] } := by
  simp only [fpProcess, baseOf, fpFeedClose, List.append_assoc]

/-- The canonical state of `p ++ c` from the canonical state of `p`: one `process` call
(`fpProcess_canon`), field by field; `x0` is the first sample of all, `d` the last one of `c`. -/
theorem fpCanon_append (p c : List Int) (ch : List Nat) (x0 d : Int)
    (hx : (p ++ c).head? = some x0) (hd : c.getLast? = some d) :
    fpCanon (p ++ c) (ch ++ [c.length]) =
      { ts := canonTs (p ++ c),
        stack := (fpClose (fpFeed (baseOf x0 (fpCanon p ch)) (newTurnsOf p c)).2 d).2,
        last := some d,
        cycles := (fpCanon p ch).cycles ++ (fpFeed (baseOf x0 (fpCanon p ch)) (newTurnsOf p c)).1 ++
          (fpClose (fpFeed (baseOf x0 (fpCanon p ch)) (newTurnsOf p c)).2 d).1,
        chunks := ch ++ [c.length] } := by
  cases c with
  | nil => simp at hd
  | cons c0 cs =>
    have hl : (c0 :: cs).getLast! = d := by rw [List.getLast!_eq_getLast?_getD, hd]; rfl
    have hb : baseOf c0 (fpCanon p ch) = baseOf x0 (fpCanon p ch) := by
      cases p with
      | nil => simp only [List.nil_append, List.head?_cons, Option.some.injEq] at hx; rw [hx]
      | cons _ _ => rfl
    rw [← fpProcess_canon p (c0 :: cs) ch (List.cons_ne_nil _ _), fpProcess_cons, fpCanon_ts,
      newTurns_canon p (c0 :: cs) (List.cons_ne_nil _ _), fpCanon_chunks, hl, hb]
    simp only [fpFeedClose, List.append_assoc]

end PylifeVerif.Rainflow

namespace PylifeVerif.C02
open PylifeVerif.Rainflow

/-- residual as points: decided stack (oldest first) and the last sample -/
def residualPts (st : DetState) : List Pt :=
  match st.last with
  | none => []
  | some l => st.stack.reverse ++ [(st.ts.head - 1, l)]

theorem residualPts_fpCanon (s : List Int) (ch : List Nat) :
    residualPts (fpCanon s ch) =
      match (fpCanon s ch).last with
      | none => []
      | some l => (fpCanon s ch).stack.reverse ++ [(s.length - 1, l)] := by
  cases s <;> rfl

end PylifeVerif.C02
