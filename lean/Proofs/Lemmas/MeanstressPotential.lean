/-
C12 — general gap-free Haigh diagrams: explicit iso-damage potential and arrival at the target.

A diagram in standard form (`diagram`) is
  `(1, ∞] ↦ Minf`, `(-∞, r₁] ↦ M0`, `(r₁, r₂] ↦ M₁`, …, `(r_n, 1] ↦ M_n`   with `r₁ < r₂ < … < r_n < 1`
(exactly one segment beyond R = 1, no gaps; `HaighDiagram.fkm_goodman` and `HaighDiagram.five_segment` have this form).
Its runs fire, in any listing order (`diagram_fires`: insertion sort by a strict order returns the sorted permutation, which fixes
the processing order of the two phases), and for non-degenerate slopes `hD` is a good potential of it (`diagram_goodPot`): what
`Proofs/Lemmas/MeanstressGuardGeneral.lean` asks of a diagram.  `hD` is a gluing of iso-damage lines (`hD_rec`), hence continuous
and with `a ↦ a·hD(m/a)` non-decreasing and Lipschitz.
-/
import Proofs.Lemmas.MeanstressGuardGeneral
import Mathlib.Tactic.Positivity
import Mathlib.Topology.Algebra.Ring.Real
import Mathlib.Topology.Order.OrderClosed

namespace PylifeVerif.Meanstress
open ExtR

/-! Mathlib's `List.pairwise_insertionSort` asks for a total and transitive order and gives `Pairwise` of that order.  The order
of the model's sorts is `¬ KR b a`, which is not transitive when a key is `nan`; here the strict order `S` is transitive, the
listed elements are comparable by it, and the result is `Pairwise S`. -/
section InsertionSort
variable {α : Type} {S : α → α → Prop} [DecidableRel S] (hT : ∀ a b c, S a b → S b c → S a c)
include hT

theorem pairwise_orderedInsert (x : α) (l : List α) (hl : l.Pairwise S) (hx : ∀ y ∈ l, S x y ∨ S y x) :
    (l.orderedInsert (fun a b => ¬ S b a) x).Pairwise S := by
  induction l with
  | nil => simp
  | cons y ys ih =>
    rw [List.pairwise_cons] at hl
    rw [List.orderedInsert_cons]
    by_cases h : S y x
    · rw [if_neg (not_not.2 h)]
      refine List.pairwise_cons.2 ⟨fun z hz => ?_, ih hl.2 (fun z hz => hx z (List.mem_cons_of_mem _ hz))⟩
      rcases (List.mem_orderedInsert _).1 hz with rfl | hz
      · exact h
      · exact hl.1 z hz
    · rw [if_pos h]
      have hxy : S x y := (hx y List.mem_cons_self).resolve_right h
      refine List.pairwise_cons.2 ⟨fun z hz => ?_, List.pairwise_cons.2 hl⟩
      rcases List.mem_cons.1 hz with rfl | hz
      · exact hxy
      · exact hT _ _ _ hxy (hl.1 z hz)

theorem pairwise_insertionSort (l : List α) (hl : l.Pairwise fun x y => S x y ∨ S y x) :
    (l.insertionSort fun a b => ¬ S b a).Pairwise S := by
  induction l with
  | nil => simp
  | cons x xs ih =>
    rw [List.pairwise_cons] at hl
    exact pairwise_orderedInsert hT x _ (ih hl.2) (fun y hy => hl.1 y ((List.mem_insertionSort _).1 hy))

theorem insertionSort_of_perm (hA : ∀ a b, S a b → S b a → False) {l l' : List α} (hp : l'.Perm l)
    (hl : l.Pairwise S) : (l'.insertionSort fun a b => ¬ S b a) = l :=
  List.Perm.eq_of_pairwise (fun a b _ _ h1 h2 => (hA a b h1 h2).elim)
    (pairwise_insertionSort hT l' ((hl.imp Or.inl).perm hp.symm fun h => h.symm)) hl
    ((List.perm_insertionSort _ _).trans hp)

end InsertionSort

theorem ExtR.lt_trans' {a b c : ExtR ℝ} (h1 : ExtR.lt a b = true) (h2 : ExtR.lt b c = true) : ExtR.lt a c = true := by
  cases a <;> cases b <;> cases c <;> simp_all [ExtR.lt]
  exact lt_trans h1 h2

theorem ExtR.lt_asymm' {a b : ExtR ℝ} (h1 : ExtR.lt a b = true) (h2 : ExtR.lt b a = true) : False := by
  cases a <;> cases b <;> simp_all [ExtR.lt]
  exact lt_asymm h1 h2

theorem sortAsc_of_perm {l l' : List (Seg ℝ)} (hp : l'.Perm l) (hl : l.Pairwise KR) : l'.foldr insertAsc [] = l := by
  rw [foldr_insertAsc]
  exact insertionSort_of_perm (S := KR) (fun _ _ _ => ExtR.lt_trans') (fun _ _ => ExtR.lt_asymm') hp hl

theorem sortDesc_of_perm {l l' : List (Seg ℝ)} (hp : l'.Perm l) (hl : l.Pairwise KR) :
    l'.foldr insertDesc [] = l.reverse := by
  rw [foldr_insertDesc]
  exact insertionSort_of_perm (S := fun a b => KR b a) (fun _ _ _ h1 h2 => ExtR.lt_trans' h2 h1)
    (fun _ _ h1 h2 => ExtR.lt_asymm' h1 h2) (hp.trans (List.reverse_perm l).symm) (List.pairwise_reverse.2 hl)

/-- The segments `(b, r₁], (r₁, r₂], …, (r_n, 1]` with their slopes. -/
def chainR (b : ℝ) : List (ℝ × ℝ) → ℝ → List (Seg ℝ)
  | [], Mn => [⟨fin b, fin 1, Mn⟩]
  | (M, r) :: rest, Mn => ⟨fin b, fin r, M⟩ :: chainR r rest Mn

/-- Borders strictly increasing and below 1. -/
def SortedR (b : ℝ) : List (ℝ × ℝ) → Prop
  | [] => b < 1
  | (_, r) :: rest => b < r ∧ SortedR r rest

/-- The two outer segments of a diagram in standard form: beyond `R = 1`, and from `-∞` to the first border. -/
def Sinf (Minf : ℝ) : Seg ℝ := ⟨fin 1, pinf, Minf⟩
def S0 (M0 r1 : ℝ) : Seg ℝ := ⟨ninf, fin r1, M0⟩

/-- `(1, ∞] ↦ Minf`, `(-∞, r1] ↦ M0`, then the chain from `r1` up to `1`. -/
def diagram (Minf M0 r1 : ℝ) (bs : List (ℝ × ℝ)) (Mn : ℝ) : List (Seg ℝ) :=
  Sinf Minf :: S0 M0 r1 :: chainR r1 bs Mn

theorem goodman_diagram (M M2 : ℝ) : goodman M M2 = diagram 0 M 0 [] M2 := by
  simp [goodman, diagram, chainR, Sinf, S0]

theorem fiveSegment_diagram (M0 M1 M2 M3 M4 R12 R23 : ℝ) :
    fiveSegment M0 M1 M2 M3 M4 R12 R23 = diagram M4 M0 0 [(M1, R12), (M2, R23)] M3 := by
  simp [fiveSegment, diagram, chainR, Sinf, S0]

theorem sortedR_lt1 {b : ℝ} {bs : List (ℝ × ℝ)} (h : SortedR b bs) : b < 1 := by
  induction bs generalizing b with
  | nil => exact h
  | cons p rest ih => obtain ⟨M, r⟩ := p; exact lt_trans h.1 (ih h.2)

theorem mem_chainR {b : ℝ} {bs : List (ℝ × ℝ)} {Mn : ℝ} (hs : SortedR b bs) {s : Seg ℝ}
    (h : s ∈ chainR b bs Mn) : ∃ a c M, s = ⟨fin a, fin c, M⟩ ∧ b ≤ a ∧ a < c ∧ c ≤ 1 := by
  induction bs generalizing b with
  | nil => exact ⟨b, 1, Mn, List.mem_singleton.1 h, le_rfl, hs, le_rfl⟩
  | cons p rest ih =>
    obtain ⟨M, r⟩ := p
    rcases List.mem_cons.1 h with rfl | h
    · exact ⟨b, r, M, rfl, le_rfl, hs.1, (sortedR_lt1 hs.2).le⟩
    · obtain ⟨a, c, M', e, h3, h4⟩ := ih hs.2 h
      exact ⟨a, c, M', e, hs.1.le.trans h3, h4⟩

theorem segKey_fin (a c M : ℝ) : segKey (⟨fin a, fin c, M⟩ : Seg ℝ) = fin (px (1/2 * (a + c))) := by
  simp [segKey, mid, fake, px]

@[simp] theorem segKey_Sinf (M : ℝ) : segKey (Sinf M) = ninf := by simp [segKey, Sinf, mid]
@[simp] theorem segKey_S0 (M r : ℝ) : segKey (S0 M r) = fin (-1) := by simp [segKey, S0, mid, fake]

theorem chainR_pairwise {b : ℝ} {bs : List (ℝ × ℝ)} {Mn : ℝ} (hs : SortedR b bs) :
    (chainR b bs Mn).Pairwise KR := by
  induction bs generalizing b with
  | nil => simp [chainR]
  | cons p rest ih =>
    obtain ⟨M, r⟩ := p
    simp only [chainR, List.pairwise_cons]
    refine ⟨fun t ht => ?_, ih hs.2⟩
    obtain ⟨a, c, M', rfl, h3, h4, h5⟩ := mem_chainR hs.2 ht
    have hr := sortedR_lt1 hs.2
    have hb := hs.1
    simp only [KR, segKey_fin, ExtR.lt, decide_eq_true_eq]
    rw [px_lt (by linarith) (by linarith)]
    linarith

theorem diagram_pairwise (Minf M0 : ℝ) {r1 : ℝ} {bs : List (ℝ × ℝ)} (Mn : ℝ) (hs : SortedR r1 bs) :
    (diagram Minf M0 r1 bs Mn).Pairwise KR := by
  unfold diagram
  rw [List.pairwise_cons, List.pairwise_cons]
  have hc : ∀ t ∈ chainR r1 bs Mn, ∃ y, segKey t = fin y ∧ -1 < y := by
    intro t ht
    obtain ⟨a, c, M, rfl, h3, h4, h5⟩ := mem_chainR hs ht
    exact ⟨_, segKey_fin a c M, px_gt_m1 (by linarith)⟩
  refine ⟨?_, ?_, ?_⟩
  · intro t ht
    rcases List.mem_cons.1 ht with rfl | ht
    · simp [KR, ExtR.lt]
    · obtain ⟨y, hy, _⟩ := hc t ht
      simp [KR, hy, ExtR.lt]
  · intro t ht
    obtain ⟨y, hy, hy1⟩ := hc t ht
    simpa only [KR, hy, segKey_S0, ExtR.lt, decide_eq_true_eq] using hy1
  · exact chainR_pairwise hs

theorem segsLeft_diagram {Minf M0 r1 : ℝ} {bs : List (ℝ × ℝ)} {Mn : ℝ} (hs : SortedR r1 bs) {D' : List (Seg ℝ)}
    (hp : D'.Perm (diagram Minf M0 r1 bs Mn)) (g : ExtR ℝ) :
    segsLeft D' g = (diagram Minf M0 r1 bs Mn).filter fun s => ExtR.lt (segKey s) (goalKey g) :=
  sortAsc_of_perm (hp.filter _) ((diagram_pairwise Minf M0 Mn hs).filter _)

theorem segsRight_diagram {Minf M0 r1 : ℝ} {bs : List (ℝ × ℝ)} {Mn : ℝ} (hs : SortedR r1 bs) {D' : List (Seg ℝ)}
    (hp : D'.Perm (diagram Minf M0 r1 bs Mn)) (g : ExtR ℝ) :
    segsRight D' g = ((diagram Minf M0 r1 bs Mn).filter fun s => ExtR.lt (goalKey g) (segKey s)).reverse :=
  sortDesc_of_perm (hp.filter _) ((diagram_pairwise Minf M0 Mn hs).filter _)

/-- The R value after the left and the right phase over a list `l` in ascending order of the keys, for the target key `κ`: first
the segments left of `κ` in the order of the list, then the segments right of `κ` in the opposite order. -/
noncomputable def sweep (κ : ℝ) (l : List (Seg ℝ)) (R : ExtR ℝ) : ExtR ℝ :=
  (l.filter fun s => ExtR.lt (fin κ) (segKey s)).foldr (fun s R => stepR s s.lo R)
    ((l.filter fun s => ExtR.lt (segKey s) (fin κ)).foldl (fun R s => stepR s (leftBoundary s) R) R)

/-- The head of the list comes first in the left phase and last in the right phase. -/
theorem sweep_cons (κ : ℝ) (s : Seg ℝ) (l : List (Seg ℝ)) (R : ExtR ℝ) :
    sweep κ (s :: l) R = (if ExtR.lt (fin κ) (segKey s) then stepR s s.lo else id)
      (sweep κ l ((if ExtR.lt (segKey s) (fin κ) then stepR s (leftBoundary s) else id) R)) := by
  unfold sweep
  rw [List.filter_cons, List.filter_cons]
  split <;> split <;> rfl

theorem stepR_fin {a c M : ℝ} (g : ExtR ℝ) (r : ℝ) :
    stepR ⟨fin a, fin c, M⟩ g (fin r) = if a ≤ r ∧ r ≤ c then normGoal g else fin r := by
  simp [stepR, push, ExtR.le]

theorem stepR_ninf {a c M : ℝ} (g : ExtR ℝ) : stepR ⟨fin a, fin c, M⟩ g ninf = ninf := by
  unfold stepR
  have : push ninf g = ninf ∨ push ninf g = pinf := by
    simp only [push]; split <;> simp
  rcases this with h | h <;> rw [h] <;> simp [ExtR.le]

theorem chain_fold_ninf (Mn : ℝ) : ∀ (bs : List (ℝ × ℝ)) (b : ℝ),
    (chainR b bs Mn).foldr (fun s R => stepR s s.lo R) ninf = ninf
  | [], _ => stepR_ninf _
  | (_, r) :: rest, _ => by rw [chainR, List.foldr_cons, chain_fold_ninf Mn rest r, stepR_ninf]

theorem lt_fin_fin (a b : ℝ) : ExtR.lt (fin a) (fin b) = decide (a < b) := rfl
theorem lt_ninf_fin (b : ℝ) : ExtR.lt ninf (fin b) = true := rfl
theorem lt_fin_ninf (a : ℝ) : ExtR.lt (fin a) ninf = false := rfl

/-- The keys of a chain lie right of the abscissa of its left end: for a target at or left of it every chain segment
belongs to the right phase and none to the left phase. -/
theorem chain_key_gt {b : ℝ} {bs : List (ℝ × ℝ)} {Mn : ℝ} (hs : SortedR b bs) {s : Seg ℝ}
    (h : s ∈ chainR b bs Mn) {κ : ℝ} (hκ : κ ≤ px b) :
    ExtR.lt (fin κ) (segKey s) = true ∧ ExtR.lt (segKey s) (fin κ) = false := by
  obtain ⟨a, c, M, rfl, h3, h4, h5⟩ := mem_chainR hs h
  have := (px_lt (sortedR_lt1 hs) (by linarith)).2 (by linarith : b < 1/2 * (a + c))
  rw [segKey_fin, lt_fin_fin, lt_fin_fin, decide_eq_true_eq, decide_eq_false_iff_not]
  constructor <;> linarith

theorem sweep_chain_right {b : ℝ} {bs : List (ℝ × ℝ)} {Mn : ℝ} (hs : SortedR b bs) {κ : ℝ} (hκ : κ ≤ px b) (R : ExtR ℝ) :
    sweep κ (chainR b bs Mn) R = (chainR b bs Mn).foldr (fun s R => stepR s s.lo R) R := by
  unfold sweep
  rw [List.filter_eq_nil_iff.2 fun _ ht => Bool.eq_false_iff.1 (chain_key_gt hs ht hκ).2,
    List.filter_eq_self.2 fun _ ht => (chain_key_gt hs ht hκ).1, List.foldl_nil]

theorem right_sweep (Mn : ℝ) : ∀ (bs : List (ℝ × ℝ)) (b r : ℝ), SortedR b bs → r < 1 →
    (chainR b bs Mn).foldr (fun s R => stepR s s.lo R) (fin r) = fin (min r b) := by
  intro bs
  induction bs with
  | nil =>
    intro b r hs hr
    rw [chainR, List.foldr_cons, List.foldr_nil, stepR_fin, normGoal_fin hs.ne]
    by_cases h : b ≤ r
    · rw [if_pos ⟨h, hr.le⟩, min_eq_right h]
    · rw [if_neg fun h' => h h'.1, min_eq_left (not_le.1 h).le]
  | cons p rest ih =>
    obtain ⟨M, r1⟩ := p
    intro b r hs hr
    have hb1 : b < 1 := hs.1.trans (sortedR_lt1 hs.2)
    rw [chainR, List.foldr_cons, ih r1 r hs.2 hr, stepR_fin, normGoal_fin hb1.ne]
    by_cases h : b ≤ r
    · rw [if_pos ⟨le_min h hs.1.le, min_le_right _ _⟩, min_eq_right h]
    · have hrb := not_le.1 h
      rw [min_eq_left (hrb.trans hs.1).le, if_neg fun h' => h h'.1, min_eq_left hrb.le]

theorem leftBoundary_fin (a c M : ℝ) : leftBoundary (⟨fin a, fin c, M⟩ : Seg ℝ) = if c < 1 then fin c else fin a := by
  simp [leftBoundary, ExtR.lt]

theorem stepR_left_chain {a c : ℝ} (M : ℝ) (hac : a < c) (hc : c ≤ 1) {r : ℝ} (har : a ≤ r) (hr : r < 1) :
    ∃ r0, stepR ⟨fin a, fin c, M⟩ (leftBoundary ⟨fin a, fin c, M⟩) (fin r) = fin r0 ∧ a ≤ r0 ∧ r0 < 1 ∧ (c < 1 → c ≤ r0) := by
  rw [stepR_fin, leftBoundary_fin]
  by_cases h : r ≤ c
  · rw [if_pos ⟨har, h⟩]
    by_cases hc1 : c < 1
    · rw [if_pos hc1, normGoal_fin hc1.ne]
      exact ⟨c, rfl, hac.le, hc1, fun _ => le_rfl⟩
    · rw [if_neg hc1, normGoal_fin (hac.trans_le hc).ne]
      exact ⟨a, rfl, le_rfl, hac.trans_le hc, fun h1 => absurd h1 hc1⟩
  · rw [if_neg fun h' => h h'.2]
    exact ⟨r, rfl, har, hr, fun _ => (not_le.1 h).le⟩

/-- The target lies in the first segment `(b, c]` of a list over whose other segments the two phases bring a cycle to `c` unless it
is left of `c` (they all belong to the right phase): after both phases the cycle lies in `[b, c]`. -/
theorem head_arrives {κ b c M : ℝ} (hbc : b < c) (hc : c ≤ 1) {tl : List (Seg ℝ)}
    (htl : ∀ r, r < 1 → sweep κ tl (fin r) = fin (min r c)) {r : ℝ} (hbr : b ≤ r) (hr1 : r < 1) :
    ∃ r'', sweep κ (⟨fin b, fin c, M⟩ :: tl) (fin r) = fin r'' ∧ b ≤ r'' ∧ r'' ≤ c := by
  obtain ⟨r0, e0, h0, h0'⟩ : ∃ r0, (if ExtR.lt (segKey ⟨fin b, fin c, M⟩) (fin κ) then
      stepR ⟨fin b, fin c, M⟩ (leftBoundary ⟨fin b, fin c, M⟩) else id) (fin r) = fin r0 ∧ b ≤ r0 ∧ r0 < 1 := by
    split
    · obtain ⟨r0, e, h1, h2, _⟩ := stepR_left_chain M hbc hc hbr hr1
      exact ⟨r0, e, h1, h2⟩
    · exact ⟨r, rfl, hbr, hr1⟩
  have hm : b ≤ min r0 c := le_min h0 hbc.le
  rw [sweep_cons, e0, htl r0 h0']
  split
  · -- the target segment is in the right phase, after the others
    rw [stepR_fin, if_pos ⟨hm, min_le_right _ _⟩, normGoal_fin (hbc.trans_le hc).ne]
    exact ⟨b, rfl, le_rfl, hbc.le⟩
  · exact ⟨_, rfl, hm, min_le_right _ _⟩

/-- Target `q` inside the chain: after both phases the cycle lies in the chain segment `(a, c]` that contains `q`.  A segment
that ends left of `q` belongs to the left phase only and hands the cycle on to the rest of the chain. -/
theorem chain_arrives (Mn : ℝ) {q : ℝ} (hq : q < 1) : ∀ (bs : List (ℝ × ℝ)) (b r : ℝ), SortedR b bs → b < q → b ≤ r → r < 1 →
    ∃ a c M r'', (⟨fin a, fin c, M⟩ : Seg ℝ) ∈ chainR b bs Mn ∧ a < q ∧ q ≤ c ∧
      sweep (px q) (chainR b bs Mn) (fin r) = fin r'' ∧ a ≤ r'' ∧ r'' ≤ c := by
  intro bs
  induction bs with
  | nil =>
    intro b r hs hbq hbr hr
    obtain ⟨r'', e, h⟩ := head_arrives (κ := px q) (M := Mn) hs le_rfl (tl := [])
      (fun r hr => by rw [min_eq_left hr.le]; rfl) hbr hr
    exact ⟨b, 1, Mn, r'', List.mem_singleton.2 rfl, hbq, hq.le, e, h⟩
  | cons p rest ih =>
    obtain ⟨M, r1⟩ := p
    intro b r hs hbq hbr hr
    have hr1 := sortedR_lt1 hs.2
    rcases le_or_gt q r1 with h | h
    · obtain ⟨r'', e, h'⟩ := head_arrives (M := M) hs.1 hr1.le
        (fun r hr => by rw [sweep_chain_right hs.2 ((px_le hq hr1).2 h), right_sweep Mn rest r1 r hs.2 hr]) hbr hr
      exact ⟨b, r1, M, r'', List.mem_cons_self, hbq, h, e, h'⟩
    · obtain ⟨r0, e0, _, h0, h0'⟩ := stepR_left_chain M hs.1 hr1.le hbr hr
      obtain ⟨a, c, M', r'', hm, h1, h2, e, h3⟩ := ih r1 r0 hs.2 h (h0' hr1) h0
      have hm1 : 1/2 * (b + r1) < 1 := by linarith [hs.1]
      have kl : ExtR.lt (segKey ⟨fin b, fin r1, M⟩) (fin (px q)) = true := by
        rw [segKey_fin, lt_fin_fin, decide_eq_true_eq, px_lt hm1 hq]
        linarith [hs.1]
      have kr : ¬ ExtR.lt (fin (px q)) (segKey ⟨fin b, fin r1, M⟩) = true := by
        rw [segKey_fin, lt_fin_fin, decide_eq_true_eq, px_lt hq hm1]
        linarith [hs.1]
      refine ⟨a, c, M', r'', List.mem_cons_of_mem _ hm, h1, h2, ?_, h3⟩
      rw [chainR, sweep_cons, if_pos kl, if_neg kr, e0]
      exact e

/-- `-∞` or a real number below 1: where a cycle is after the step of the left phase on the segment beyond `R = 1` (`stepR_Sinf_left`). -/
def Below1 (R : ExtR ℝ) : Prop := R = ninf ∨ ∃ r, r < 1 ∧ R = fin r

theorem goalKey_fin (q : ℝ) : goalKey (fin q) = fin (px q) := by simp [goalKey, fake, px]
theorem goalKey_ninf : goalKey (ninf : ExtR ℝ) = fin (-1) := by simp [goalKey]

theorem leftBoundary_Sinf (M : ℝ) : leftBoundary (Sinf M) = fin 1 := by simp [leftBoundary, Sinf, ExtR.lt]
theorem leftBoundary_S0 (M : ℝ) {r1 : ℝ} (h : r1 < 1) : leftBoundary (S0 M r1) = fin r1 := by
  simp [leftBoundary, S0, ExtR.lt, h]

/-- The segment beyond R = 1 sends every cycle with R > 1 to R = -∞. -/
theorem stepR_Sinf_left (M : ℝ) {R : ExtR ℝ} (hR : ValidR R) : Below1 (stepR (Sinf M) (fin 1) R) := by
  rcases R with r | _ | _ | _
  · by_cases h : 1 ≤ r
    · exact .inl (by simp [stepR, push, Sinf, ExtR.le, h, normGoal_one])
    · exact .inr ⟨r, not_le.1 h, by simp [stepR, push, Sinf, ExtR.le, h]⟩
  · exact hR.elim
  · exact .inl (by simp [stepR, push, Sinf, ExtR.le, ExtR.lt])
  · exact hR.elim

theorem stepR_S0_left (M : ℝ) {r1 : ℝ} (h1 : r1 < 1) {R : ExtR ℝ} (hR : Below1 R) :
    ∃ r0, stepR (S0 M r1) (fin r1) R = fin r0 ∧ r1 ≤ r0 ∧ r0 < 1 := by
  obtain rfl | ⟨r, hr, rfl⟩ := hR
  · exact ⟨r1, by simp [stepR, push, S0, ExtR.le, ExtR.lt, h1.not_gt, normGoal_fin h1.ne], le_refl _, h1⟩
  · by_cases h : r ≤ r1
    · exact ⟨r1, by simp [stepR, push, S0, ExtR.le, h, normGoal_fin h1.ne], le_refl _, h1⟩
    · exact ⟨r, by simp [stepR, push, S0, ExtR.le, h], by linarith, hr⟩

/-! For any listing order `D'` of the diagram: the sort keys fix the processing order of the left and the right phase, and the last
phase only needs one segment that fires. -/

section Arrival
variable {Minf M0 r1 : ℝ} {bs : List (ℝ × ℝ)} {Mn : ℝ} {D' : List (Seg ℝ)}

/-- The run before the last phase: `(1, ∞]` opens the left phase for every target; `(-∞, r1]` follows it there for a target key
right of `-1`, and closes the right phase for a target key left of `-1`. -/
theorem afterRight_diagram (hs : SortedR r1 bs) (hp : D'.Perm (diagram Minf M0 r1 bs Mn)) {g : ExtR ℝ} {κ : ℝ}
    (hκ : goalKey g = fin κ) (c : Cyc ℝ) :
    (afterRight D' g c).R = (if κ < -1 then stepR (S0 M0 r1) ninf else id)
      (sweep κ (chainR r1 bs Mn) ((if -1 < κ then stepR (S0 M0 r1) (leftBoundary (S0 M0 r1)) else id)
        (stepR (Sinf Minf) (fin 1) c.R))) := by
  unfold afterRight afterLeft
  rw [foldl_step_R (fun s => s.lo), foldl_step_R leftBoundary, segsLeft_diagram hs hp, segsRight_diagram hs hp, hκ,
    List.foldl_reverse]
  show sweep κ (diagram Minf M0 r1 bs Mn) c.R = _
  rw [diagram, sweep_cons, sweep_cons]
  simp only [segKey_Sinf, segKey_S0, lt_fin_fin, lt_ninf_fin, lt_fin_ninf, decide_eq_true_eq, if_true,
    Bool.false_eq_true, if_false, id, leftBoundary_Sinf]
  rfl

theorem diagram_fires_lt1 (hs : SortedR r1 bs) (hp : D'.Perm (diagram Minf M0 r1 bs Mn)) {q : ℝ} (hq : q < 1) {c : Cyc ℝ}
    (hR : ValidR c.R) : ∃ s ∈ segsContaining D' (fin q), memSeg (push (afterRight D' (fin q) c).R (fin q)) s := by
  have hr1 := sortedR_lt1 hs
  have hκ := px_gt_m1 hq
  obtain ⟨r0, e0, h0a, h0b⟩ := stepR_S0_left M0 hr1 (stepR_Sinf_left Minf hR)
  rw [afterRight_diagram hs hp (goalKey_fin q), if_neg hκ.not_gt, if_pos hκ, leftBoundary_S0 M0 hr1, e0]
  rcases le_or_gt q r1 with hq1 | hq1
  · -- the target lies in `(-∞, r1]`: the whole chain is in the right phase
    rw [sweep_chain_right hs ((px_le hq hr1).2 hq1), right_sweep Mn bs r1 r0 hs h0b]
    exact ⟨S0 M0 r1, mem_segsContaining.2 ⟨hp.mem_iff.2 (List.mem_cons_of_mem _ List.mem_cons_self),
      .inl (by simp [S0, ExtR.lt, ExtR.le, hq1])⟩, by simp [push, memSeg, S0, ExtR.le]⟩
  · -- the target lies in a chain segment `(a, c]`
    obtain ⟨a, c, M, r'', hsm, haq, hqc, e, hlo, hup⟩ := chain_arrives Mn hq bs r1 r0 hs hq1 h0a h0b
    rw [e]
    exact ⟨_, mem_segsContaining.2 ⟨hp.mem_iff.2 (List.mem_cons_of_mem _ (List.mem_cons_of_mem _ hsm)),
      .inl (by simp [ExtR.lt, ExtR.le, haq, hqc])⟩, by simp [push, memSeg, ExtR.le, hlo, hup]⟩

/-- For a target at or beyond `R = ±∞` the two phases over the chain bring every cycle below `R = 1` into `[-∞, r1]`, where
`(-∞, r1]` fires for the goal `-∞`. -/
theorem right_all (M0 Mn : ℝ) (hs : SortedR r1 bs) {κ : ℝ} (hκ : κ ≤ -1) {R0 : ExtR ℝ} (h0 : Below1 R0) :
    memSeg (push (sweep κ (chainR r1 bs Mn) R0) ninf) (S0 M0 r1) := by
  rw [sweep_chain_right hs (hκ.trans (px_gt_m1 (sortedR_lt1 hs)).le)]
  obtain rfl | ⟨r, hr, rfl⟩ := h0
  · rw [chain_fold_ninf]
    simp [push, ExtR.lt, memSeg, S0, ExtR.le]
  · rw [right_sweep Mn bs r1 r hs hr]
    simp [push, memSeg, S0, ExtR.le]

theorem diagram_fires_ninf (hs : SortedR r1 bs) (hp : D'.Perm (diagram Minf M0 r1 bs Mn)) {c : Cyc ℝ} (hR : ValidR c.R) :
    ∃ s ∈ segsContaining D' ninf, memSeg (push (afterRight D' ninf c).R ninf) s := by
  -- nothing lies below `-∞`: only the left-closed test can hold
  refine ⟨S0 M0 r1, mem_segsContaining.2 ⟨hp.mem_iff.2 (List.mem_cons_of_mem _ List.mem_cons_self),
    .inr ⟨fun t _ => by cases t.lo <;> simp [ExtR.lt], by simp [S0, ExtR.lt, ExtR.le]⟩⟩, ?_⟩
  rw [afterRight_diagram hs hp goalKey_ninf, if_neg (lt_irrefl _), if_neg (lt_irrefl _), id_eq, id_eq]
  exact right_all M0 Mn hs (le_refl (-1)) (stepR_Sinf_left Minf hR)

theorem diagram_fires_gt1 (hs : SortedR r1 bs) (hp : D'.Perm (diagram Minf M0 r1 bs Mn)) {q : ℝ} (hq : 1 < q) {c : Cyc ℝ}
    (hR : ValidR c.R) : ∃ s ∈ segsContaining D' (fin q), memSeg (push (afterRight D' (fin q) c).R (fin q)) s := by
  have hκ := px_lt_m1 hq
  refine ⟨Sinf Minf, mem_segsContaining.2 ⟨hp.mem_iff.2 List.mem_cons_self, .inl (by simp [Sinf, ExtR.lt, ExtR.le, hq])⟩, ?_⟩
  -- `(-∞, r1]` closes the right phase and fires
  rw [afterRight_diagram hs hp (goalKey_fin q), if_pos hκ, if_neg hκ.not_gt, id_eq,
    stepR_pos (right_all M0 Mn hs hκ.le (stepR_Sinf_left Minf hR)), normGoal_ninf]
  simp [push, ExtR.lt, hq, memSeg, Sinf, ExtR.le]

theorem diagram_fires (hs : SortedR r1 bs) (hp : D'.Perm (diagram Minf M0 r1 bs Mn)) : Fires D' := by
  intro g c hg hR
  rcases g with q | _ | _ | _
  · rcases lt_or_gt_of_ne (show q ≠ 1 from hg) with h | h
    · exact diagram_fires_lt1 hs hp h hR
    · exact diagram_fires_gt1 hs hp h hR
  · exact hg.elim
  · exact diagram_fires_ninf hs hp hR
  · exact hg.elim

end Arrival

/-- Potential on the chain that starts at the border `b`, where it has the value `v`: on each segment
`k·(1 + M·x)` with `k` fixed by continuity at the segment's left border. -/
noncomputable def hC (v b : ℝ) : List (ℝ × ℝ) → ℝ → ℝ → ℝ
  | [], Mn, x => v * (1 + Mn * x) / (1 + Mn * px b)
  | (M, r) :: rest, Mn, x =>
      if x ≤ px r then v * (1 + M * x) / (1 + M * px b)
      else hC (v * (1 + M * px r) / (1 + M * px b)) r rest Mn x

/-- The iso-damage potential of `diagram Minf M0 r1 bs Mn`, normalised so that its line on `(-∞, r1]` is `1 + M0·x`
(`h(0) = 1` at R = -1 if `-1 ≤ r1`). -/
noncomputable def hD (Minf M0 r1 : ℝ) (bs : List (ℝ × ℝ)) (Mn : ℝ) (x : ℝ) : ℝ :=
  if x ≤ -1 then (1 - M0) * (1 + Minf * x) / (1 - Minf)
  else if x ≤ px r1 then 1 + M0 * x
  else hC (1 + M0 * px r1) r1 bs Mn x

/-- The iso-damage lines of each chain segment have positive amplitude at both ends of the segment. -/
def GoodC (b : ℝ) : List (ℝ × ℝ) → ℝ → Prop
  | [], Mn => 0 < 1 + Mn * px b
  | (M, r) :: rest, Mn => 0 < 1 + M * px b ∧ 0 < 1 + M * px r ∧ GoodC r rest Mn

/-- Non-degenerate diagram: at every kink both adjacent iso-damage lines have positive amplitude. -/
def GoodD (Minf M0 r1 : ℝ) (bs : List (ℝ × ℝ)) (Mn : ℝ) : Prop :=
  Minf < 1 ∧ M0 < 1 ∧ 0 < 1 + M0 * px r1 ∧ GoodC r1 bs Mn

theorem hC_nil (v b Mn : ℝ) : hC v b [] Mn = fun x => v * (1 + Mn * x) / (1 + Mn * px b) := rfl

theorem hC_cons (v b M r : ℝ) (rest : List (ℝ × ℝ)) (Mn : ℝ) :
    hC v b ((M, r) :: rest) Mn = fun x => if x ≤ px r then v * (1 + M * x) / (1 + M * px b)
      else hC (v * (1 + M * px r) / (1 + M * px b)) r rest Mn x := rfl

theorem hC_left : ∀ (bs : List (ℝ × ℝ)) (v b Mn : ℝ), SortedR b bs → GoodC b bs Mn → hC v b bs Mn (px b) = v := by
  intro bs
  cases bs with
  | nil =>
    intro v b Mn _ hg
    simp only [GoodC] at hg
    simp only [hC]
    field_simp
  | cons p rest =>
    obtain ⟨M, r⟩ := p
    intro v b Mn hs hg
    have hr := sortedR_lt1 hs.2
    have : px b ≤ px r := (px_le (by linarith [hs.1]) hr).2 hs.1.le
    have h0 := hg.1
    simp only [hC, this, if_true]
    field_simp

theorem chain_piece (Mn : ℝ) : ∀ (bs : List (ℝ × ℝ)) (v b : ℝ), SortedR b bs → GoodC b bs Mn → 0 < v →
    ∀ {a c M : ℝ}, (⟨fin a, fin c, M⟩ : Seg ℝ) ∈ chainR b bs Mn →
      0 < 1 + M * px a ∧ (c < 1 → 0 < 1 + M * px c) ∧
      ∃ k, 0 < k ∧ ∀ x, px a ≤ x → (c < 1 → x ≤ px c) → hC v b bs Mn x = k * (1 + M * x) := by
  intro bs
  induction bs with
  | nil =>
    intro v b hs hg hv a c M hsm
    cases List.mem_singleton.1 hsm
    have hg : 0 < 1 + Mn * px b := hg
    exact ⟨hg, fun h => absurd h (lt_irrefl _), v / (1 + Mn * px b), by positivity, fun x _ _ => by rw [hC_nil]; ring⟩
  | cons p rest ih =>
    obtain ⟨M', r⟩ := p
    intro v b hs hg hv a c M hsm
    have hr := sortedR_lt1 hs.2
    obtain ⟨g1, g2, g3⟩ := hg
    rcases List.mem_cons.1 hsm with e | hsm
    · simp only [Seg.mk.injEq, ExtR.fin.injEq] at e
      obtain ⟨rfl, rfl, rfl⟩ := e
      exact ⟨g1, fun _ => g2, v / (1 + M * px a), by positivity, fun x _ hx => by simp only [hC, if_pos (hx hr)]; ring⟩
    · obtain ⟨_, _, _, e, h3, h4, h5⟩ := mem_chainR hs.2 hsm
      cases e
      obtain ⟨pa, pc, k, hk, hf⟩ := ih (v * (1 + M' * px r) / (1 + M' * px b)) r hs.2 g3 (by positivity) hsm
      refine ⟨pa, pc, k, hk, fun x hx1 hx2 => ?_⟩
      have hra : px r ≤ px a := (px_le hr (by linarith)).2 h3
      simp only [hC]
      split_ifs with hc
      · -- only at the kink `x = px r`, where the two lines meet
        obtain rfl : x = px r := le_antisymm hc (hra.trans hx1)
        rw [← hf _ hx1 hx2, hC_left rest _ r Mn hs.2 g3]
      · exact hf x hx1 hx2

section Potential
variable {Minf M0 r1 : ℝ} {bs : List (ℝ × ℝ)} {Mn : ℝ}

theorem hD_inf {x : ℝ} (hx : x ≤ -1) :
    hD Minf M0 r1 bs Mn x = (1 - M0) / (1 - Minf) * (1 + Minf * x) := by
  simp only [hD, hx, if_true]; ring

theorem hD_0 (hM : Minf < 1) {x : ℝ} (hx1 : -1 ≤ x) (hx2 : x ≤ px r1) :
    hD Minf M0 r1 bs Mn x = 1 + M0 * x := by
  unfold hD
  split_ifs with h
  · have : x = -1 := le_antisymm h hx1
    subst this
    have : (1 - Minf) ≠ 0 := by linarith
    field_simp
    ring
  · ring

theorem hD_right (hs : SortedR r1 bs) (hg : GoodD Minf M0 r1 bs Mn) {x : ℝ} (hx : px r1 ≤ x) :
    hD Minf M0 r1 bs Mn x = hC (1 + M0 * px r1) r1 bs Mn x := by
  have := px_gt_m1 (sortedR_lt1 hs)
  unfold hD
  rw [if_neg (by linarith)]
  split_ifs with hc
  · obtain rfl : x = px r1 := le_antisymm hc hx
    rw [hC_left bs _ r1 Mn hs hg.2.2.2]
  · rfl

theorem Sinf_range {M : ℝ} {R : ExtR ℝ} (hm : memSeg R (Sinf M)) (h1 : R.isOne = false) : pos R ≤ -1 := by
  rcases R with r | _ | _ | _
  · simp only [memSeg, Sinf, ExtR.le, Bool.and_true, decide_eq_true_eq] at hm
    simp only [ExtR.isOne, lit_one, decide_eq_false_iff_not, not_and_or, not_le] at h1
    exact (px_lt_m1 (by rcases h1 with h | h <;> linarith)).le
  · exact le_rfl
  all_goals simp [memSeg, Sinf, ExtR.le] at hm

theorem S0_range {M r1 : ℝ} (hr1 : r1 < 1) {R : ExtR ℝ} (hm : memSeg R (S0 M r1)) : -1 ≤ pos R ∧ pos R ≤ px r1 := by
  rcases R with r | _ | _ | _
  · simp only [memSeg, S0, ExtR.le, Bool.true_and, decide_eq_true_eq] at hm
    have hr : r < 1 := by linarith
    exact ⟨(px_gt_m1 hr).le, (px_le hr hr1).2 hm⟩
  · simp [memSeg, S0, ExtR.le] at hm
  · exact ⟨le_rfl, (px_gt_m1 hr1).le⟩
  · simp [memSeg, S0, ExtR.le] at hm

theorem chain_range {a c M : ℝ} (hc : c ≤ 1) {R : ExtR ℝ} (hm : memSeg R ⟨fin a, fin c, M⟩) (h1 : R.isOne = false) :
    px a ≤ pos R ∧ (c < 1 → pos R ≤ px c) := by
  rcases R with r | _ | _ | _
  · simp only [memSeg, ExtR.le, Bool.and_eq_true, decide_eq_true_eq] at hm
    simp only [ExtR.isOne, lit_one, decide_eq_false_iff_not, not_and_or, not_le] at h1
    have hr : r < 1 := by rcases h1 with h | h <;> linarith [hm.2]
    exact ⟨(px_le (by linarith [hm.1]) hr).2 hm.1, fun hc1 => (px_le hr hc1).2 hm.2⟩
  all_goals simp [memSeg, ExtR.le] at hm

theorem diagram_goodPot (hs : SortedR r1 bs) (hg : GoodD Minf M0 r1 bs Mn) :
    GoodPot (hD Minf M0 r1 bs Mn) (diagram Minf M0 r1 bs Mn) := by
  intro s hsD
  have hr1 := sortedR_lt1 hs
  obtain ⟨g1, g2, g3, g4⟩ := hg
  rcases List.mem_cons.1 hsD with rfl | hsD
  · -- (1, ∞]: both goals are `1 ↦ -∞`
    refine ⟨(1 - M0) / (1 - Minf), div_pos (by linarith) (by linarith), fun R hm h1 => hD_inf (Sinf_range hm h1),
      fun G hG => ?_⟩
    have : normGoal G = ninf := by rcases hG with rfl | rfl <;> [rw [leftBoundary_Sinf]; skip] <;> exact normGoal_one
    rw [this]
    exact ⟨trivial, by show 0 < 1 + Minf * -1; linarith, hD_inf le_rfl⟩
  rcases List.mem_cons.1 hsD with rfl | hsD
  · -- (-∞, r1]
    have key : ∀ R, memSeg R (S0 M0 r1) → hD Minf M0 r1 bs Mn (pos R) = 1 * (1 + (S0 M0 r1).M * pos R) :=
      fun R hm => (hD_0 g1 (S0_range hr1 hm).1 (S0_range hr1 hm).2).trans (one_mul _).symm
    refine ⟨1, one_pos, fun R hm _ => key R hm, ?_⟩
    rintro G (rfl | rfl)
    · rw [leftBoundary_S0 M0 hr1, normGoal_fin hr1.ne]
      exact ⟨hr1.ne, g3, key _ (by simp [memSeg, S0, ExtR.le])⟩
    · exact ⟨trivial, by show 0 < 1 + M0 * -1; linarith, key ninf (by simp [memSeg, S0, ExtR.le])⟩
  · -- chain segment `(a, c]`
    obtain ⟨a, c, M, rfl, h3, h4, h5⟩ := mem_chainR hs hsD
    obtain ⟨pa, pc, k, hk, hf⟩ := chain_piece Mn bs _ r1 hs g4 g3 hsD
    have hra : px r1 ≤ px a := (px_le hr1 (by linarith)).2 h3
    have ha1 : a < 1 := by linarith
    have key : ∀ x, px a ≤ x → (c < 1 → x ≤ px c) → hD Minf M0 r1 bs Mn x = k * (1 + M * x) := fun x h1 h2 => by
      rw [hD_right hs ⟨g1, g2, g3, g4⟩ (hra.trans h1)]; exact hf x h1 h2
    have lo : ValidR (normGoal (fin a)) ∧ 0 < 1 + M * pos (normGoal (fin a)) ∧
        hD Minf M0 r1 bs Mn (pos (normGoal (fin a))) = k * (1 + M * pos (normGoal (fin a))) := by
      rw [normGoal_fin ha1.ne]
      exact ⟨ha1.ne, pa, key _ le_rfl fun hc => (px_le ha1 hc).2 h4.le⟩
    refine ⟨k, hk, fun R hm h1 => ?_, ?_⟩
    · obtain ⟨x1, x2⟩ := chain_range h5 hm h1
      exact key _ x1 x2
    · rintro G (rfl | rfl)
      · rw [leftBoundary_fin]
        split_ifs with hc
        · rw [normGoal_fin hc.ne]
          exact ⟨hc.ne, pc hc, key _ ((px_le ha1 hc).2 h4.le) fun _ => le_rfl⟩
        · exact lo
      · exact lo

end Potential

/-- The chain potential is built from iso-damage lines `x ↦ k·(1 + M·x)/d`, `k/d > 0`, by gluing two functions that agree at a
kink `β`: what holds of the lines and survives gluing holds of `hC`. -/
theorem hC_rec {P : (ℝ → ℝ) → Prop} (line : ∀ k M d : ℝ, 0 < k / d → P fun x => k * (1 + M * x) / d)
    (glue : ∀ f g β, P f → P g → f β = g β → P fun x => if x ≤ β then f x else g x) (Mn : ℝ) :
    ∀ (bs : List (ℝ × ℝ)) (v b : ℝ), SortedR b bs → GoodC b bs Mn → 0 < v → P (hC v b bs Mn) := by
  intro bs
  induction bs with
  | nil =>
    intro v b _ hg hv
    have hg : 0 < 1 + Mn * px b := hg
    exact line v Mn _ (by positivity)
  | cons p rest ih =>
    obtain ⟨M, r⟩ := p
    intro v b hs hg hv
    obtain ⟨g1, g2, g3⟩ := hg
    rw [hC_cons]
    refine glue _ _ _ (line v M _ (by positivity)) (ih _ r hs.2 g3 (by positivity)) ?_
    rw [hC_left rest _ r Mn hs.2 g3]

/-- … and of the potential `hD` of a diagram in standard form. -/
theorem hD_rec {P : (ℝ → ℝ) → Prop} (line : ∀ k M d : ℝ, 0 < k / d → P fun x => k * (1 + M * x) / d)
    (glue : ∀ f g β, P f → P g → f β = g β → P fun x => if x ≤ β then f x else g x)
    {Minf M0 r1 : ℝ} {bs : List (ℝ × ℝ)} {Mn : ℝ} (hs : SortedR r1 bs) (hg : GoodD Minf M0 r1 bs Mn) :
    P (hD Minf M0 r1 bs Mn) := by
  obtain ⟨g1, g2, g3, g4⟩ := hg
  have h0 : P fun x => 1 + M0 * x := by simpa only [one_mul, div_one] using line 1 M0 1 (by norm_num)
  unfold hD
  refine glue _ _ _ (line _ Minf _ (div_pos (by linarith) (by linarith)))
    (glue _ _ _ h0 (hC_rec line glue Mn bs _ r1 hs g4 g3) (by rw [hC_left bs _ r1 Mn hs g4])) ?_
  rw [if_pos (px_gt_m1 (sortedR_lt1 hs)).le]
  have : (1 - Minf) ≠ 0 := by linarith
  field_simp
  ring

theorem hD_continuous {Minf M0 r1 : ℝ} {bs : List (ℝ × ℝ)} {Mn : ℝ} (hs : SortedR r1 bs) (hg : GoodD Minf M0 r1 bs Mn) :
    Continuous (hD Minf M0 r1 bs Mn) :=
  hD_rec (fun _ _ _ _ => by fun_prop)
    (fun _ _ _ hf hg e => hf.if_le hg continuous_id continuous_const fun x hx => by rw [hx, e]) hs hg

theorem PerspMono.mono {h : ℝ → ℝ} {L L' : ℝ} (H : PerspMono h L) (hL : L ≤ L') : PerspMono h L' := by
  intro m a₁ a₂ h1 h2
  obtain ⟨p, q⟩ := H m a₁ a₂ h1 h2
  exact ⟨p, le_trans q (mul_le_mul_of_nonneg_right hL (by linarith))⟩

theorem perspMono_linear (k M d : ℝ) (hk : 0 ≤ k / d) : PerspMono (fun x => k * (1 + M * x) / d) (k / d) := by
  intro m a₁ a₂ h1 h2
  have e : ∀ a : ℝ, a ≠ 0 → a * (k * (1 + M * (m / a)) / d) = k / d * a + k / d * M * m := fun a ha => by
    rw [mul_div_right_comm]; field_simp
  rw [e a₁ h1.ne', e a₂ (h1.trans_le h2).ne']
  constructor <;> linarith [mul_le_mul_of_nonneg_left h2 hk]

/-- Amplitudes `a₁ ≤ a₂` whose rays `m/a` lie on different sides of the kink `β`: the amplitude `m/β` of the ray
through the kink lies between them (`m` and `β` have the same sign, which the side of `a₁` decides). -/
theorem persp_cross {m a₁ a₂ β : ℝ} (h1 : 0 < a₁) (h12 : a₁ ≤ a₂)
    (hx : (m / a₁ ≤ β ∧ β < m / a₂) ∨ (m / a₂ ≤ β ∧ β < m / a₁)) :
    ∃ s, 0 < s ∧ a₁ ≤ s ∧ s ≤ a₂ ∧ m / s = β := by
  have h2 : 0 < a₂ := h1.trans_le h12
  rcases hx with ⟨c1, c2⟩ | ⟨c2, c1⟩
  · rw [div_le_iff₀ h1] at c1
    rw [lt_div_iff₀ h2] at c2
    have hb : β < 0 := neg_of_mul_pos_left (by linarith : 0 < β * (a₁ - a₂)) (by linarith)
    have hm : m < 0 := by linarith [mul_neg_of_neg_of_pos hb h1]
    refine ⟨m / β, div_pos_of_neg_of_neg hm hb, ?_, ?_, div_div_cancel₀ hm.ne⟩
    · rw [le_div_iff_of_neg hb]; linarith
    · rw [div_le_iff_of_neg hb]; linarith
  · rw [lt_div_iff₀ h1] at c1
    rw [div_le_iff₀ h2] at c2
    have hb : 0 < β := pos_of_mul_pos_left (by linarith : 0 < β * (a₂ - a₁)) (by linarith)
    have hm : 0 < m := by linarith [mul_pos hb h1]
    refine ⟨m / β, div_pos hm hb, ?_, ?_, div_div_cancel₀ hm.ne'⟩
    · rw [le_div_iff₀ hb]; linarith
    · rw [div_le_iff₀ hb]; linarith

/-- Two pieces that agree at the kink `β`: increments across the kink go through the ray `m/a = β`. -/
theorem perspMono_glue {h₁ h₂ : ℝ → ℝ} {β L : ℝ} (H1 : PerspMono h₁ L) (H2 : PerspMono h₂ L) (hβ : h₁ β = h₂ β) :
    PerspMono (fun x => if x ≤ β then h₁ x else h₂ x) L := by
  intro m a₁ a₂ h1 h2
  simp only
  by_cases c1 : m / a₁ ≤ β <;> by_cases c2 : m / a₂ ≤ β
  · rw [if_pos c1, if_pos c2]; exact H1 m a₁ a₂ h1 h2
  · obtain ⟨s, hs, hs1, hs2, e⟩ := persp_cross h1 h2 (Or.inl ⟨c1, not_le.1 c2⟩)
    have A := H1 m a₁ s h1 hs1
    have B := H2 m s a₂ hs hs2
    rw [e] at A B
    rw [hβ] at A
    rw [if_pos c1, if_neg c2]
    constructor <;> linarith [A.1, A.2, B.1, B.2]
  · obtain ⟨s, hs, hs1, hs2, e⟩ := persp_cross h1 h2 (Or.inr ⟨c2, not_le.1 c1⟩)
    have A := H2 m a₁ s h1 hs1
    have B := H1 m s a₂ hs hs2
    rw [e] at A B
    rw [hβ] at B
    rw [if_neg c1, if_pos c2]
    constructor <;> linarith [A.1, A.2, B.1, B.2]
  · rw [if_neg c1, if_neg c2]; exact H2 m a₁ a₂ h1 h2

theorem hD_persp {Minf M0 r1 : ℝ} {bs : List (ℝ × ℝ)} {Mn : ℝ} (hs : SortedR r1 bs) (hg : GoodD Minf M0 r1 bs Mn) :
    ∃ L, 0 ≤ L ∧ PerspMono (hD Minf M0 r1 bs Mn) L :=
  hD_rec (P := fun f => ∃ L, 0 ≤ L ∧ PerspMono f L) (fun k M d h => ⟨k / d, h.le, perspMono_linear k M d h.le⟩)
    (fun _ _ _ ⟨L1, h1, H1⟩ ⟨L2, _, H2⟩ e =>
      ⟨max L1 L2, le_max_of_le_left h1, perspMono_glue (H1.mono (le_max_left _ _)) (H2.mono (le_max_right _ _)) e⟩) hs hg

theorem hC_pos (Mn : ℝ) (hn : 0 ≤ Mn) : ∀ (bs : List (ℝ × ℝ)) (v b : ℝ), SortedR b bs → -1 ≤ b →
    (∀ p ∈ bs, 0 ≤ p.1) → 0 < v → ∀ x, 0 ≤ x → 0 < hC v b bs Mn x := by
  intro bs
  induction bs with
  | nil =>
    intro v b hs hb _ hv x hx
    have := px_nonneg hb hs
    simp only [hC]
    positivity
  | cons p rest ih =>
    obtain ⟨M, r⟩ := p
    intro v b hs hb hM hv x hx
    have hM0 : 0 ≤ M := hM _ List.mem_cons_self
    have := px_nonneg hb (sortedR_lt1 hs)
    have := px_nonneg (hb.trans hs.1.le) (sortedR_lt1 hs.2)
    simp only [hC]
    split_ifs
    · positivity
    · exact ih _ r hs.2 (hb.trans hs.1.le) (fun q hq => hM q (List.mem_cons_of_mem _ hq)) (by positivity) x hx

theorem hD_pos {Minf M0 r1 : ℝ} {bs : List (ℝ × ℝ)} {Mn : ℝ} (hs : SortedR r1 bs) (hr : -1 ≤ r1) (hinf : Minf ≤ 0)
    (h0 : 0 ≤ M0) (h0' : M0 < 1) (hb : ∀ p ∈ bs, 0 ≤ p.1) (hn : 0 ≤ Mn) (x : ℝ) : 0 < hD Minf M0 r1 bs Mn x := by
  have hp := px_nonneg hr (sortedR_lt1 hs)
  unfold hD
  split_ifs with c1 c2
  · have : 0 ≤ Minf * x := mul_nonneg_of_nonpos_of_nonpos hinf (by linarith)
    exact div_pos (mul_pos (by linarith) (by linarith)) (by linarith)
  · have : 0 ≤ M0 * (x + 1) := mul_nonneg h0 (by linarith)
    linarith
  · exact hC_pos Mn hn bs _ r1 hs hr hb (by positivity) x (hp.trans (not_le.1 c2).le)

end PylifeVerif.Meanstress
