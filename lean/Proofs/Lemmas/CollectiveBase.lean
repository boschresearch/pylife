/-
Helper lemmas for C14 (load collectives, histograms, re-binning) over ℝ: the quantities of a row; breaks (`Mono`, `SMono`), their
consecutive `pairs` and `classes`; list sums; the bins `binsOf` of a histogram; `binTotal` of combined histograms and of NaN
contents.  numpy's bin rule puts every value of the
covered range into exactly one class (`classes_count`).  The linear share `kap` of a source class in a target class is a
difference of clamped end points (`kap_clamp`), so it telescopes over a gap-free binning (`kap_sum`) and composes through
a middle binning that refines the source class or is coarsened by the target (`kap_compose`, `kap_compose_coarsen`).
-/
import Model.Collective
import Proofs.RealNum
import Mathlib.Tactic.Ring
import Mathlib.Algebra.BigOperators.Group.List.Basic

namespace PylifeVerif.Collective

theorem upper_eq_max (r : Row ℝ) : upper r = max r.fr r.to := by
  unfold upper
  split_ifs with h
  · exact (max_eq_right h).symm
  · exact (max_eq_left (le_of_not_ge h)).symm

theorem lower_eq_min (r : Row ℝ) : lower r = min r.fr r.to := by
  unfold lower
  split_ifs with h
  · exact (min_eq_left h).symm
  · exact (min_eq_right (le_of_not_ge h)).symm

theorem amplitude_eq (r : Row ℝ) : amplitude r = |r.fr - r.to| / 2 := by
  rw [amplitude, transc_abs, lit_two]

theorem meanstress_eq (r : Row ℝ) : meanstress r = (r.fr + r.to) / 2 := by
  rw [meanstress, lit_two]

theorem rangeOf_eq (r : Row ℝ) : rangeOf r = 2 * amplitude r := by
  rw [rangeOf, lit_two, mul_comm]

theorem upper_eq (r : Row ℝ) : upper r = meanstress r + amplitude r := by
  rw [upper_eq_max, meanstress_eq, amplitude_eq, ← max_sub_min_eq_abs', ← max_add_min r.fr r.to]
  ring

theorem lower_eq (r : Row ℝ) : lower r = meanstress r - amplitude r := by
  rw [lower_eq_min, meanstress_eq, amplitude_eq, ← max_sub_min_eq_abs', ← max_add_min r.fr r.to]
  ring

theorem rvalue_eq (r : Row ℝ) : rvalue r = lower r / upper r := if_pos le_rfl

theorem mid_mul (a b f : ℝ) : mid (a * f) (b * f) = mid a b * f := by
  unfold mid; ring

theorem mid_add (a b d : ℝ) : mid (a + d) (b + d) = mid a b + d := by
  unfold mid; rw [lit_half]; ring

theorem total_eq_sum (l : List ℝ) : total l = l.sum := by
  induction l with
  | nil => exact lit_zero
  | cons x xs ih => exact congrArg (x + ·) ih

theorem wsum_eq_sum (l : List (ℝ × ℝ)) : wsum l = (l.map (·.2)).sum := by
  induction l with
  | nil => exact lit_zero
  | cons x xs ih => exact congrArg (x.2 + ·) ih

/-- Weakly increasing list (numpy accepts repeated edges). -/
def Mono : List ℝ → Prop
  | a :: b :: rest => a ≤ b ∧ Mono (b :: rest)
  | _ => True

/-- Strictly increasing list: every class `(bᵢ, bᵢ₊₁]` of the binning has positive width. -/
def SMono : List ℝ → Prop
  | a :: b :: rest => a < b ∧ SMono (b :: rest)
  | _ => True

@[simp] theorem mono_cons_cons {a b : ℝ} {l : List ℝ} : Mono (a :: b :: l) ↔ a ≤ b ∧ Mono (b :: l) := Iff.rfl
@[simp] theorem mono_singleton (a : ℝ) : Mono [a] := trivial
@[simp] theorem smono_cons_cons {a b : ℝ} {l : List ℝ} : SMono (a :: b :: l) ↔ a < b ∧ SMono (b :: l) := Iff.rfl
@[simp] theorem smono_singleton (a : ℝ) : SMono [a] := trivial

theorem mono_iff_isChain : ∀ l : List ℝ, Mono l ↔ l.IsChain (· ≤ ·)
  | [] => ⟨fun _ => .nil, fun _ => trivial⟩
  | [_] => ⟨fun _ => .singleton _, fun _ => trivial⟩
  | a :: b :: rest => by rw [List.isChain_cons_cons, ← mono_iff_isChain (b :: rest)]; rfl

theorem smono_iff_isChain : ∀ l : List ℝ, SMono l ↔ l.IsChain (· < ·)
  | [] => ⟨fun _ => .nil, fun _ => trivial⟩
  | [_] => ⟨fun _ => .singleton _, fun _ => trivial⟩
  | a :: b :: rest => by rw [List.isChain_cons_cons, ← smono_iff_isChain (b :: rest)]; rfl

theorem mono_iff_pairwise {l : List ℝ} : Mono l ↔ l.Pairwise (· ≤ ·) :=
  (mono_iff_isChain l).trans List.isChain_iff_pairwise

theorem smono_iff_pairwise {l : List ℝ} : SMono l ↔ l.Pairwise (· < ·) :=
  (smono_iff_isChain l).trans List.isChain_iff_pairwise

theorem SMono.mono {l : List ℝ} (h : SMono l) : Mono l :=
  mono_iff_pairwise.mpr ((smono_iff_pairwise.mp h).imp le_of_lt)

theorem mono_mem_bounds (b0 : ℝ) (rest : List ℝ) (hm : Mono (b0 :: rest)) (x : ℝ) (hx : x ∈ b0 :: rest) :
    b0 ≤ x ∧ x ≤ (b0 :: rest).getLast (List.cons_ne_nil _ _) := by
  have hp := mono_iff_pairwise.mp hm
  refine ⟨?_, hp.rel_getLast hx⟩
  rcases List.mem_cons.mp hx with rfl | hx
  · exact le_rfl
  · exact (List.pairwise_cons.mp hp).1 x hx

theorem classes_cons_cons (a b c : ℝ) (l : List ℝ) :
    classes (a :: b :: c :: l) = (a, b, false) :: classes (b :: c :: l) := rfl

theorem classes_pair (a b : ℝ) : classes [a, b] = [(a, b, true)] := rfl

theorem inBin_last (lo hi v : ℝ) : inBin lo hi true v = (decide (lo ≤ v) && decide (v ≤ hi)) := by
  have : v < hi → v ≤ hi := le_of_lt
  simp only [inBin, Bool.true_and, ← Bool.decide_or, or_iff_right_of_imp this]

theorem inBin_inner (lo hi v : ℝ) : inBin lo hi false v = (decide (lo ≤ v) && decide (v < hi)) := by
  simp only [inBin, Bool.false_and, Bool.or_false]

theorem classes_count : ∀ (e0 : ℝ) (rest : List ℝ) (v : ℝ), rest ≠ [] → Mono (e0 :: rest) →
    (classes (e0 :: rest)).countP (fun c => inBin c.1 c.2.1 c.2.2 v) =
      if e0 ≤ v ∧ v ≤ (e0 :: rest).getLast (List.cons_ne_nil _ _) then 1 else 0
  | e0, [], _, h, _ => absurd rfl h
  | e0, [e1], v, _, _ => by
    rw [classes_pair, List.countP_singleton, inBin_last]
    simp
  | e0, e1 :: e2 :: rest, v, _, hm => by
    have hle := (mono_mem_bounds e1 (e2 :: rest) hm.2 e1 (List.mem_cons_self ..)).2
    rw [classes_cons_cons, List.countP_cons, classes_count e1 (e2 :: rest) v (List.cons_ne_nil _ _) hm.2,
      List.getLast_cons_cons (a := e0), inBin_inner]
    generalize (e1 :: e2 :: rest).getLast _ = L at hle ⊢
    -- below `e1` only the first class can hold `v`, from `e1` on only the later ones
    rcases lt_or_ge v e1 with h | h
    · simp [h, not_le.mpr h, (h.le.trans hle)]
    · simp [h, not_lt.mpr h, hm.1.trans h]

theorem sum_map_filter {β : Type} (w : β → ℝ) (P : β → Bool) (l : List β) :
    ((l.filter P).map w).sum = (l.map fun x => if P x then w x else 0).sum := by
  simpa using (List.sum_map_ite (P · = true) w (fun _ => 0) l).symm

theorem sum_map_filter_of_zero {β : Type} (w : β → ℝ) (P : β → Bool) (h : ∀ x, P x = false → w x = 0)
    (l : List β) : ((l.filter P).map w).sum = (l.map w).sum := by
  rw [sum_map_filter]
  congr 1
  refine List.map_congr_left fun x _ => ?_
  cases hx : P x
  · simp [h x hx]
  · simp

theorem sum_ite_countP {β : Type} (P : β → Bool) (l : List β) :
    (l.map fun c => if P c then (1 : ℝ) else 0).sum = (l.countP P : ℝ) := by
  rw [← sum_map_filter (fun _ => 1) P l, List.map_const', List.sum_replicate, List.countP_eq_length_filter,
    nsmul_eq_mul, mul_one]

theorem sum_map_sum_comm {β γ : Type} (l1 : List β) (l2 : List γ) (f : β → γ → ℝ) :
    (l1.map fun a => (l2.map fun b => f a b).sum).sum = (l2.map fun b => (l1.map fun a => f a b).sum).sum := by
  induction l1 with
  | nil => simp
  | cons a as ih => simp only [List.map_cons, List.sum_cons, ih, List.sum_map_add]

theorem pairs_cons_cons (a b : ℝ) (l : List ℝ) : pairs (a :: b :: l) = (a, b) :: pairs (b :: l) := rfl

theorem classes_map_pairs : ∀ l : List ℝ, (classes l).map (fun c => (c.1, c.2.1)) = pairs l
  | [] => rfl
  | [_] => rfl
  | [_, _] => rfl
  | a :: b :: c :: rest => congrArg (List.cons (a, b)) (classes_map_pairs (b :: c :: rest))

theorem mem_pairs_of_mem_classes {l : List ℝ} {c : ℝ × ℝ × Bool} (h : c ∈ classes l) : (c.1, c.2.1) ∈ pairs l :=
  classes_map_pairs l ▸ List.mem_map_of_mem h

theorem append_of_mem_pairs : ∀ {l : List ℝ} {p : ℝ × ℝ}, p ∈ pairs l →
    ∃ l₁ l₂, l = l₁ ++ p.1 :: p.2 :: l₂
  | [], _, h => by cases h
  | [_], _, h => by cases h
  | a :: b :: rest, p, h => by
    rcases List.mem_cons.mp h with rfl | h
    · exact ⟨[], rest, rfl⟩
    · obtain ⟨l₁, l₂, e⟩ := append_of_mem_pairs h
      exact ⟨a :: l₁, l₂, congrArg (a :: ·) e⟩

theorem pairs_append_singleton : ∀ (l : List ℝ) (hne : l ≠ []) (x : ℝ),
    pairs (l ++ [x]) = pairs l ++ [(l.getLast hne, x)]
  | [], h, _ => absurd rfl h
  | [_], _, _ => rfl
  | a :: b :: t, _, x => congrArg ((a, b) :: ·) (pairs_append_singleton (b :: t) (List.cons_ne_nil _ _) x)

theorem classes_append_singleton : ∀ (l : List ℝ) (hne : l ≠ []) (x : ℝ),
    classes (l ++ [x]) = (pairs l).map (fun p => (p.1, p.2, false)) ++ [(l.getLast hne, x, true)]
  | [], h, _ => absurd rfl h
  | [_], _, _ => rfl
  | [_, _], _, _ => rfl
  | a :: b :: c :: t, _, x =>
    congrArg ((a, b, false) :: ·) (classes_append_singleton (b :: c :: t) (List.cons_ne_nil _ _) x)

theorem mem_of_mem_pairs {l : List ℝ} {p : ℝ × ℝ} (h : p ∈ pairs l) : p.1 ∈ l ∧ p.2 ∈ l := by
  obtain ⟨l₁, l₂, rfl⟩ := append_of_mem_pairs h
  simp

/-- A consecutive pair of a `Pairwise R` list is `R`-related, and every other element lies `R`-before `p.1` or `R`-after `p.2`. -/
theorem pairs_rel {R : ℝ → ℝ → Prop} {l : List ℝ} (hl : l.Pairwise R) {p : ℝ × ℝ} (h : p ∈ pairs l) :
    R p.1 p.2 ∧ ∀ x ∈ l, x = p.1 ∨ x = p.2 ∨ R x p.1 ∨ R p.2 x := by
  obtain ⟨l₁, l₂, rfl⟩ := append_of_mem_pairs h
  obtain ⟨_, h2, h3⟩ := List.pairwise_append.mp hl
  obtain ⟨h4, h5⟩ := List.pairwise_cons.mp h2
  refine ⟨h4 _ (List.mem_cons_self ..), fun x hx => ?_⟩
  rcases List.mem_append.mp hx with hx | hx
  · exact Or.inr (Or.inr (Or.inl (h3 x hx _ (List.mem_cons_self ..))))
  · rcases List.mem_cons.mp hx with rfl | hx
    · exact Or.inl rfl
    · rcases List.mem_cons.mp hx with rfl | hx
      · exact Or.inr (Or.inl rfl)
      · exact Or.inr (Or.inr (Or.inr ((List.pairwise_cons.mp h5).1 x hx)))

theorem pairs_bounds (b0 : ℝ) (rest : List ℝ) (hm : Mono (b0 :: rest)) (p : ℝ × ℝ) (hp : p ∈ pairs (b0 :: rest)) :
    b0 ≤ p.1 ∧ p.1 ≤ p.2 ∧ p.2 ≤ (b0 :: rest).getLast (List.cons_ne_nil _ _) :=
  ⟨(mono_mem_bounds b0 rest hm _ (mem_of_mem_pairs hp).1).1, (pairs_rel (mono_iff_pairwise.mp hm) hp).1,
    (mono_mem_bounds b0 rest hm _ (mem_of_mem_pairs hp).2).2⟩

theorem pairs_strict (l : List ℝ) (hs : SMono l) (p : ℝ × ℝ) (hp : p ∈ pairs l) : p.1 < p.2 :=
  (pairs_rel (smono_iff_pairwise.mp hs) hp).1

theorem pairs_telescope (f : ℝ → ℝ) : ∀ (b0 : ℝ) (rest : List ℝ),
    ((pairs (b0 :: rest)).map fun p => f p.2 - f p.1).sum =
      f ((b0 :: rest).getLast (List.cons_ne_nil _ _)) - f b0
  | b0, [] => (sub_self _).symm
  | b0, b1 :: rest => by
    rw [pairs_cons_cons, List.map_cons, List.sum_cons, pairs_telescope f b1 rest, List.getLast_cons_cons]
    ring

theorem pairs_sum_diff (f : ℝ × ℝ → ℝ) (c : ℝ) (G : ℝ → ℝ) (b0 : ℝ) (rest : List ℝ)
    (h : ∀ p ∈ pairs (b0 :: rest), f p = c * (G p.2 - G p.1)) :
    ((pairs (b0 :: rest)).map f).sum = c * (G ((b0 :: rest).getLast (List.cons_ne_nil _ _)) - G b0) := by
  rw [List.map_congr_left h, List.sum_map_mul_left, pairs_telescope G b0 rest]

theorem minA_eq (a b : ℝ) : minA a b = min a b := by
  unfold minA
  rcases lt_or_ge b a with h | h
  · rw [if_pos h, min_eq_right h.le]
  · rw [if_neg (not_lt.mpr h), min_eq_left h]

theorem maxA_eq (a b : ℝ) : maxA a b = max a b := by
  unfold maxA
  rcases lt_or_ge a b with h | h
  · rw [if_pos h, max_eq_right h.le]
  · rw [if_neg (not_lt.mpr h), max_eq_left h]

/-- Fraction of the class `(l, r]` that falls into `(tl, tr]` (as the code computes it). -/
noncomputable def kap (tl tr l r : ℝ) : ℝ := if l < tr ∧ tl < r then (min tr r - max tl l) / (r - l) else 0

theorem share_eq (tl tr : ℝ) (s : Bin ℝ) : share tl tr s = s.v * kap tl tr s.l s.r := by
  unfold share kap
  split_ifs
  · rw [minA_eq, maxA_eq]
  · rw [lit_zero, mul_zero]

/-- `x` clamped into `[l, r]`. -/
noncomputable def cl (l r x : ℝ) : ℝ := min r (max l x)

theorem cl_of_le {l r x : ℝ} (h : x ≤ l) (hlr : l ≤ r) : cl l r x = l := by
  unfold cl; rw [max_eq_left h, min_eq_right hlr]
theorem cl_of_ge {l r x : ℝ} (h : r ≤ x) (hlr : l ≤ r) : cl l r x = r := by
  unfold cl; rw [max_eq_right (le_trans hlr h), min_eq_left h]
theorem cl_of_mem {l r x : ℝ} (h1 : l ≤ x) (h2 : x ≤ r) : cl l r x = x := by
  unfold cl; rw [max_eq_right h1, min_eq_right h2]

theorem overlap_clamp (tl tr l r : ℝ) (ht : tl ≤ tr) (hle : l ≤ r) :
    (if l < tr ∧ tl < r then min tr r - max tl l else 0) = cl l r tr - cl l r tl := by
  split_ifs with h
  · obtain ⟨h1, h2⟩ := h
    rcases le_total tr r with a | a
    · rw [cl_of_mem h1.le a, min_eq_left a]
      rcases le_total tl l with b | b
      · rw [cl_of_le b hle, max_eq_right b]
      · rw [cl_of_mem b (le_trans ht a), max_eq_left b]
    · rw [cl_of_ge a hle, min_eq_right a]
      rcases le_total tl l with b | b
      · rw [cl_of_le b hle, max_eq_right b]
      · rw [cl_of_mem b h2.le, max_eq_left b]
  · rcases not_and_or.mp h with h | h
    · have h' : tr ≤ l := not_lt.mp h
      rw [cl_of_le h' hle, cl_of_le (le_trans ht h') hle, sub_self]
    · have h' : r ≤ tl := not_lt.mp h
      rw [cl_of_ge h' hle, cl_of_ge (le_trans h' ht) hle, sub_self]

theorem kap_clamp (tl tr l r : ℝ) (ht : tl ≤ tr) (hlr : l < r) :
    kap tl tr l r = (cl l r tr - cl l r tl) / (r - l) := by
  rw [← overlap_clamp tl tr l r ht hlr.le, ite_div, zero_div]
  rfl

/-- The overlap is symmetric: the source's end points clamped into the target class give it as well. -/
theorem kap_clamp' (tl tr l r : ℝ) (ht : tl ≤ tr) (hlr : l < r) :
    kap tl tr l r = (cl tl tr r - cl tl tr l) / (r - l) := by
  rw [← overlap_clamp l r tl tr hlr.le ht, ite_div, zero_div, kap]
  simp only [and_comm, min_comm, max_comm]

theorem kap_sum (l r b0 : ℝ) (rest : List ℝ) (hm : Mono (b0 :: rest)) (hpos : l < r)
    (hl : b0 ≤ l) (hr : r ≤ (b0 :: rest).getLast (List.cons_ne_nil _ _)) :
    ((pairs (b0 :: rest)).map fun p => kap p.1 p.2 l r).sum = 1 := by
  rw [pairs_sum_diff _ (1 / (r - l)) (cl l r) b0 rest fun p hp => by
      rw [kap_clamp _ _ _ _ (pairs_bounds b0 rest hm p hp).2.1 hpos]; ring,
    cl_of_ge hr hpos.le, cl_of_le hl hpos.le]
  exact one_div_mul_cancel (sub_ne_zero.mpr hpos.ne')

theorem kap_disjoint_left (tl tr l r : ℝ) (h : tr ≤ l) : kap tl tr l r = 0 :=
  if_neg fun ⟨a, _⟩ => absurd a (not_lt.mpr h)

theorem kap_disjoint_right (tl tr l r : ℝ) (h : r ≤ tl) : kap tl tr l r = 0 :=
  if_neg fun ⟨_, a⟩ => absurd a (not_lt.mpr h)

theorem kap_inside (tl tr l r : ℝ) (h : l < r) (h1 : tl ≤ l) (h2 : r ≤ tr) : kap tl tr l r = 1 := by
  unfold kap
  rw [if_pos ⟨lt_of_lt_of_le h h2, lt_of_le_of_lt h1 h⟩, min_eq_right h2, max_eq_right h1]
  exact div_self (sub_ne_zero.mpr h.ne')

/-- No class of `B` straddles `l` or `r`: each lies left of `l`, right of `r`, or inside `[l, r]`. -/
def RefinesClass (l r : ℝ) (B : List ℝ) : Prop :=
  ∀ p ∈ pairs B, p.2 ≤ l ∨ r ≤ p.1 ∨ (l ≤ p.1 ∧ p.2 ≤ r)

theorem pairs_no_inner (l : List ℝ) (hs : SMono l) (p : ℝ × ℝ) (hp : p ∈ pairs l) (x : ℝ) (hx : x ∈ l) :
    x ≤ p.1 ∨ p.2 ≤ x := by
  rcases (pairs_rel (smono_iff_pairwise.mp hs) hp).2 x hx with h | h | h | h
  exacts [Or.inl h.le, Or.inr h.ge, Or.inl h.le, Or.inr h.le]

theorem refinesClass_of_mem (l r : ℝ) (B : List ℝ) (hs : SMono B) (hl : l ∈ B) (hr : r ∈ B) :
    RefinesClass l r B := by
  intro p hp
  rcases pairs_no_inner B hs p hp l hl with a | a
  · rcases pairs_no_inner B hs p hp r hr with b | b
    · exact Or.inr (Or.inl b)
    · exact Or.inr (Or.inr ⟨a, b⟩)
  · exact Or.inl a

/-- Composition for one source class: distributing `(l, r]` over a refining binning `B` and each class of
`B` into `(tl, tr]` gives the direct share. -/
theorem kap_compose (l r tl tr b0 : ℝ) (rest : List ℝ) (hs : SMono (b0 :: rest)) (hpos : l < r) (ht : tl ≤ tr)
    (hl : b0 ≤ l) (hr : r ≤ (b0 :: rest).getLast (List.cons_ne_nil _ _)) (href : RefinesClass l r (b0 :: rest)) :
    ((pairs (b0 :: rest)).map fun p => kap p.1 p.2 l r * kap tl tr p.1 p.2).sum = kap tl tr l r := by
  have hle := hpos.le
  rw [pairs_sum_diff _ (1 / (r - l)) (fun x => cl tl tr (cl l r x)) b0 rest ?_, cl_of_ge hr hle, cl_of_le hl hle,
    kap_clamp' tl tr l r ht hpos]
  · ring
  · intro p hp
    have hp12 := pairs_strict _ hs p hp
    have hpne : p.2 - p.1 ≠ 0 := sub_ne_zero.mpr hp12.ne'
    rw [kap_clamp _ _ _ _ hp12.le hpos, kap_clamp' tl tr _ _ ht hp12]
    rcases href p hp with h | h | ⟨h, h'⟩
    · rw [cl_of_le h hle, cl_of_le (le_trans hp12.le h) hle, sub_self, sub_self, zero_div, zero_mul, mul_zero]
    · rw [cl_of_ge h hle, cl_of_ge (le_trans h hp12.le) hle, sub_self, sub_self, zero_div, zero_mul, mul_zero]
    · rw [cl_of_mem (le_trans h hp12.le) h', cl_of_mem h (le_trans hp12.le h'), mul_comm,
        div_mul_div_cancel₀ hpne]
      ring

/-- Composition for one source class when both end points of the target class `(q1, q2]` are breaks of the middle
binning: distributing `(l, r]` over `B` and each class of `B` into `(q1, q2]` gives the direct share.  `B` need not
cover the source class. -/
theorem kap_compose_coarsen (l r q1 q2 b0 : ℝ) (rest : List ℝ) (hs : SMono (b0 :: rest)) (hpos : l < r) (hq : q1 ≤ q2)
    (h1 : q1 ∈ b0 :: rest) (h2 : q2 ∈ b0 :: rest) :
    ((pairs (b0 :: rest)).map fun p => kap p.1 p.2 l r * kap q1 q2 p.1 p.2).sum = kap q1 q2 l r := by
  have hle := hpos.le
  rw [pairs_sum_diff _ (1 / (r - l)) (fun x => cl l r (cl q1 q2 x)) b0 rest ?_,
    cl_of_ge (mono_mem_bounds b0 rest hs.mono q2 h2).2 hq, cl_of_le (mono_mem_bounds b0 rest hs.mono q1 h1).1 hq,
    kap_clamp q1 q2 l r hq hpos]
  · ring
  · intro p hp
    have hp12 := pairs_strict _ hs p hp
    rcases refinesClass_of_mem q1 q2 (b0 :: rest) hs h1 h2 p hp with h | h | ⟨h, h'⟩
    · rw [kap_disjoint_right q1 q2 _ _ h, cl_of_le h hq, cl_of_le (le_trans hp12.le h) hq, sub_self, mul_zero, mul_zero]
    · rw [kap_disjoint_left q1 q2 _ _ h, cl_of_ge h hq, cl_of_ge (le_trans h hp12.le) hq, sub_self, mul_zero, mul_zero]
    · rw [kap_inside q1 q2 _ _ hp12 h h', cl_of_mem (le_trans h hp12.le) h', cl_of_mem h (le_trans hp12.le h'),
        kap_clamp _ _ _ _ hp12.le hpos]
      ring

theorem mem_pairs_of_mem_binsOf {breaks vals : List ℝ} {s : Bin ℝ} (hs : s ∈ binsOf breaks vals) :
    (s.l, s.r) ∈ pairs breaks := by
  rw [binsOf, ← List.map_uncurry_zip_eq_zipWith] at hs
  obtain ⟨pv, hpv, rfl⟩ := List.mem_map.mp hs
  exact (List.of_mem_zip hpv).1

theorem binsOf_bounds (b0 : ℝ) (rest : List ℝ) (vals : List ℝ) (hm : Mono (b0 :: rest)) :
    ∀ s ∈ binsOf (b0 :: rest) vals, b0 ≤ s.l ∧ s.l ≤ s.r ∧ s.r ≤ (b0 :: rest).getLast (List.cons_ne_nil _ _) :=
  fun _ hs => pairs_bounds b0 rest hm _ (mem_pairs_of_mem_binsOf hs)

theorem lt_and_mem_of_mem_binsOf (breaks vals : List ℝ) (hs : SMono breaks) :
    ∀ s ∈ binsOf breaks vals, s.l < s.r ∧ s.l ∈ breaks ∧ s.r ∈ breaks :=
  fun _ h => ⟨pairs_strict _ hs _ (mem_pairs_of_mem_binsOf h), mem_of_mem_pairs (mem_pairs_of_mem_binsOf h)⟩

theorem binTotal_binsOf (breaks vals : List ℝ) (hlen : vals.length = (pairs breaks).length) :
    binTotal (binsOf breaks vals) = total vals := by
  rw [binTotal, binsOf, ← List.map_uncurry_zip_eq_zipWith, List.map_map]
  exact congrArg total (List.map_snd_zip hlen.le)

theorem hist_length (edges : List ℝ) (pts : List (ℝ × ℝ)) : (hist edges pts).length = (pairs edges).length := by
  rw [hist, List.length_map, ← classes_map_pairs, List.length_map]

theorem binTotal_eq_sum (l : List (Bin ℝ)) : binTotal l = (l.map (·.v)).sum := total_eq_sum _

theorem binTotal_cons (b : Bin ℝ) (l : List (Bin ℝ)) : binTotal (b :: l) = b.v + binTotal l := by
  rw [binTotal_eq_sum, binTotal_eq_sum, List.map_cons, List.sum_cons]

theorem binTotal_append (a b : List (Bin ℝ)) : binTotal (a ++ b) = binTotal a + binTotal b := by
  rw [binTotal_eq_sum, binTotal_eq_sum, binTotal_eq_sum, List.map_append, List.sum_append]

theorem binTotal_insert (b : Bin ℝ) : ∀ l : List (Bin ℝ), binTotal (insertBin b l) = binTotal l + b.v
  | [] => by rw [insertBin, binTotal_cons, add_comm]
  | c :: cs => by
    unfold insertBin
    split_ifs
    · rw [binTotal_cons, binTotal_cons, add_right_comm]
    · rw [binTotal_cons, add_comm]
    · rw [binTotal_cons, binTotal_cons, binTotal_insert b cs, add_assoc]

theorem binTotal_foldl (l : List (Bin ℝ)) : ∀ acc : List (Bin ℝ),
    binTotal (l.foldl (fun acc b => insertBin b acc) acc) = binTotal acc + binTotal l := by
  induction l with
  | nil => intro acc; rw [List.foldl_nil, binTotal_eq_sum [], List.map_nil, List.sum_nil, add_zero]
  | cons b bs ih =>
    intro acc
    rw [List.foldl_cons, ih, binTotal_insert, binTotal_cons]; ring

theorem binTotal_combine_map {β : Type} (f : β → List (Bin ℝ)) (g : β → ℝ) (l : List β)
    (h : ∀ x ∈ l, binTotal (f x) = g x) : binTotal (combine (l.map f)) = (l.map g).sum := by
  rw [combine, binTotal_foldl, binTotal_eq_sum [], binTotal_eq_sum, List.map_nil, List.sum_nil, zero_add, List.map_flatten,
    List.sum_flatten, List.map_map, List.map_map]
  exact congrArg List.sum (List.map_congr_left fun x hx => (binTotal_eq_sum _).symm.trans (h x hx))

theorem binTotal_present : ∀ l : List (OBin ℝ), binTotal (present l) = (l.map fun b => b.v.getD 0).sum
  | [] => by simp [present, binTotal_eq_sum]
  | b :: bs => by
    have ih := binTotal_present bs
    cases hv : b.v with
    | none => simp [present, hv, ih]
    | some v => simp [present, hv, binTotal_cons, ih]

theorem binTotal_getD (l : List (OBin ℝ)) :
    binTotal (l.map fun b => (⟨b.l, b.r, b.v.getD 0.0⟩ : Bin ℝ)) = binTotal (present l) := by
  rw [binTotal_present, binTotal_eq_sum, List.map_map]
  simp only [Function.comp_def, lit_zero]

theorem share_of_not_overlaps (tl tr : ℝ) (s : Bin ℝ) (h : overlapsB tl tr s = false) : share tl tr s = 0 := by
  rw [share_eq, kap, if_neg, mul_zero]
  intro ⟨a, b⟩
  simp [overlapsB, a, b] at h

theorem sum_filter_share (tl tr : ℝ) : ∀ l : List (Bin ℝ),
    ((l.filter (overlapsB tl tr)).map (share tl tr)).sum = (l.map (share tl tr)).sum :=
  sum_map_filter_of_zero _ _ (share_of_not_overlaps tl tr)

end PylifeVerif.Collective
