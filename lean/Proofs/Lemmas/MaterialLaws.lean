/-
Real analysis of the Ramberg-Osgood curve  σ ↦ σ/E + sgn σ · (|σ|/K)^p  with p > 1 (p = 1/n, 0 < n < 1), in the namespace
`C16L` that its two users share, C16 and C06.  `curve` has the derivative `compl` at every stress (at 0 because p > 1) and
is a strictly monotone bijection; Masing doubling `σ ↦ 2·ε(σ/2)` is the curve with another `K` (`two_mul_curve_half`, what
C06's secondary branch rests on); `curveInv` is the exact inverse, with derivative `1/compl` (what C16's `roStress`
theorems rest on).
-/
import Proofs.RealNum
import Mathlib.Analysis.SpecialFunctions.Pow.Deriv
import Mathlib.Analysis.Calculus.Deriv.MeanValue
import Mathlib.Analysis.Calculus.Deriv.Inverse
import Mathlib.Topology.Order.IntermediateValue
import Mathlib.Tactic.Ring
import Mathlib.Tactic.Linarith
import Mathlib.Tactic.FieldSimp

namespace PylifeVerif.C16L

open Filter Topology

/-- `np.sign` over the reals: `Transc.sign` at `ℝ` (`rsign_eq`).  A constant of its own, because `transc_sign` is a `@[simp]`
lemma: every `simp` call would open `Transc.sign x` into its two `if`s before one of the sign lemmas below could apply.
(`Notch.signM` of `Model/Notch.lean` is the same function over any ordered field, with the same lemmas in
`Proofs/Lemmas/Binned.lean`.) -/
noncomputable def rsign (x : ℝ) : ℝ := if 0 < x then 1 else if x < 0 then -1 else 0

theorem rsign_eq (x : ℝ) : Transc.sign x = rsign x := rfl

theorem rsign_of_pos {x : ℝ} (h : 0 < x) : rsign x = 1 := by simp [rsign, h]
theorem rsign_of_neg {x : ℝ} (h : x < 0) : rsign x = -1 := by simp [rsign, h, not_lt.mpr h.le]
@[simp] theorem rsign_zero : rsign 0 = 0 := by simp [rsign]
theorem rsign_neg_arg (x : ℝ) : rsign (-x) = -rsign x := by
  rcases lt_trichotomy x 0 with h | h | h
  · rw [rsign_of_neg h, rsign_of_pos (by linarith)]; ring
  · subst h; simp
  · rw [rsign_of_pos h, rsign_of_neg (by linarith)]
theorem rsign_mul_abs (x : ℝ) : rsign x * |x| = x := by
  rcases lt_trichotomy x 0 with h | h | h
  · rw [rsign_of_neg h, abs_of_neg h]; ring
  · subst h; simp
  · rw [rsign_of_pos h, abs_of_pos h]; ring

theorem rsign_half (x : ℝ) : rsign (x / 2) = rsign x := by
  rcases lt_trichotomy x 0 with h | rfl | h
  · rw [rsign_of_neg h, rsign_of_neg (div_neg_of_neg_of_pos h two_pos)]
  · rw [zero_div]
  · rw [rsign_of_pos h, rsign_of_pos (half_pos h)]

noncomputable def plast (K p σ : ℝ) : ℝ := rsign σ * (|σ| / K) ^ p

/-- the Ramberg-Osgood curve with exponent `p = 1/n` -/
noncomputable def curve (E K p σ : ℝ) : ℝ := σ / E + plast K p σ

/-- its tangential compliance, with `|σ|` as `tangential_compliance` of rambgood.py (`np.abs(stress)`).  Mathlib exports a root
`compl` (complement): outside this namespace write `C16L.compl`, also under `open C16L`. -/
noncomputable def compl (E K p σ : ℝ) : ℝ := 1 / E + p / K * (|σ| / K) ^ (p - 1)

theorem plast_neg_arg (K p σ : ℝ) : plast K p (-σ) = -plast K p σ := by
  simp [plast, rsign_neg_arg]

theorem curve_neg_arg (E K p σ : ℝ) : curve E K p (-σ) = -curve E K p σ := by
  simp only [curve, plast_neg_arg]; ring

@[simp] theorem plast_zero {K p : ℝ} : plast K p 0 = 0 := by simp [plast]
@[simp] theorem curve_zero {E K p : ℝ} : curve E K p 0 = 0 := by simp [curve]

/-- Masing doubling is a change of the hardening coefficient: `σ ↦ 2·ε(σ/2)` is the curve with `2^(1 − 1/p)·K` for `K`
(`|σ|/(2^(1−1/p) K) = |σ/2|/K · 2^(1/p)`, and the `p`-th power of the last factor is the `2` in front) -/
theorem two_mul_curve_half {K p : ℝ} (hK : 0 < K) (hp : p ≠ 0) (E σ : ℝ) :
    2 * curve E K p (σ / 2) = curve E (2 ^ (1 - 1 / p) * K) p σ := by
  have hx : |σ| / (2 ^ (1 - 1 / p) * K) = |σ / 2| / K * 2 ^ (1 / p) := by
    have := (Real.rpow_pos_of_pos two_pos (1 / p)).ne'
    rw [abs_div, abs_two, Real.rpow_sub two_pos, Real.rpow_one]
    field_simp
  rw [curve, curve, plast, plast, rsign_half, hx, Real.mul_rpow (by positivity) (by positivity), ← Real.rpow_mul two_pos.le,
    one_div, inv_mul_cancel₀ hp, Real.rpow_one]
  ring

theorem plast_of_nonneg {K p σ : ℝ} (hp : p ≠ 0) (h : 0 ≤ σ) : plast K p σ = (σ / K) ^ p := by
  rcases h.eq_or_lt with rfl | h
  · rw [plast_zero, zero_div, Real.zero_rpow hp]
  · rw [plast, rsign_of_pos h, one_mul, abs_of_pos h]

theorem plast_nonneg {K p σ : ℝ} (hK : 0 < K) (h : 0 ≤ σ) : 0 ≤ plast K p σ := by
  rcases h.eq_or_lt with h | h
  · subst h; simp
  · rw [plast, rsign_of_pos h, one_mul]; positivity

theorem compl_pos {E K p σ : ℝ} (hE : 0 < E) (hK : 0 < K) (hp : 0 < p) : 0 < compl E K p σ :=
  add_pos_of_pos_of_nonneg (one_div_pos.mpr hE)
    (mul_nonneg (div_nonneg hp.le hK.le) (Real.rpow_nonneg (div_nonneg (abs_nonneg σ) hK.le) _))

theorem plast_hasDerivAt_pos {K p σ : ℝ} (hK : 0 < K) (hσ : 0 < σ) :
    HasDerivAt (plast K p) (p / K * (|σ| / K) ^ (p - 1)) σ := by
  have h1 : HasDerivAt (fun x : ℝ => x / K) (1 / K) σ := (hasDerivAt_id σ).div_const K
  have h2 := h1.rpow_const (p := p) (Or.inl (by positivity : σ / K ≠ 0))
  have h3 : HasDerivAt (fun x : ℝ => (x / K) ^ p) (p / K * (|σ| / K) ^ (p - 1)) σ := by
    rw [abs_of_pos hσ]; exact h2.congr_deriv (by ring)
  refine h3.congr_of_eventuallyEq ?_
  filter_upwards [lt_mem_nhds hσ] with x hx
  simp [plast, rsign_of_pos hx, abs_of_pos hx]

/-- for σ < 0 by oddness: `plast = −plast ∘ (−·)` -/
theorem plast_hasDerivAt_neg {K p σ : ℝ} (hK : 0 < K) (hσ : σ < 0) :
    HasDerivAt (plast K p) (p / K * (|σ| / K) ^ (p - 1)) σ := by
  have h := ((plast_hasDerivAt_pos (p := p) hK (neg_pos.mpr hσ)).comp σ (hasDerivAt_neg σ)).neg
  rw [abs_neg, mul_neg_one, neg_neg] at h
  exact h.congr_of_eventuallyEq (Filter.Eventually.of_forall fun x => by
    simp only [Pi.neg_apply, Function.comp_apply, plast_neg_arg, neg_neg])

theorem plast_eq_mul {K p : ℝ} (hK : 0 < K) (x : ℝ) :
    plast K p x = x * ((|x| / K) ^ (p - 1) / K) := by
  rcases eq_or_ne x 0 with h | h
  · subst h; simp
  · have hpos : 0 < |x| / K := by have := abs_pos.mpr h; positivity
    have : (|x| / K) ^ p = (|x| / K) * (|x| / K) ^ (p - 1) := by
      conv_lhs => rw [show p = 1 + (p - 1) by ring, Real.rpow_add hpos, Real.rpow_one]
    rw [plast, this]
    calc rsign x * (|x| / K * (|x| / K) ^ (p - 1))
        = (rsign x * |x|) * ((|x| / K) ^ (p - 1) / K) := by ring
      _ = x * ((|x| / K) ^ (p - 1) / K) := by rw [rsign_mul_abs]

/-- where `p > 1` enters: the power in `compl` and in the slope of `plast` at 0 vanishes at 0 -/
theorem rpow_pred_at_zero {K p : ℝ} (hp : 1 < p) : (|(0:ℝ)| / K) ^ (p - 1) = 0 := by
  rw [abs_zero, zero_div, Real.zero_rpow (by linarith)]

/-- the slope of `plast` at 0 is `h x = (|x|/K)^(p-1)/K` (`plast_eq_mul`), continuous with `h 0 = 0` -/
theorem plast_hasDerivAt_zero {K p : ℝ} (hK : 0 < K) (hp : 1 < p) :
    HasDerivAt (plast K p) 0 0 := by
  rw [hasDerivAt_iff_tendsto_slope]
  have hcont : Continuous (fun x : ℝ => (|x| / K) ^ (p - 1) / K) :=
    ((continuous_abs.div_const K).rpow_const (fun _ => Or.inr (by linarith))).div_const K
  have h0 : (|(0:ℝ)| / K) ^ (p - 1) / K = 0 := by rw [rpow_pred_at_zero hp, zero_div]
  have ht : Tendsto (fun x : ℝ => (|x| / K) ^ (p - 1) / K) (𝓝[≠] 0) (𝓝 0) := by
    have := (hcont.tendsto 0).mono_left (nhdsWithin_le_nhds (s := {0}ᶜ))
    rwa [h0] at this
  refine ht.congr' ?_
  filter_upwards [self_mem_nhdsWithin] with x hx
  have hx : x ≠ 0 := hx
  rw [slope_def_field, plast_zero, sub_zero, sub_zero, plast_eq_mul hK]
  field_simp

theorem compl_zero {E K p : ℝ} (hp : 1 < p) : compl E K p 0 = 1 / E := by
  rw [compl, rpow_pred_at_zero hp, mul_zero, add_zero]

theorem plast_hasDerivAt {K p : ℝ} (hK : 0 < K) (hp : 1 < p) (σ : ℝ) :
    HasDerivAt (plast K p) (p / K * (|σ| / K) ^ (p - 1)) σ := by
  rcases lt_trichotomy σ 0 with h | h | h
  · exact plast_hasDerivAt_neg hK h
  · subst h
    rw [rpow_pred_at_zero hp, mul_zero]; exact plast_hasDerivAt_zero hK hp
  · exact plast_hasDerivAt_pos hK h

theorem curve_hasDerivAt {E K p : ℝ} (hK : 0 < K) (hp : 1 < p) (σ : ℝ) :
    HasDerivAt (curve E K p) (compl E K p σ) σ := by
  have h1 : HasDerivAt (fun x : ℝ => x / E) (1 / E) σ := (hasDerivAt_id σ).div_const E
  exact h1.add (plast_hasDerivAt hK hp σ)

theorem curve_strictMono {E K p : ℝ} (hE : 0 < E) (hK : 0 < K) (hp : 1 < p) : StrictMono (curve E K p) := by
  apply strictMono_of_deriv_pos
  intro x
  rw [(curve_hasDerivAt hK hp x).deriv]
  exact compl_pos hE hK (by linarith)

theorem curve_continuous {E K p : ℝ} (hK : 0 < K) (hp : 1 < p) : Continuous (curve E K p) :=
  continuous_iff_continuousAt.mpr fun x => (curve_hasDerivAt hK hp x).continuousAt

theorem curve_ge {E K p σ : ℝ} (hK : 0 < K) (h : 0 ≤ σ) : σ / E ≤ curve E K p σ := by
  have := plast_nonneg (p := p) hK h
  unfold curve; linarith

theorem curve_le {E K p σ : ℝ} (hK : 0 < K) (h : σ ≤ 0) : curve E K p σ ≤ σ / E := by
  have := curve_ge (E := E) (p := p) hK (neg_nonneg.mpr h)
  rw [curve_neg_arg, neg_div] at this
  exact neg_le_neg_iff.mp this

theorem curve_surjective {E K p : ℝ} (hE : 0 < E) (hK : 0 < K) (hp : 1 < p) :
    Function.Surjective (curve E K p) := by
  apply (curve_continuous hK hp).surjective
  · refine tendsto_atTop_mono' atTop ?_ (tendsto_id.atTop_div_const hE)
    filter_upwards [eventually_ge_atTop 0] with x hx using curve_ge hK hx
  · refine tendsto_atBot_mono' atBot ?_ (tendsto_id.atBot_div_const hE)
    filter_upwards [eventually_le_atBot 0] with x hx using curve_le hK hx

theorem curve_bijective {E K p : ℝ} (hE : 0 < E) (hK : 0 < K) (hp : 1 < p) :
    Function.Bijective (curve E K p) :=
  ⟨(curve_strictMono hE hK hp).injective, curve_surjective hE hK hp⟩

/-- The exact inverse of the curve as a total function (no proof arguments): `Function.invFun`. -/
noncomputable def curveInv (E K p : ℝ) : ℝ → ℝ := Function.invFun (curve E K p)

theorem curve_curveInv {E K p : ℝ} (hE : 0 < E) (hK : 0 < K) (hp : 1 < p) (ε : ℝ) :
    curve E K p (curveInv E K p ε) = ε :=
  Function.rightInverse_invFun (curve_surjective hE hK hp) ε

theorem curveInv_curve {E K p : ℝ} (hE : 0 < E) (hK : 0 < K) (hp : 1 < p) (σ : ℝ) :
    curveInv E K p (curve E K p σ) = σ :=
  Function.leftInverse_invFun (curve_strictMono hE hK hp).injective σ

theorem curveInv_unique {E K p : ℝ} (hE : 0 < E) (hK : 0 < K) (hp : 1 < p) {σ ε : ℝ}
    (h : curve E K p σ = ε) : σ = curveInv E K p ε := by
  rw [← h, curveInv_curve hE hK hp]

theorem curveInv_strictMono {E K p : ℝ} (hE : 0 < E) (hK : 0 < K) (hp : 1 < p) :
    StrictMono (curveInv E K p) := fun a b hab =>
  (curve_strictMono hE hK hp).lt_iff_lt.mp (by rwa [curve_curveInv hE hK hp, curve_curveInv hE hK hp])

/-- monotone and onto, hence continuous -/
theorem curveInv_continuous {E K p : ℝ} (hE : 0 < E) (hK : 0 < K) (hp : 1 < p) :
    Continuous (curveInv E K p) :=
  (curveInv_strictMono hE hK hp).monotone.continuous_of_surjective
    fun σ => ⟨curve E K p σ, curveInv_curve hE hK hp σ⟩

theorem curveInv_neg_arg {E K p : ℝ} (hE : 0 < E) (hK : 0 < K) (hp : 1 < p) (ε : ℝ) :
    curveInv E K p (-ε) = -curveInv E K p ε := by
  symm
  apply curveInv_unique hE hK hp
  rw [curve_neg_arg, curve_curveInv hE hK hp]

theorem curveInv_hasDerivAt {E K p : ℝ} (hE : 0 < E) (hK : 0 < K) (hp : 1 < p) (ε : ℝ) :
    HasDerivAt (curveInv E K p) (compl E K p (curveInv E K p ε))⁻¹ ε :=
  HasDerivAt.of_local_left_inverse (curveInv_continuous hE hK hp).continuousAt
    (curve_hasDerivAt hK hp _) (compl_pos hE hK (by linarith)).ne'
    (Filter.Eventually.of_forall (curve_curveInv hE hK hp))

end PylifeVerif.C16L
