import Model.Meanstress
import Proofs.Literals
import Mathlib.Tactic.Ring
import Mathlib.Tactic.Linarith
import Mathlib.Tactic.FieldSimp
import Mathlib.Data.Real.Basic

/-!
C12 — re-binning of the transformed ranges (`rebin`, `classSum`, `linspace0`) over `ℝ`: with strictly increasing breaks
`0 = e₀ < e₁ < … < eₙ` and every range in `[0, eₙ]` the class sums add up to the total cycle count (`rebin_conserves`), and the
model of `np.linspace(0, mx, n+1)` produces such breaks (`linspace0_breaks`).
-/

namespace PylifeVerif.Meanstress

/-- The cycle count of the items that `p` selects. -/
noncomputable def selSum (p : ℝ × ℝ → Bool) (items : List (ℝ × ℝ)) : ℝ :=
  ((items.filter p).map Prod.snd).sum

theorem foldl_add_snd (l : List (ℝ × ℝ)) (a : ℝ) :
    l.foldl (fun acc it => acc + it.2) a = a + (l.map Prod.snd).sum := by
  induction l generalizing a with
  | nil => simp
  | cons x xs ih => simp [List.foldl_cons, ih, add_assoc]

/-- The first class (left break `0`) is closed on both sides. -/
theorem classSum_zero (r : ℝ) (items : List (ℝ × ℝ)) :
    classSum 0 r items = selSum (fun it => decide (0 ≤ it.1 ∧ it.1 ≤ r)) items := by
  unfold classSum selSum
  rw [foldl_add_snd, lit_zero, zero_add]
  congr 2
  apply List.filter_congr
  intro it _
  simp

/-- All other classes are half open `(l, r]`. -/
theorem classSum_ne_zero (l r : ℝ) (hl : l ≠ 0) (items : List (ℝ × ℝ)) :
    classSum l r items = selSum (fun it => decide (l < it.1 ∧ it.1 ≤ r)) items := by
  unfold classSum selSum
  rw [foldl_add_snd, lit_zero, zero_add]
  congr 2
  apply List.filter_congr
  intro it _
  have : ¬ (l ≤ 0 ∧ 0 ≤ l) := fun h => hl (le_antisymm h.1 h.2)
  simp [this]

theorem selSum_split (p q r : ℝ × ℝ → Bool) (items : List (ℝ × ℝ))
    (h : ∀ it ∈ items, r it = (p it || q it) ∧ (p it && q it) = false) :
    selSum p items + selSum q items = selSum r items := by
  unfold selSum
  induction items with
  | nil => simp
  | cons x xs ih =>
    have hx := h x (by simp)
    have ih' := ih (fun it hit => h it (by simp [hit]))
    rcases hp : p x <;> rcases hq : q x <;> simp [hp, hq] at hx
    all_goals simp [hp, hq, hx]
    all_goals linarith

theorem selSum_all (r : ℝ × ℝ → Bool) (items : List (ℝ × ℝ)) (h : ∀ it ∈ items, r it = true) :
    selSum r items = (items.map Prod.snd).sum := by
  unfold selSum
  rw [List.filter_eq_self.mpr h]

/-- The classes to the right of a positive break `a` collect exactly the ranges in `(a, last]`. -/
theorem rebin_pos (a : ℝ) (rest : List ℝ) (items : List (ℝ × ℝ)) (ha : 0 < a)
    (hs : (a :: rest).Pairwise (· < ·)) :
    (rebin (a :: rest) items).sum =
      selSum (fun it => decide (a < it.1 ∧ it.1 ≤ (a :: rest).getLast (List.cons_ne_nil _ _))) items := by
  induction rest generalizing a with
  | nil =>
    have hnil : items.filter (fun it =>
        decide (a < it.1 ∧ it.1 ≤ [a].getLast (List.cons_ne_nil _ _))) = [] := by
      rw [List.filter_eq_nil_iff]
      intro it _ h
      rw [decide_eq_true_eq, List.getLast_singleton] at h
      exact absurd (lt_of_lt_of_le h.1 h.2) (lt_irrefl _)
    simp only [rebin, List.sum_nil]
    unfold selSum
    rw [hnil]
    simp
  | cons b es ih =>
    have hab : a < b := (List.pairwise_cons.mp hs).1 b (by simp)
    have hs' : (b :: es).Pairwise (· < ·) := (List.pairwise_cons.mp hs).2
    have hb : 0 < b := lt_trans ha hab
    have hlast : b ≤ (b :: es).getLast (List.cons_ne_nil _ _) := by
      rcases List.mem_cons.mp (List.getLast_mem (List.cons_ne_nil b es)) with h | h
      · exact le_of_eq h.symm
      · exact le_of_lt ((List.pairwise_cons.mp hs').1 _ h)
    simp only [rebin, List.sum_cons]
    rw [ih b hb hs', classSum_ne_zero a b (ne_of_gt ha), List.getLast_cons (List.cons_ne_nil b es)]
    apply selSum_split
    intro it _
    by_cases h1 : a < it.1 <;> by_cases h2 : it.1 ≤ b <;>
      by_cases h3 : it.1 ≤ (b :: es).getLast (List.cons_ne_nil _ _) <;>
      simp [h1, h2, h3] <;> linarith

theorem rebin_conserves (rest : List ℝ) (items : List (ℝ × ℝ)) (hne : rest ≠ [])
    (hs : (0 :: rest).Pairwise (· < ·))
    (hr : ∀ it ∈ items, 0 ≤ it.1 ∧ it.1 ≤ rest.getLast hne) :
    (rebin ((0:ℝ) :: rest) items).sum = (items.map Prod.snd).sum := by
  cases rest with
  | nil => exact absurd rfl hne
  | cons b es =>
    have hb : 0 < b := (List.pairwise_cons.mp hs).1 b (by simp)
    have hs' : (b :: es).Pairwise (· < ·) := (List.pairwise_cons.mp hs).2
    simp only [rebin, List.sum_cons]
    rw [rebin_pos b es items hb hs', classSum_zero,
      selSum_split _ _ (fun _ => true) items, selSum_all _ _ (fun _ _ => rfl)]
    intro it hit
    obtain ⟨h0, h3⟩ := hr it hit
    by_cases h2 : it.1 ≤ b
    · simp [h0, h2, not_lt.mpr h2]
    · simp [h2, h3, not_le.mp h2]

theorem rebin_exactly_one (rest : List ℝ) (x : ℝ) (hne : rest ≠ [])
    (hs : (0 :: rest).Pairwise (· < ·)) (hx : 0 ≤ x ∧ x ≤ rest.getLast hne) :
    (rebin ((0:ℝ) :: rest) [(x, 1)]).sum = 1 := by
  rw [rebin_conserves rest [(x, 1)] hne hs]
  · simp
  · intro it hit
    rw [List.mem_singleton] at hit
    subst hit
    exact hx

/-- The model of `np.linspace(0, mx, n+1)` is `i ↦ i * (mx / n)` throughout (for `n ≥ 1`). -/
theorem linspace0_eq (mx : ℝ) (n : ℕ) (hn : 1 ≤ n) :
    linspace0 mx n = (List.range (n + 1)).map fun (i : ℕ) => (i : ℝ) * (mx / (n : ℝ)) := by
  unfold linspace0
  apply List.map_congr_left
  intro i _
  split
  · next h =>
    subst h
    have : (i : ℝ) ≠ 0 := by exact_mod_cast (by omega : i ≠ 0)
    field_simp
  · rfl

theorem linspace0_breaks (mx : ℝ) (n : ℕ) (hmx : 0 < mx) (hn : 1 ≤ n) :
    ∃ rest : List ℝ, ∃ hne : rest ≠ [],
      linspace0 mx n = 0 :: rest ∧ (0 :: rest).Pairwise (· < ·) ∧ rest.getLast hne = mx := by
  have hnpos : (0 : ℝ) < n := by exact_mod_cast hn
  have hstep : 0 < mx / (n : ℝ) := div_pos hmx hnpos
  have heq : linspace0 mx n =
      0 :: (List.range n).map (fun (i : ℕ) => ((i + 1 : ℕ) : ℝ) * (mx / (n : ℝ))) := by
    rw [linspace0_eq mx n hn, List.range_succ_eq_map, List.map_cons, List.map_map]
    simp [Function.comp_def]
  have hpw : (linspace0 mx n).Pairwise (· < ·) := by
    rw [linspace0_eq mx n hn, List.pairwise_map]
    refine List.Pairwise.imp ?_ List.pairwise_lt_range
    intro i j hij
    have : (i : ℝ) < j := by exact_mod_cast hij
    exact mul_lt_mul_of_pos_right this hstep
  have hne : (List.range n).map (fun (i : ℕ) => ((i + 1 : ℕ) : ℝ) * (mx / (n : ℝ))) ≠ [] := by
    obtain ⟨m, rfl⟩ : ∃ m, n = m + 1 := ⟨n - 1, by omega⟩
    simp [List.range_succ]
  refine ⟨_, hne, heq, heq ▸ hpw, ?_⟩
  obtain ⟨m, rfl⟩ : ∃ m, n = m + 1 := ⟨n - 1, by omega⟩
  simp only [List.range_succ, List.map_append, List.map_cons, List.map_nil,
    List.getLast_append_singleton]
  have : ((m + 1 : ℕ) : ℝ) ≠ 0 := ne_of_gt hnpos
  field_simp

/-- Non-vacuity of `rebin_conserves`: breaks `0 < 1 < 2`, ranges on the breaks and in between. -/
example : (rebin ((0:ℝ) :: [1, 2]) [(0, 3), (1, 4), (1.5, 5), (2, 6)]).sum
    = ([(0, 3), (1, 4), (1.5, 5), ((2:ℝ), (6:ℝ))].map Prod.snd).sum := by
  apply rebin_conserves [1, 2] _ (by simp)
  · simp
  · intro it hit
    simp only [List.mem_cons, List.not_mem_nil, or_false] at hit
    rcases hit with rfl | rfl | rfl | rfl <;> norm_num

example : (rebin ((0:ℝ) :: [1, 2]) [(0, 3), (1, 4), (1.5, 5), (2, 6)]) = [7, 11] := by
  simp only [rebin, classSum_zero, classSum_ne_zero (1:ℝ) 2 one_ne_zero, selSum]
  norm_num [List.filter_cons]

/-- Non-vacuity of `linspace0_breaks` combined with `rebin_exactly_one`. -/
example (x : ℝ) (hx : 0 ≤ x ∧ x ≤ 10) : (rebin (linspace0 (10:ℝ) 4) [(x, 1)]).sum = 1 := by
  obtain ⟨rest, hne, heq, hs, hlast⟩ := linspace0_breaks 10 4 (by norm_num) (by norm_num)
  rw [heq]
  exact rebin_exactly_one rest x hne hs (by rw [hlast]; exact hx)

end PylifeVerif.Meanstress

