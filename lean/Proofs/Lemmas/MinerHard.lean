/- Helper lemmas for C11: normal forms of the per-class damage, ordering of the Miner variants, Gassner cycles under
   Miner-Haibach and Miner-elementary; last, the curves with a native failure probability and scatter (`at50`), which
   is what needs `Lemmas/Woehler.lean`. -/
import Proofs.Lemmas.Miner
import Proofs.Lemmas.Woehler

namespace PylifeVerif.Miner
open PylifeVerif

attribute [local simp] lit_one lit_two lit_zero

theorem zero_lit : (0.0 : ℝ) = 0 := lit_zero

theorem div_basquin (n ND x k : ℝ) (hx : 0 ≤ x) : n / (ND * x ^ (-k)) = n * x ^ k / ND := by
  rw [Real.rpow_neg hx, ← div_div, div_inv_eq_mul]
  ring

/-! ### the damage of one class: on the `k_1` line from the knee upwards, on the continuation `k_2` below it -/

theorem damageTerm_ge (c : Curve ℝ) (p : ℝ × ℝ) (h : ¬ p.1 < c.SD) :
    damageTerm c p = p.2 / (c.ND * (p.1 / c.SD) ^ (-c.k1)) := by
  simp [damageTerm, cycles, h, basquin]

theorem damageTerm_lt_none (c : Curve ℝ) (p : ℝ × ℝ) (h : p.1 < c.SD) : damageTerm { c with k2 := none } p = 0 := by
  simp [damageTerm, cycles, h]

theorem damageTerm_lt (c : Curve ℝ) (k : ℝ) (p : ℝ × ℝ) (h : p.1 < c.SD) :
    damageTerm { c with k2 := some k } p = p.2 / (c.ND * (p.1 / c.SD) ^ (-k)) := by
  simp [damageTerm, cycles, h, basquin]

/-- Below the knee a steeper continuation of the line damages less (`x^k' ≤ x^k` for `x = S/SD ≤ 1`, `0 ≤ k ≤ k'`); from the
knee upwards the continuation is not read. -/
theorem damageTerm_anti_slope (c : Curve ℝ) (hc : ValidCurve c) {p : ℝ × ℝ} (hS : 0 ≤ p.1) (hn : 0 ≤ p.2) {k k' : ℝ}
    (hk : 0 ≤ k) (hkk : k ≤ k') : damageTerm { c with k2 := some k' } p ≤ damageTerm { c with k2 := some k } p := by
  by_cases h : p.1 < c.SD
  · have hx0 : 0 ≤ p.1 / c.SD := div_nonneg hS hc.SD_pos.le
    have hx1 : p.1 / c.SD ≤ 1 := (div_le_one hc.SD_pos).mpr h.le
    rw [damageTerm_lt c k' p h, damageTerm_lt c k p h, div_basquin _ _ _ _ hx0, div_basquin _ _ _ _ hx0]
    exact div_le_div_of_nonneg_right
      (mul_le_mul_of_nonneg_left (Real.rpow_le_rpow_of_exponent_ge' hx0 hx1 hk hkk) hn) hc.ND_pos.le
  · rw [damageTerm_ge { c with k2 := some k' } p h, damageTerm_ge { c with k2 := some k } p h]

theorem damageTerm_none_le (c : Curve ℝ) (hc : ValidCurve c) {p : ℝ × ℝ} (hS : 0 ≤ p.1) (hn : 0 ≤ p.2) (k : ℝ) :
    damageTerm { c with k2 := none } p ≤ damageTerm { c with k2 := some k } p := by
  by_cases h : p.1 < c.SD
  · rw [damageTerm_lt_none c p h, damageTerm_lt c k p h]
    exact div_nonneg hn (mul_nonneg hc.ND_pos.le (Real.rpow_nonneg (div_nonneg hS hc.SD_pos.le) _))
  · rw [damageTerm_ge { c with k2 := none } p h, damageTerm_ge { c with k2 := some k } p h]

/-! ### class counts weighted by a function of the amplitude

Under either Miner rule the collective damages like `Σ nᵢ W(Sᵢ) / N` and the lifetime multiple is `Σ nᵢ / Σ nᵢ W(Sᵢ)`, each
rule with its own weight `W`. -/

noncomputable def wsum (W : ℝ → ℝ) (l : Coll ℝ) : ℝ := (l.map fun p => p.2 * W p.1).sum

theorem wsum_pos {W : ℝ → ℝ} {l : Coll ℝ} (hl : ValidColl l) (hload : Loaded l) (hW : ∀ S, 0 ≤ S → 0 ≤ W S)
    (hM : 0 < W (maxOcc l)) : 0 < wsum W l := by
  obtain ⟨⟨q, hq, hq2, hq1⟩, _⟩ := maxOcc_spec hload.exists_occupied
  refine sum_map_pos (fun r hr => mul_nonneg (hl r hr).2 (hW _ (hl r hr).1)) hq ?_
  rw [hq1]
  exact mul_pos hq2 hM

theorem damageSum_of_term (c' : Curve ℝ) (W : ℝ → ℝ) (D : ℝ) (l : Coll ℝ)
    (hterm : ∀ p ∈ l, damageTerm c' p = p.2 * W p.1 / D) : damageSum c' l = wsum W l / D := by
  rw [damageSum_eq, wsum, div_eq_mul_inv, ← List.sum_map_mul_right]
  exact congrArg List.sum (List.map_congr_left fun p hp => by rw [hterm p hp, div_eq_mul_inv])

theorem ND_mul_maxOcc_rpow_pos (c : Curve ℝ) (hc : ValidCurve c) {l : Coll ℝ} (hload : Loaded l) (k : ℝ) :
    0 < c.ND * (maxOcc l / c.SD) ^ k :=
  mul_pos hc.ND_pos (Real.rpow_pos_of_pos (div_pos (maxOcc_pos hload) hc.SD_pos) _)

/-- the denominator of `MinerHaibach.lifetime_multiple` (`sum1 + sum2`) -/
noncomputable def hsum (c : Curve ℝ) (M : ℝ) (l : Coll ℝ) : ℝ :=
  sumL ((l.filter fun p => decide (c.SD / M ≤ p.1 / M)).map fun p => p.2 * Transc.pow (p.1 / M) c.k1) +
  Transc.pow (c.SD / M) (1.0 - c.k1) *
    sumL ((l.filter fun p => decide (p.1 / M < c.SD / M)).map
      fun p => p.2 * Transc.pow (p.1 / M) (2.0 * c.k1 - 1.0))

theorem lifetimeMultipleHaibachAt_eq (c : Curve ℝ) (M : ℝ) (l : Coll ℝ) :
    lifetimeMultipleHaibachAt c M l = total l / hsum c M l := rfl

/-- the per-class weight in `hsum` -/
noncomputable def hweight (c : Curve ℝ) (M S : ℝ) : ℝ :=
  if c.SD / M ≤ S / M then (S / M) ^ c.k1 else (c.SD / M) ^ (1 - c.k1) * (S / M) ^ (2 * c.k1 - 1)

theorem hweight_nonneg (c : Curve ℝ) (hc : ValidCurve c) {M S : ℝ} (hM : 0 < M) (hS : 0 ≤ S) :
    0 ≤ hweight c M S := by
  have hs : 0 ≤ S / M := div_nonneg hS hM.le
  have hx : 0 ≤ c.SD / M := div_nonneg hc.SD_pos.le hM.le
  unfold hweight
  split_ifs
  · exact Real.rpow_nonneg hs _
  · exact mul_nonneg (Real.rpow_nonneg hx _) (Real.rpow_nonneg hs _)

theorem hsum_eq (c : Curve ℝ) (M : ℝ) (l : Coll ℝ) : hsum c M l = wsum (hweight c M) l := by
  unfold hsum wsum hweight
  -- `List.sum_map_ite`: the sum of the `ite` weight is the two filtered sums of `hsum`
  simp only [mul_ite, List.sum_map_ite, not_le, sumL_eq_sum, transc_pow, lit_two, lit_one]
  rw [← List.sum_map_mul_left]
  simp only [mul_left_comm]

/-- The damage of one class on the line of slope `k` through the knee, referred to an arbitrary amplitude `M > 0`:
`S/SD = (S/M)(M/SD)` and `(M/SD)^k = (SD/M)^(k₁-k) (M/SD)^k₁`. -/
theorem basquin_term_normalised (c : Curve ℝ) (hc : ValidCurve c) {M S : ℝ} (hM : 0 < M) (hS : 0 ≤ S) (n k : ℝ) :
    n / (c.ND * (S / c.SD) ^ (-k)) =
      n * ((c.SD / M) ^ (c.k1 - k) * (S / M) ^ k) / (c.ND * (M / c.SD) ^ (-c.k1)) := by
  have hSD := hc.SD_pos
  have ha : 0 < M / c.SD := div_pos hM hSD
  have hs : 0 ≤ S / M := div_nonneg hS hM.le
  have hsa : S / c.SD = S / M * (M / c.SD) := by field_simp
  have hk : (M / c.SD) ^ k = (M / c.SD) ^ (-(c.k1 - k)) * (M / c.SD) ^ c.k1 := by
    rw [← Real.rpow_add ha]; congr 1; ring
  rw [div_basquin _ _ _ _ ha.le, div_basquin _ _ _ _ (div_nonneg hS hSD.le), hsa, Real.mul_rpow hs ha.le, hk,
    ← inv_div M c.SD, Real.inv_rpow ha.le, ← Real.rpow_neg ha.le]
  ring

theorem basquin_term_normalised_k1 (c : Curve ℝ) (hc : ValidCurve c) {M S : ℝ} (hM : 0 < M) (hS : 0 ≤ S) (n : ℝ) :
    n / (c.ND * (S / c.SD) ^ (-c.k1)) = n * (S / M) ^ c.k1 / (c.ND * (M / c.SD) ^ (-c.k1)) := by
  rw [basquin_term_normalised c hc hM hS, sub_self, Real.rpow_zero, one_mul]

theorem haibach_term (c : Curve ℝ) (hc : ValidCurve c) {M : ℝ} (hM : 0 < M) {p : ℝ × ℝ} (hS : 0 ≤ p.1) :
    damageTerm (minerHaibach c) p = p.2 * hweight c M p.1 / (c.ND * (M / c.SD) ^ (-c.k1)) := by
  by_cases h : p.1 < c.SD
  · have hlt : ¬ c.SD / M ≤ p.1 / M := not_le.mpr (div_lt_div_of_pos_right h hM)
    rw [minerHaibach, damageTerm_lt c _ p h, lit_two, lit_one, basquin_term_normalised c hc hM hS, hweight, if_neg hlt]
    -- the exponents of `SD/M`: `k₁ - (2k₁ - 1) = 1 - k₁`
    congr 4
    ring
  · have hle : c.SD / M ≤ p.1 / M := div_le_div_of_nonneg_right (not_lt.mp h) hM.le
    rw [damageTerm_ge (minerHaibach c) p h, hweight, if_pos hle]
    exact basquin_term_normalised_k1 c hc hM hS p.2

theorem hweight_self_pos (c : Curve ℝ) (hc : ValidCurve c) {M : ℝ} (hM : 0 < M) :
    0 < hweight c M M := by
  have hx : 0 < c.SD / M := div_pos hc.SD_pos hM
  unfold hweight
  rw [div_self hM.ne']
  split_ifs
  · simp
  · simp only [Real.one_rpow, mul_one]
    exact Real.rpow_pos_of_pos hx _

theorem wsum_hweight_pos (c : Curve ℝ) (hc : ValidCurve c) (l : Coll ℝ) (hl : ValidColl l) (hload : Loaded l) :
    0 < wsum (hweight c (maxOcc l)) l :=
  wsum_pos hl hload (fun _ => hweight_nonneg c hc (maxOcc_pos hload)) (hweight_self_pos c hc (maxOcc_pos hload))

theorem lifetimeMultipleHaibach_eq (c : Curve ℝ) (l : Coll ℝ) :
    lifetimeMultipleHaibach c l = total l / wsum (hweight c (maxOcc l)) l := by
  rw [lifetimeMultipleHaibach, lifetimeMultipleHaibachAt_eq, hsum_eq]

theorem solidityHaibach_eq (l : Coll ℝ) (k : ℝ) :
    solidityHaibach l k = wsum (fun S => (S / maxOcc l) ^ k) l / total l := by
  simp only [solidityHaibach, wsum, sumL_eq_sum, transc_pow, div_eq_mul_inv]
  rw [← List.sum_map_mul_right]

theorem elementary_term (c : Curve ℝ) (hc : ValidCurve c) {M : ℝ} (hM : 0 < M) {p : ℝ × ℝ} (hS : 0 ≤ p.1) :
    damageTerm (minerElementary c) p = p.2 * (p.1 / M) ^ c.k1 / (c.ND * (M / c.SD) ^ (-c.k1)) := by
  have hterm : damageTerm (minerElementary c) p = p.2 / (c.ND * (p.1 / c.SD) ^ (-c.k1)) := by
    by_cases h : p.1 < c.SD
    · exact damageTerm_lt c c.k1 p h
    · exact damageTerm_ge (minerElementary c) p h
  rw [hterm, basquin_term_normalised_k1 c hc hM hS]

theorem wsum_rpow_pos (k : ℝ) (l : Coll ℝ) (hl : ValidColl l) (hload : Loaded l) :
    0 < wsum (fun S => (S / maxOcc l) ^ k) l := by
  have hM := maxOcc_pos hload
  refine wsum_pos hl hload (fun S hS => Real.rpow_nonneg (div_nonneg hS hM.le) _) ?_
  rw [div_self hM.ne', Real.one_rpow]
  exact one_pos

theorem lifetimeMultipleElementary_eq (c : Curve ℝ) (l : Coll ℝ) :
    lifetimeMultipleElementary c l = total l / wsum (fun S => (S / maxOcc l) ^ c.k1) l := by
  rw [lifetimeMultipleElementary, solidityHaibach_eq, lit_one, one_div_div]

theorem validColl_scaleAmps {l : Coll ℝ} (hl : ValidColl l) {t : ℝ} (ht : 0 < t) : ValidColl (scaleAmps t l) := by
  intro p hp
  obtain ⟨q, hq, rfl⟩ := List.mem_map.mp hp
  exact ⟨mul_nonneg ht.le (hl q hq).1, (hl q hq).2⟩

theorem loaded_scaleAmps {l : Coll ℝ} (hl : Loaded l) {t : ℝ} (ht : 0 < t) : Loaded (scaleAmps t l) := by
  obtain ⟨p, hp, hp2, hp1⟩ := hl
  exact ⟨(t * p.1, p.2), List.mem_map.mpr ⟨p, hp, rfl⟩, hp2, mul_pos ht hp1⟩

/-! ### native curves (failure probability, scatter): everything happens on the 50 % curve -/

@[simp] theorem at50_k1 (ppf : ℝ → ℝ) (w : Woehler.Curve ℝ) : (at50 ppf w).k1 = w.k1 := rfl
theorem at50_SD (ppf : ℝ → ℝ) (w : Woehler.Curve ℝ) : (at50 ppf w).SD = (Woehler.transform ppf w 0.5).SD := rfl
theorem at50_ND (ppf : ℝ → ℝ) (w : Woehler.Curve ℝ) : (at50 ppf w).ND = (Woehler.transform ppf w 0.5).ND := rfl

theorem validCurve_at50 (ppf : ℝ → ℝ) (w : Woehler.Curve ℝ) (hTS : 0 < w.TS) (hTN : 0 < w.TN)
    (hSD : 0 < w.SD) (hND : 0 < w.ND) : ValidCurve (at50 ppf w) :=
  ⟨Woehler.transform_SD_pos ppf w 0.5 hTS hSD, Woehler.transform_ND_pos ppf w 0.5 hTS hTN hSD hND⟩

/-- the Miner modifiers act on `k_2` only and the transformation does not read `k_2` -/
theorem at50_minerOriginal (ppf : ℝ → ℝ) (w : Woehler.Curve ℝ) :
    at50 ppf (Woehler.minerOriginal w) = minerOriginal (at50 ppf w) :=
  rfl

theorem at50_minerElementary (ppf : ℝ → ℝ) (w : Woehler.Curve ℝ) :
    at50 ppf (Woehler.minerElementary w) = minerElementary (at50 ppf w) :=
  rfl

theorem at50_minerHaibach (ppf : ℝ → ℝ) (w : Woehler.Curve ℝ) :
    at50 ppf (Woehler.minerHaibach w) = minerHaibach (at50 ppf w) :=
  rfl

theorem gassnerCyclesElementaryW_eq (ppf : ℝ → ℝ) (w : Woehler.Curve ℝ) (l : Coll ℝ) :
    gassnerCyclesElementaryW ppf w l = gassnerCyclesElementary (at50 ppf w) l := rfl

theorem gassnerCyclesHaibachW_eq (ppf : ℝ → ℝ) (w : Woehler.Curve ℝ) (l : Coll ℝ) :
    gassnerCyclesHaibachW ppf w l = gassnerCyclesHaibach (at50 ppf w) l := rfl

/-- the transformation is linear in `ND` -/
theorem transform_gassnerCurveW_ND (ppf : ℝ → ℝ) (w : Woehler.Curve ℝ) (l : Coll ℝ) (p : ℝ) :
    (Woehler.transform ppf (gassnerCurveW w l) p).ND =
      (Woehler.transform ppf w p).ND * lifetimeMultipleElementaryW w l := by
  unfold Woehler.transform gassnerCurveW
  dsimp only
  split_ifs <;> ring

theorem transform_gassnerCurveW_SD (ppf : ℝ → ℝ) (w : Woehler.Curve ℝ) (l : Coll ℝ) (p : ℝ) :
    (Woehler.transform ppf (gassnerCurveW w l) p).SD = (Woehler.transform ppf w p).SD := rfl

/-- `MinerElementary.gassner` commutes with the transformation to 50 %: the factor reads `k_1` only -/
theorem at50_gassnerCurveW (ppf : ℝ → ℝ) (w : Woehler.Curve ℝ) (l : Coll ℝ) :
    at50 ppf (gassnerCurveW w l) = gassnerCurve (at50 ppf w) l := by
  rw [at50, ofWoehler, transform_gassnerCurveW_ND]
  simp only [gassnerCurveW, Woehler.transform_k2, transc_isFinite, if_true]
  rfl

end PylifeVerif.Miner
