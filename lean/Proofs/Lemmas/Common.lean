/-
The equations of `sgn` and `fpClose` through which the rainflow proofs use these functions (`fpFeed` and
`fpPush` have `fpFeed_nil`, `fpFeed_cons`, `fpFeed_append` here and are otherwise unfolded where they
are used), `getLast!`, and the folds over chunks (`foldl_canon`, `foldl_canon_skip`, `foldl_reported`).

Namespaces: `Rainflow` for the general part; `Rainflow.Common` for the equations of `fpClose` / `fpFeed`.
The primes in `Common.fpClose_pos'` … `fpClose_two'` have no unprimed partner here: they keep the names
apart from `Rainflow.fpClose_neg` of `FourPointChunks.lean` (the same statement as `Common.fpClose_neg'`)
where both namespaces are open.
-/
import Model.Rainflow.Spec

namespace PylifeVerif.Rainflow

theorem sgn_pos {x : Int} (h : 0 < x) : sgn x = 1 := if_pos h

theorem sgn_neg {x : Int} (h : x < 0) : sgn x = -1 := by
  unfold sgn
  rw [if_neg (by omega), if_pos h]

theorem sgn_cases (x : Int) :
    (sgn x = 0 ∧ x = 0) ∨ (sgn x = 1 ∧ 0 < x) ∨ (sgn x = -1 ∧ x < 0) := by
  rcases Int.lt_trichotomy x 0 with h | rfl | h
  · exact Or.inr (Or.inr ⟨sgn_neg h, h⟩)
  · exact Or.inl ⟨rfl, rfl⟩
  · exact Or.inr (Or.inl ⟨sgn_pos h, h⟩)

theorem sgn_eq_zero_iff (x : Int) : sgn x = 0 ↔ x = 0 := by
  rcases sgn_cases x with h | h | h <;> omega

theorem sgn_self (v : Int) : sgn (v - v) = 0 := (sgn_eq_zero_iff _).2 (Int.sub_self v)

theorem sgn_sub_cases (x y : Int) :
    (sgn (x - y) = 0 ∧ x = y) ∨ (sgn (x - y) = 1 ∧ y < x) ∨ (sgn (x - y) = -1 ∧ x < y) := by
  rcases sgn_cases (x - y) with h | h | h <;> omega

theorem absDiff_comm (a b : Int) : absDiff a b = absDiff b a := by
  unfold absDiff
  omega

section GetLast
variable {α : Type} [Inhabited α]

theorem getLast!_cons (a : α) (l : List α) :
    (a :: l).getLast! = (a :: l).getLast (List.cons_ne_nil _ _) := by
  rw [List.getLast!_eq_getLast?_getD, List.getLast?_eq_some_getLast (List.cons_ne_nil _ _)]
  rfl

theorem getLast!_cons_cons (a b : α) (l : List α) : (a :: b :: l).getLast! = (b :: l).getLast! := by
  simp [List.getLast!_eq_getLast?_getD, List.getLast?_cons_cons]

theorem getLast!_append_cons (p : List α) (a : α) (l : List α) :
    (p ++ a :: l).getLast! = (a :: l).getLast! := by
  rw [List.getLast!_eq_getLast?_getD, List.getLast!_eq_getLast?_getD, List.getLast?_append,
    List.getLast?_eq_some_getLast (List.cons_ne_nil a l), Option.some_or]

end GetLast

theorem mem_ite_singleton {α : Type} {b : Bool} {c q : α} (h : q ∈ if b then [c] else []) : q = c := by
  cases b
  · cases h
  · exact List.mem_singleton.mp h

theorem foldl_chunks {σ α : Type} (step : σ → List α → σ) (Inv : List (List α) → σ → Prop)
    (hstep : ∀ pre c s, c ≠ [] → Inv pre s → Inv (pre ++ [c]) (step s c)) :
    ∀ cs : List (List α), (∀ c ∈ cs, c ≠ []) → ∀ pre s, Inv pre s →
      Inv (pre ++ cs) (cs.foldl step s)
  | [], _, pre, s, h => by rwa [List.append_nil]
  | c :: cs, hne, pre, s, h => by
    have := foldl_chunks step Inv hstep cs (fun c' hc' => hne c' (List.mem_cons_of_mem _ hc'))
      (pre ++ [c]) (step s c) (hstep pre c s (hne c List.mem_cons_self) h)
    rwa [List.append_assoc] at this

/-- `canon p ch`: the state after the signal `p` has arrived in chunks of lengths `ch`.  What is left
to show of a detector is one call, started in a canonical state.  The fold starts in `canon [] []`: a user
whose run starts in the empty state `{}` needs `canon [] [] = {}`, by `rfl` for `fpCanon` and `canonTs`. -/
theorem foldl_canon {σ α : Type} (step : σ → List α → σ) (canon : List α → List Nat → σ)
    (h : ∀ p c ch, c ≠ [] → step (canon p ch) c = canon (p ++ c) (ch ++ [c.length]))
    (cs : List (List α)) (hne : ∀ c ∈ cs, c ≠ []) :
    cs.foldl step (canon [] []) = canon cs.flatten (cs.map List.length) := by
  have := foldl_chunks step (fun pre s => s = canon pre.flatten (pre.map List.length))
    (fun pre c s hc hs => by
      rw [hs, h _ c _ hc, List.flatten_append, List.flatten_singleton, List.map_append,
        List.map_singleton])
    cs hne [] _ rfl
  rwa [List.nil_append] at this

theorem foldl_skip_nil {σ α : Type} (step : σ → List α → σ) (h : ∀ s, step s [] = s) :
    ∀ (cs : List (List α)) (s : σ), cs.foldl step s = (cs.filter (· ≠ [])).foldl step s
  | [], _ => rfl
  | [] :: cs, s => by
    rw [List.foldl_cons, h, foldl_skip_nil step h cs s]; rfl
  | (_ :: _) :: cs, s => by
    rw [List.foldl_cons, foldl_skip_nil step h cs _]; rfl

theorem foldl_canon_skip {σ α : Type} (step : σ → List α → σ) (canon : List α → List Nat → σ)
    (hnil : ∀ s, step s [] = s)
    (h : ∀ p c ch, c ≠ [] → step (canon p ch) c = canon (p ++ c) (ch ++ [c.length]))
    (cs : List (List α)) :
    cs.foldl step (canon [] []) = canon cs.flatten ((cs.filter (· ≠ [])).map List.length) := by
  rw [foldl_skip_nil step hnil,
    foldl_canon step canon h _ (fun c hc => by simpa using (List.mem_filter.1 hc).2),
    List.flatten_filter_ne_nil]

theorem chunks_flatten_ne_nil {α : Type} {cs : List (List α)} (hne : ∀ c ∈ cs, c ≠ []) (h0 : cs ≠ []) :
    cs.flatten ≠ [] := by
  cases cs with
  | nil => exact absurd rfl h0
  | cons c cs => simp [hne c]

/-- A step that changes a state `mk t l` only through what `emit` reports from the bookkeeping `t`:
the fold is `mk` of the folded bookkeeping and of everything reported. -/
theorem foldl_reported {σ τ β γ : Type} (step : σ → γ → σ) (emit : τ → γ → τ × List β)
    (mk : τ → List β → σ)
    (h : ∀ t l c, step (mk t l) c = mk (emit t c).1 (l ++ (emit t c).2))
    (cs : List γ) (t : τ) (l : List β) :
    cs.foldl step (mk t l) =
      mk (cs.foldl (fun acc c => ((emit acc.1 c).1, acc.2 ++ (emit acc.1 c).2)) (t, l)).1
        (cs.foldl (fun acc c => ((emit acc.1 c).1, acc.2 ++ (emit acc.1 c).2)) (t, l)).2 :=
  List.foldl_hom (fun a : τ × List β => mk a.1 a.2) (init := (t, l)) fun a c => h a.1 a.2 c

end PylifeVerif.Rainflow

namespace PylifeVerif.Rainflow.Common
open PylifeVerif.Rainflow

theorem fpClose_pos' (c b a : Pt) (rest : List Pt) (d : Int)
    (h : absDiff b.2 c.2 ≤ absDiff a.2 b.2 ∧ absDiff b.2 c.2 ≤ absDiff c.2 d) :
    fpClose (c :: b :: a :: rest) d =
      ((b, c) :: (fpClose (a :: rest) d).1, (fpClose (a :: rest) d).2) := by
  rw [fpClose]; simp [h]

theorem fpClose_neg' (c b a : Pt) (rest : List Pt) (d : Int)
    (h : ¬ (absDiff b.2 c.2 ≤ absDiff a.2 b.2 ∧ absDiff b.2 c.2 ≤ absDiff c.2 d)) :
    fpClose (c :: b :: a :: rest) d = ([], c :: b :: a :: rest) := by
  rw [fpClose]; simp [h]

theorem fpClose_nil' (d : Int) : fpClose [] d = ([], []) := by simp [fpClose]
theorem fpClose_one' (c : Pt) (d : Int) : fpClose [c] d = ([], [c]) := by simp [fpClose]
theorem fpClose_two' (c b : Pt) (d : Int) : fpClose [c, b] d = ([], [c, b]) := by simp [fpClose]

theorem fpClose_true' (st : List Pt) (d : Int) : (fpClose st d).2.length ≤ st.length + 0 := by
  fun_induction fpClose st d with
  | case1 c b a rest d h r ih => simp only [List.length_cons, Nat.add_zero] at ih ⊢; exact Nat.le_trans ih (by omega)
  | case2 c b a rest d h => simp
  | case3 st d h => simp

theorem fpFeed_nil (st : List Pt) : fpFeed st [] = ([], st) := rfl

theorem fpFeed_cons (st : List Pt) (p : Pt) (ps : List Pt) :
    fpFeed st (p :: ps) =
      ((fpClose st p.2).1 ++ (fpFeed (p :: (fpClose st p.2).2) ps).1,
        (fpFeed (p :: (fpClose st p.2).2) ps).2) := rfl

theorem fpFeed_append (l l' : List Pt) : ∀ st : List Pt,
    fpFeed st (l ++ l') =
      ((fpFeed st l).1 ++ (fpFeed (fpFeed st l).2 l').1, (fpFeed (fpFeed st l).2 l').2) := by
  induction l with
  | nil => intro st; rfl
  | cons p l ih =>
    intro st
    simp only [List.cons_append, fpFeed_cons, ih, List.append_assoc]

theorem fpClose_ne_nil (st : List Pt) (d : Int) (h : st ≠ []) : (fpClose st d).2 ≠ [] := by
  fun_induction fpClose st d with
  | case1 c b a rest d hc r ih => exact ih (List.cons_ne_nil _ _)
  | case2 c b a rest d hc => exact h
  | case3 st d hst => exact h

theorem fpFeed_ne_nil (ps : List Pt) : ∀ (st : List Pt), st ≠ [] → (fpFeed st ps).2 ≠ [] := by
  induction ps with
  | nil => intro st h; exact h
  | cons p ps ih => intro st _; exact ih _ (List.cons_ne_nil _ _)

end PylifeVerif.Rainflow.Common
