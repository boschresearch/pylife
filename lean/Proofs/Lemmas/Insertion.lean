/-
Insertion of a sample that is no reversal (a repetition of its predecessor, or a value strictly between
its neighbours, `InsOK`): the turning points keep their values and move by the index map `bump`
(`findTurns_ins`).  The block in front of the inserted sample leaves one candidate and the local test
`isRevLocal` (`findTurns_split`); the look-ahead of the candidate does not see the inserted sample
(`isRevLocal_ins`), which fails the test itself, and its successor does not tell it from its predecessor
(`revList_ins`).

Namespace `HCM.Insert`, although the file is about `findTurns` alone: `bump`, `bumpN` and `InsOK` appear
in the C03 and the C04 insertion theorems under these names.
-/
import Proofs.Lemmas.Turns

namespace PylifeVerif.HCM.Insert
open PylifeVerif.Rainflow
open PylifeVerif.C02 (isRevLocal revList isRevLocal_self isRevLocal_cons_self isRevLocal_cons_ne)

/-- index map of an insertion at position `k` -/
def bumpN (k j : Nat) : Nat := if j < k then j else j + 1
def bump (k : Nat) (p : Pt) : Pt := (bumpN k p.1, p.2)

theorem idx_bump (k : Nat) (l : List Pt) :
    (l.map (bump k)).map (·.1) = (l.map (·.1)).map (bumpN k) := by
  simp [bump, Function.comp_def]

theorem shift_bump (k : Nat) (l : List Pt) (h : ∀ q ∈ l, k ≤ q.1) :
    shiftPts 1 l = l.map (bump k) := by
  unfold shiftPts
  apply List.map_congr_left
  intro q hq
  have := h q hq
  simp only [bump, bumpN, if_neg (show ¬ q.1 < k by omega)]

theorem map_bumpN_of_lt (k : Nat) (l : List Nat) (h : ∀ j ∈ l, j < k) : l.map (bumpN k) = l := by
  conv => rhs; rw [← List.map_id l]
  exact List.map_congr_left fun j hj => if_pos (h j hj)

theorem bump_id (k : Nat) (l : List Pt) (h : ∀ q ∈ l, q.1 < k) : l.map (bump k) = l := by
  conv => rhs; rw [← List.map_id l]
  exact List.map_congr_left fun q hq => Prod.ext (if_pos (h q hq)) rfl

theorem revList_succ (k j : Nat) (hk : k ≤ j) (l : List Int) :
    revList (j + 1) l = (revList j l).map (bump k) := by
  rw [revList_shift 1 j l]
  exact shift_bump k _ fun q hq => Nat.le_trans hk (revList_idx j l q hq).1

theorem isRevLocal_congr_pred {x v y : Int} (h : (x < y ∧ v < y) ∨ (y < x ∧ y < v)) (S : List Int) :
    isRevLocal v y S = isRevLocal x y S := by
  unfold isRevLocal
  rw [if_neg (by omega), if_neg (by omega)]
  cases S.find? (· ≠ y) with
  | none => rfl
  | some n =>
    rcases h with ⟨h1, h2⟩ | ⟨h1, h2⟩ <;>
      simp only [h1, h2, true_and, gt_iff_lt, Int.lt_asymm h1, Int.lt_asymm h2, false_and]

/-- insertion of a non-reversal sample `v` behind the non-empty block `A`: a repetition of the last
sample of `A`, or a value strictly between it and the next sample -/
def InsOK (A : List Int) (v : Int) (B : List Int) : Prop :=
  ∃ x, A.getLast? = some x ∧
    (v = x ∨ ∃ y B', B = y :: B' ∧ ((x < v ∧ v < y) ∨ (y < v ∧ v < x)))

theorem isRevLocal_ins (u x v : Int) (B : List Int)
    (h : v = x ∨ ∃ y B', B = y :: B' ∧ ((x < v ∧ v < y) ∨ (y < v ∧ v < x))) :
    isRevLocal u x (v :: B) = isRevLocal u x B := by
  rcases h with rfl | ⟨y, B', rfl, h⟩
  · exact isRevLocal_cons_self _ _ _
  · rw [isRevLocal_cons_ne (by omega), isRevLocal_cons_ne (by omega)]
    exact decide_eq_decide.mpr (by omega)

theorem revList_ins (i : Nat) (x v : Int) (B : List Int)
    (h : v = x ∨ ∃ y B', B = y :: B' ∧ ((x < v ∧ v < y) ∨ (y < v ∧ v < x))) :
    revList i (x :: v :: B) = (revList i (x :: B)).map (bump i) := by
  rcases h with rfl | ⟨y, B', rfl, h⟩
  · rw [revList, isRevLocal_self, revList_succ i i (Nat.le_refl i)]
    rfl
  · have e : isRevLocal x v (y :: B') = false := by
      rw [isRevLocal_cons_ne (by omega)]
      exact decide_eq_false (by omega)
    rw [revList, e, revList, revList, isRevLocal_congr_pred (x := x) (by omega),
      revList_succ i (i + 1) (Nat.le_succ i)]
    simp only [Bool.false_eq_true, if_false, List.nil_append, List.map_append]
    split <;> simp [bump, bumpN]

theorem findTurns_ins (A B : List Int) (v : Int) (h : InsOK A v B) :
    findTurns (A ++ v :: B) = (findTurns (A ++ B)).map (bump A.length) := by
  obtain ⟨x, hx, h⟩ := h
  obtain ⟨u, c, hc, -, hs⟩ := findTurns_split A x hx
  rw [hs, hs, List.map_append, List.map_append,
    bump_id _ _ fun q hq => Nat.lt_of_succ_lt (findTurns_idx A q hq).2,
    bump_id _ _ fun q hq => mem_ite_singleton hq ▸ hc, isRevLocal_ins u x v B h, revList_ins _ x v B h]

theorem InsOK.of_between {A : List Int} {x v y : Int} (B : List Int) (hx : A.getLast? = some x)
    (hv : (x ≤ v ∧ v ≤ y) ∨ (y ≤ v ∧ v ≤ x)) (hne : v ≠ y ∨ v = x) : InsOK A v (y :: B) :=
  ⟨x, hx, if h : v = x then Or.inl h else Or.inr ⟨y, B, rfl, by omega⟩⟩

theorem InsOK.append_right {A B : List Int} {v : Int} (h : InsOK A v B) (C : List Int) :
    InsOK A v (B ++ C) := by
  obtain ⟨x, hx, h⟩ := h
  refine ⟨x, hx, ?_⟩
  rcases h with h | ⟨y, B', rfl, h⟩
  · exact Or.inl h
  · exact Or.inr ⟨y, B' ++ C, rfl, h⟩

theorem InsOK.ne_nil {A B : List Int} {v : Int} (h : InsOK A v B) : A ≠ [] := by
  obtain ⟨x, hx, _⟩ := h
  intro h0; rw [h0] at hx; simp at hx

theorem InsOK.prepend {A B : List Int} {v : Int} (h : InsOK A v B) (C : List Int) :
    InsOK (C ++ A) v B := by
  have hA := h.ne_nil
  obtain ⟨x, hx, h⟩ := h
  exact ⟨x, by rw [List.getLast?_append_of_ne_nil _ hA, hx], h⟩

theorem InsOK.of_last {A A' B : List Int} {v : Int} (h : InsOK A v B)
    (hl : A'.getLast? = A.getLast?) : InsOK A' v B := by
  obtain ⟨x, hx, h⟩ := h
  exact ⟨x, hl.trans hx, h⟩

theorem InsOK.take {A B : List Int} {v : Int} (h : InsOK A v B) (m : Nat) (hm : 1 ≤ m) :
    InsOK A v (B.take m) := by
  obtain ⟨x, hx, h⟩ := h
  refine ⟨x, hx, ?_⟩
  rcases h with h | ⟨y, B', rfl, h⟩
  · exact Or.inl h
  · refine Or.inr ⟨y, B'.take (m - 1), ?_, h⟩
    obtain ⟨m', rfl⟩ : ∃ m', m = m' + 1 := ⟨m - 1, by omega⟩
    simp

end PylifeVerif.HCM.Insert
