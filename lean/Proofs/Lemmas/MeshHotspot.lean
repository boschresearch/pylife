/-
Hot-spot detection (`Model/Mesh.lean`, section HotSpot): the labels are the connected components of the
thresholded rows under the adjacency, numbered by descending peak value.
-/
import Model.Mesh
import Proofs.Lemmas.ListFacts
import Mathlib.Order.Basic
import Mathlib.Data.List.Basic
import Mathlib.Logic.Relation
import Mathlib.Data.Int.Order.Basic

namespace PylifeVerif.Mesh

variable {α : Type} [LinearOrder α]

/-- The running arg-max of `argmaxFirst` (and, with `key = id`, the running maximum of `maxOf`). -/
theorem foldl_argmax_spec {β : Type} (key : β → α) (l : List β) (i : β) :
    l.foldl (fun best j => if key best < key j then j else best) i ∈ i :: l ∧
    ∀ j ∈ i :: l, key j ≤ key (l.foldl (fun best j => if key best < key j then j else best) i) := by
  refine ⟨?_, foldl_select (R := fun a b => key b ≤ key a) (fun _ => le_rfl) (fun h1 h2 => h2.trans h1) _
    (fun m y => by split_ifs with h; exacts [h.le, le_rfl])
    (fun m y => by split_ifs with h; exacts [le_rfl, not_lt.mp h]) l i⟩
  induction l generalizing i with
  | nil => simp
  | cons a as ih =>
    rw [List.foldl_cons]
    split_ifs with h
    · exact List.mem_cons_of_mem _ (ih a)
    · exact List.mem_cons.2 ((List.mem_cons.1 (ih i)).imp_right (List.mem_cons_of_mem a))

theorem argmaxFirst_spec (val : Nat → α) (rem : List Nat) (p : Nat) (h : argmaxFirst val rem = some p) :
    p ∈ rem ∧ ∀ j ∈ rem, val j ≤ val p := by
  cases rem with
  | nil => simp [argmaxFirst] at h
  | cons i rest =>
    simp only [argmaxFirst, Option.some.injEq] at h
    subst h
    exact foldl_argmax_spec val rest i

theorem argmaxFirst_none (val : Nat → α) (rem : List Nat) (h : argmaxFirst val rem = none) : rem = [] := by
  cases rem with
  | nil => rfl
  | cons i rest => simp [argmaxFirst] at h

theorem maxOf_spec (l : List α) (m : α) (h : maxOf l = some m) : m ∈ l ∧ ∀ x ∈ l, x ≤ m := by
  cases l with
  | nil => simp [maxOf] at h
  | cons x xs =>
    simp only [maxOf, Option.some.injEq] at h
    subst h
    exact foldl_argmax_spec id xs x

theorem mem_growStep (adj : Nat → Nat → Bool) (rem S : List Nat) (x : Nat) :
    x ∈ growStep adj rem S ↔ x ∈ S ∨ (x ∈ rem ∧ x ∉ S ∧ ∃ j ∈ S, adj j x = true) := by
  simp [growStep, List.mem_append, List.mem_filter]

/-- `S` is closed under adjacency within `rem`: a remaining neighbour of a member is a member. -/
def Closed (adj : Nat → Nat → Bool) (rem S : List Nat) : Prop :=
  ∀ j ∈ S, ∀ i ∈ rem, adj j i = true → i ∈ S

def RemStep (adj : Nat → Nat → Bool) (rem : List Nat) (a b : Nat) : Prop :=
  a ∈ rem ∧ b ∈ rem ∧ adj a b = true

theorem grow_succ (adj : Nat → Nat → Bool) (rem : List Nat) (fuel : Nat) (S : List Nat) :
    grow adj rem (fuel + 1) S =
      if (growStep adj rem S).length = S.length then S else grow adj rem fuel (growStep adj rem S) := by
  simp [grow]

theorem grow_invariant (P : List Nat → Prop) (adj : Nat → Nat → Bool) (rem : List Nat)
    (hstep : ∀ S, P S → P (growStep adj rem S)) : ∀ (fuel : Nat) (S : List Nat), P S → P (grow adj rem fuel S)
  | 0, S, h => by simpa [grow] using h
  | fuel + 1, S, h => by
    rw [grow_succ]
    split_ifs
    · exact h
    · exact grow_invariant P adj rem hstep fuel _ (hstep S h)

theorem filter_length_lt (l : List Nat) (p q : Nat → Bool) (hpq : ∀ x, p x = true → q x = true)
    (x : Nat) (hx : x ∈ l) (hq : q x = true) (hp : p x = false) :
    (l.filter p).length < (l.filter q).length := by
  have hpq' : l.filter p = (l.filter q).filter p := by
    rw [List.filter_filter]
    exact List.filter_congr fun y _ => by cases h : p y <;> simp [hpq y, h]
  rw [hpq']
  exact List.length_filter_lt_length_iff_exists.2 ⟨x, List.mem_filter.2 ⟨hx, hq⟩, by simp [hp]⟩

/-- A pass of the loop adds nothing exactly when the hot spot is closed. -/
theorem growStep_length_eq_iff (adj : Nat → Nat → Bool) (rem S : List Nat) :
    (growStep adj rem S).length = S.length ↔ Closed adj rem S := by
  simp only [growStep, List.length_append, Nat.add_eq_left, List.length_eq_zero_iff, List.filter_eq_nil_iff,
    Bool.and_eq_true, Bool.not_eq_true', List.contains_eq_mem, decide_eq_false_iff_not, List.any_eq_true, not_and,
    not_exists]
  exact ⟨fun h j hj i hi hadj => by_contra fun hni => h i hi hni j hj hadj,
    fun h i hi hni j hj hadj => hni (h j hj i hi hadj)⟩

theorem grow_closed (adj : Nat → Nat → Bool) (rem : List Nat) :
    ∀ (fuel : Nat) (S : List Nat), (rem.filter (fun i => !S.contains i)).length < fuel →
      Closed adj rem (grow adj rem fuel S)
  | 0, S, h => by omega
  | fuel + 1, S, h => by
    rw [grow_succ]
    split_ifs with hlen
    · exact (growStep_length_eq_iff adj rem S).1 hlen
    · apply grow_closed adj rem fuel
      -- a row `x` that the pass adds
      simp only [growStep_length_eq_iff, Closed, not_forall] at hlen
      obtain ⟨j, hj, x, hxrem, hadj, hxS⟩ := hlen
      have hxS' := (mem_growStep adj rem S x).2 (Or.inr ⟨hxrem, hxS, j, hj, hadj⟩)
      have := filter_length_lt rem (fun i => !(growStep adj rem S).contains i) (fun i => !S.contains i)
        (by
          intro y hy
          simp only [Bool.not_eq_true', List.contains_eq_mem, decide_eq_false_iff_not] at hy ⊢
          intro hyS
          exact hy ((mem_growStep adj rem S y).2 (Or.inl hyS)))
        x hxrem (by simpa using hxS) (by simpa using hxS')
      omega

theorem grow_reach (adj : Nat → Nat → Bool) (rem : List Nat) (p : Nat) (hp : p ∈ rem) (fuel : Nat) :
    p ∈ grow adj rem fuel [p] ∧
      ∀ x ∈ grow adj rem fuel [p], x ∈ rem ∧ Relation.ReflTransGen (RemStep adj rem) p x := by
  refine grow_invariant (fun S => p ∈ S ∧ ∀ x ∈ S, x ∈ rem ∧ Relation.ReflTransGen (RemStep adj rem) p x) adj rem
    (fun S hS => ⟨(mem_growStep adj rem S p).2 (Or.inl hS.1), fun x hx => ?_⟩) fuel [p]
    ⟨List.mem_singleton_self p, fun x hx => by rw [List.mem_singleton.1 hx]; exact ⟨hp, .refl⟩⟩
  rcases (mem_growStep adj rem S x).1 hx with h | ⟨hxr, _, j, hj, hadj⟩
  · exact hS.2 x h
  · exact ⟨hxr, .tail (hS.2 j hj).2 ⟨(hS.2 j hj).1, hxr, hadj⟩⟩

theorem labelOf_nil (i : Nat) : labelOf [] i = 0 := rfl

theorem labelOf_cons (c : List Nat) (cs : List (List Nat)) (i : Nat) :
    labelOf (c :: cs) i = if i ∈ c then 1 else if labelOf cs i = 0 then 0 else labelOf cs i + 1 := by
  unfold labelOf
  rw [List.findIdx?_cons]
  by_cases h : i ∈ c
  · simp [h]
  · simp only [List.contains_eq_mem, h, decide_false, Bool.false_eq_true, if_false]
    cases List.findIdx? (fun x => decide (i ∈ x)) cs <;> simp

theorem labelOf_cons_mem (c : List Nat) (cs : List (List Nat)) (i : Nat) (h : i ∈ c) :
    labelOf (c :: cs) i = 1 := by
  rw [labelOf_cons, if_pos h]

theorem labelOf_cons_not_mem (c : List Nat) (cs : List (List Nat)) (i : Nat) (h : i ∉ c) :
    labelOf (c :: cs) i ≠ 1 ∧ labelOf cs i = labelOf (c :: cs) i - 1 := by
  rw [labelOf_cons, if_neg h]
  split_ifs <;> omega

theorem labelOf_cons_eq_one_iff (c : List Nat) (cs : List (List Nat)) (i : Nat) : labelOf (c :: cs) i = 1 ↔ i ∈ c :=
  ⟨fun h => by_contra fun hic => (labelOf_cons_not_mem c cs i hic).1 h, labelOf_cons_mem c cs i⟩

theorem mem_filter_not_contains (rem c : List Nat) (x : Nat) :
    x ∈ rem.filter (fun i => !c.contains i) ↔ x ∈ rem ∧ x ∉ c := by
  simp [List.mem_filter]

theorem components_zero (adj : Nat → Nat → Bool) (val : Nat → α) (rem : List Nat) :
    components adj val 0 rem = [] := rfl

/-- What `components` returns for the remaining rows `rem` when the fuel suffices: the first hot spot `c` contains a row
`p` of maximal value, consists of remaining rows, is closed under adjacency and is reachable from `p`; the others are
the hot spots of the rows outside `c`. -/
inductive HotSpots (adj : Nat → Nat → Bool) (val : Nat → α) : List Nat → List (List Nat) → Prop
  | nil : HotSpots adj val [] []
  | cons {rem c : List Nat} {cs : List (List Nat)} (p : Nat) : p ∈ rem → (∀ j ∈ rem, val j ≤ val p) → p ∈ c →
      (∀ x ∈ c, x ∈ rem) → Closed adj rem c → (∀ x ∈ c, Relation.ReflTransGen (RemStep adj rem) p x) →
      HotSpots adj val (rem.filter fun i => !c.contains i) cs → HotSpots adj val rem (c :: cs)

theorem components_hotSpots (adj : Nat → Nat → Bool) (val : Nat → α) :
    ∀ (fuel : Nat) (rem : List Nat), rem.length ≤ fuel → HotSpots adj val rem (components adj val fuel rem)
  | 0, rem, h => by
    rw [List.length_eq_zero_iff.1 (Nat.le_zero.1 h)]
    exact .nil
  | fuel + 1, rem, h => by
    cases hp : argmaxFirst val rem with
    | none =>
      rw [argmaxFirst_none val rem hp]
      exact .nil
    | some p =>
      obtain ⟨hprem, hmax⟩ := argmaxFirst_spec val rem p hp
      obtain ⟨hp1, hreach⟩ := grow_reach adj rem p hprem rem.length
      simp only [components, hp]
      refine .cons p hprem hmax hp1 (fun x hx => (hreach x hx).1) (grow_closed adj rem _ _ ?_)
        (fun x hx => (hreach x hx).2) (components_hotSpots adj val fuel _ ?_)
      · simpa using filter_length_lt rem (fun i => !([p] : List Nat).contains i) (fun _ => true)
          (by intros; rfl) p hprem rfl (by simp)
      · have := filter_length_lt rem (fun i => !(grow adj rem rem.length [p]).contains i) (fun _ => true)
          (by intros; rfl) p hprem rfl (by simpa using hp1)
        simp only [List.filter_true] at this
        omega

section Labels

variable {adj : Nat → Nat → Bool} {val : Nat → α} {rem : List Nat} {cs : List (List Nat)}

theorem label_pos_iff (h : HotSpots adj val rem cs) (i : Nat) : 1 ≤ labelOf cs i ↔ i ∈ rem := by
  induction h with
  | nil => simp [labelOf_nil]
  | @cons rem c cs p _ _ _ hsub _ _ _ ih =>
    by_cases hic : i ∈ c
    · rw [labelOf_cons_mem _ _ _ hic]
      exact iff_of_true (Nat.le_refl 1) (hsub i hic)
    · have hi := labelOf_cons_not_mem c cs i hic
      rw [← and_iff_left (a := i ∈ rem) hic, ← mem_filter_not_contains, ← ih]
      omega

theorem label_adj (hsymm : ∀ i j, adj i j = adj j i) (h : HotSpots adj val rem cs) (i j : Nat) (hi : i ∈ rem)
    (hj : j ∈ rem) (hadj : adj i j = true) : labelOf cs i = labelOf cs j := by
  induction h with
  | nil => rfl
  | @cons rem c cs p _ _ _ _ hcl _ _ ih =>
    by_cases hic : i ∈ c
    · rw [labelOf_cons_mem _ _ _ hic, labelOf_cons_mem _ _ _ (hcl i hic j hj hadj)]
    · have hjc : j ∉ c := fun hjc => hic (hcl j hjc i hi (by rw [hsymm]; exact hadj))
      have := ih ((mem_filter_not_contains rem c i).2 ⟨hi, hic⟩) ((mem_filter_not_contains rem c j).2 ⟨hj, hjc⟩)
      have := labelOf_cons_not_mem c cs i hic
      have := labelOf_cons_not_mem c cs j hjc
      omega

theorem remStep_chain_symm (hsymm : ∀ i j, adj i j = adj j i) (a b : Nat)
    (h : Relation.ReflTransGen (RemStep adj rem) a b) : Relation.ReflTransGen (RemStep adj rem) b a := by
  induction h with
  | refl => exact Relation.ReflTransGen.refl
  | tail _ hbc ih => exact Relation.ReflTransGen.head ⟨hbc.2.1, hbc.1, by rw [hsymm]; exact hbc.2.2⟩ ih

theorem label_connected (hsymm : ∀ i j, adj i j = adj j i) (h : HotSpots adj val rem cs) (i j : Nat)
    (hpos : 1 ≤ labelOf cs i) (heqL : labelOf cs i = labelOf cs j) :
    Relation.ReflTransGen (RemStep adj rem) i j := by
  induction h with
  | nil => simp [labelOf_nil] at hpos
  | @cons rem c cs p _ _ _ _ _ hreach _ ih =>
    have hc : i ∈ c ↔ j ∈ c := by
      rw [← labelOf_cons_eq_one_iff c cs, ← labelOf_cons_eq_one_iff c cs, heqL]
    by_cases hic : i ∈ c
    · exact (remStep_chain_symm hsymm _ _ (hreach i hic)).trans (hreach j (hc.1 hic))
    · have hi := labelOf_cons_not_mem c cs i hic
      have hj := labelOf_cons_not_mem c cs j (mt hc.2 hic)
      refine Relation.ReflTransGen.mono ?_ _ _ (ih (by omega) (by omega))
      intro a b hab
      exact ⟨((mem_filter_not_contains rem c a).1 hab.1).1, ((mem_filter_not_contains rem c b).1 hab.2.1).1, hab.2.2⟩

/-- Every label between 1 and a label in use is carried by a row that dominates the rows of its own and of all later hot
spots (the seed of its hot spot): labels are numbered by descending peak and used without gaps. -/
theorem label_seed (h : HotSpots adj val rem cs) (j l : Nat) (h1 : 1 ≤ l) (h2 : l ≤ labelOf cs j) :
    ∃ k ∈ rem, labelOf cs k = l ∧ ∀ j', l ≤ labelOf cs j' → val j' ≤ val k := by
  induction h generalizing l with
  | nil => simp [labelOf_nil] at h2; omega
  | @cons rem c cs p hp hmax hpc hsub hcl hreach hrest ih =>
    by_cases hl : l = 1
    · refine ⟨p, hp, by rw [labelOf_cons_mem _ _ _ hpc, hl], fun j' hj' => ?_⟩
      exact hmax j' ((label_pos_iff (.cons p hp hmax hpc hsub hcl hreach hrest) j').1 (by omega))
    · have hjc : j ∉ c := fun hjc => by rw [labelOf_cons_mem _ _ _ hjc] at h2; omega
      have hj := labelOf_cons_not_mem c cs j hjc
      obtain ⟨k, hk, hkeq, hkmax⟩ := ih (l - 1) (by omega) (by omega)
      have hkc := (mem_filter_not_contains rem c k).1 hk
      have hk' := labelOf_cons_not_mem c cs k hkc.2
      refine ⟨k, hkc.1, by omega, fun j' hj' => hkmax j' ?_⟩
      by_cases hjc' : j' ∈ c
      · rw [labelOf_cons_mem _ _ _ hjc'] at hj'
        omega
      · have := labelOf_cons_not_mem c cs j' hjc'
        omega

end Labels

/-- the label `hotspotCore` gives row `i` (0: below the threshold, or `i ≥ n`) -/
def labelAt [Mul α] (n : Nat) (adj : Nat → Nat → Bool) (val : Nat → α) (frac : α) (cap : Option α) (i : Nat) : Nat :=
  (hotspotCore n adj val frac cap).getD i 0

/-- The rows that enter the maximum (`artefact_threshold`). -/
def candidates (n : Nat) (val : Nat → α) (cap : Option α) : List Nat :=
  match cap with
  | none => List.range n
  | some t => (List.range n).filter (fun i => val i < t)

/-- One adjacency step between rows at or above the threshold `thr`; the hot spots are the classes of its reflexive
transitive closure.  (`[Mul α]` is not used: the theorems about it have it for the threshold `frac * m`.) -/
def HotStep [Mul α] (n : Nat) (adj : Nat → Nat → Bool) (val : Nat → α) (thr : α) (a b : Nat) : Prop :=
  a < n ∧ b < n ∧ thr ≤ val a ∧ thr ≤ val b ∧ adj a b = true

def above (n : Nat) (val : Nat → α) (thr : α) : List Nat := (List.range n).filter (fun i => thr ≤ val i)

theorem mem_above (n : Nat) (val : Nat → α) (thr : α) (i : Nat) : i ∈ above n val thr ↔ i < n ∧ thr ≤ val i := by
  simp [above, List.mem_filter]

theorem above_hotSpots (n : Nat) (adj : Nat → Nat → Bool) (val : Nat → α) (thr : α) :
    HotSpots adj val (above n val thr) (components adj val n (above n val thr)) :=
  components_hotSpots adj val n _ (Nat.le_trans (List.length_filter_le _ _) (Nat.le_of_eq List.length_range))

theorem hotspotCore_eq [Mul α] (n : Nat) (adj : Nat → Nat → Bool) (val : Nat → α) (frac : α) (cap : Option α) :
    hotspotCore n adj val frac cap =
      match maxOf ((candidates n val cap).map val) with
      | none => (List.range n).map (fun _ => 0)
      | some m => (List.range n).map (labelOf (components adj val n (above n val (frac * m)))) := by
  cases cap with
  | none =>
    -- over a linear order no value is skipped (the model's NaN filter `val i ≤ val i` is the identity)
    have hf : (List.range n).filter (fun i => decide (val i ≤ val i)) = List.range n :=
      List.filter_eq_self.2 (fun a _ => by simp)
    simp only [hotspotCore, candidates, hf]
    rfl
  | some t => rfl

theorem labelAt_none [Mul α] (n : Nat) (adj : Nat → Nat → Bool) (val : Nat → α) (frac : α) (cap : Option α)
    (h : maxOf ((candidates n val cap).map val) = none) (i : Nat) : labelAt n adj val frac cap i = 0 := by
  unfold labelAt
  rw [hotspotCore_eq, h]
  simp only [List.getD_eq_getElem?_getD, List.getElem?_map]
  cases (List.range n)[i]? <;> simp

theorem labelAt_some [Mul α] (n : Nat) (adj : Nat → Nat → Bool) (val : Nat → α) (frac : α) (cap : Option α) (m : α)
    (h : maxOf ((candidates n val cap).map val) = some m) (i : Nat) (hi : i < n) :
    labelAt n adj val frac cap i = labelOf (components adj val n (above n val (frac * m))) i := by
  unfold labelAt
  rw [hotspotCore_eq, h]
  simp only [List.getD_eq_getElem?_getD, List.getElem?_map, List.getElem?_range hi, Option.map_some,
    Option.getD_some]

theorem hotspotCore_length [Mul α] (n : Nat) (adj : Nat → Nat → Bool) (val : Nat → α) (frac : α) (cap : Option α) :
    (hotspotCore n adj val frac cap).length = n := by
  rw [hotspotCore_eq]
  cases maxOf ((candidates n val cap).map val) <;> simp

/-- No candidate at all (`max` of an empty selection is NaN in pandas): every label is 0. -/
theorem labelAt_no_candidate [Mul α] (n : Nat) (adj : Nat → Nat → Bool) (val : Nat → α) (frac : α) (cap : Option α)
    (h : candidates n val cap = []) (i : Nat) : labelAt n adj val frac cap i = 0 := by
  apply labelAt_none
  rw [h]
  rfl

/-- What `hotspotCore` computes: the labels are `labelOf` of the hot spots of the thresholded rows `rem` (no rows when
there is no maximum).  The equation holds for every `i`: a row index beyond the frame is in no hot spot. -/
theorem labelAt_spec [Mul α] (n : Nat) (adj : Nat → Nat → Bool) (val : Nat → α) (frac : α) (cap : Option α) :
    ∃ rem cs, HotSpots adj val rem cs ∧ (∀ i, labelAt n adj val frac cap i = labelOf cs i) ∧ (∀ i ∈ rem, i < n) ∧
      ∀ m, maxOf ((candidates n val cap).map val) = some m → ∀ i, i ∈ rem ↔ i < n ∧ frac * m ≤ val i := by
  cases hm : maxOf ((candidates n val cap).map val) with
  | none => exact ⟨[], [], .nil, labelAt_none n adj val frac cap hm, by simp, by simp⟩
  | some m =>
    have h := above_hotSpots n adj val (frac * m)
    refine ⟨_, _, h, fun i => ?_, fun i hi => ((mem_above n val _ i).1 hi).1, fun m' hm' i => ?_⟩
    · by_cases hi : i < n
      · exact labelAt_some n adj val frac cap m hm i hi
      · have h0 : ¬ 1 ≤ labelOf (components adj val n (above n val (frac * m))) i :=
          fun h1 => hi ((mem_above n val _ i).1 ((label_pos_iff h i).1 h1)).1
        rw [labelAt, List.getD_eq_getElem?_getD, List.getElem?_eq_none (by rw [hotspotCore_length]; omega),
          Option.getD_none]
        omega
    · cases hm'
      exact mem_above n val _ i

theorem labelAt_pos_iff [Mul α] (n : Nat) (adj : Nat → Nat → Bool) (val : Nat → α) (frac : α) (cap : Option α) (m : α)
    (hm : maxOf ((candidates n val cap).map val) = some m) (i : Nat) (hi : i < n) :
    1 ≤ labelAt n adj val frac cap i ↔ frac * m ≤ val i := by
  obtain ⟨rem, cs, h, heq, -, hrem⟩ := labelAt_spec n adj val frac cap
  rw [heq, label_pos_iff h, hrem m hm]
  exact and_iff_right hi

theorem labelAt_adj [Mul α] (n : Nat) (adj : Nat → Nat → Bool) (hsymm : ∀ i j, adj i j = adj j i)
    (val : Nat → α) (frac : α) (cap : Option α) (m : α)
    (hm : maxOf ((candidates n val cap).map val) = some m) (i j : Nat)
    (h : HotStep n adj val (frac * m) i j) :
    labelAt n adj val frac cap i = labelAt n adj val frac cap j := by
  obtain ⟨hi, hj, hvi, hvj, hadj⟩ := h
  obtain ⟨rem, cs, h, heq, -, hrem⟩ := labelAt_spec n adj val frac cap
  rw [heq, heq]
  exact label_adj hsymm h i j ((hrem m hm i).2 ⟨hi, hvi⟩) ((hrem m hm j).2 ⟨hj, hvj⟩) hadj

theorem labelAt_connected [Mul α] (n : Nat) (adj : Nat → Nat → Bool) (hsymm : ∀ i j, adj i j = adj j i)
    (val : Nat → α) (frac : α) (cap : Option α) (m : α)
    (hm : maxOf ((candidates n val cap).map val) = some m) (i j : Nat)
    (hpos : 1 ≤ labelAt n adj val frac cap i)
    (h : labelAt n adj val frac cap i = labelAt n adj val frac cap j) :
    Relation.ReflTransGen (HotStep n adj val (frac * m)) i j := by
  obtain ⟨rem, cs, hs, heq, -, hrem⟩ := labelAt_spec n adj val frac cap
  rw [heq] at hpos h
  rw [heq] at h
  refine Relation.ReflTransGen.mono (fun a b hab => ?_) _ _ (label_connected hsymm hs i j hpos h)
  obtain ⟨ha, hb⟩ := And.intro ((hrem m hm a).1 hab.1) ((hrem m hm b).1 hab.2.1)
  exact ⟨ha.1, hb.1, ha.2, hb.2, hab.2.2⟩

theorem labelAt_descending_peak [Mul α] (n : Nat) (adj : Nat → Nat → Bool) (val : Nat → α) (frac : α) (cap : Option α)
    (i : Nat) (hpos : 1 ≤ labelAt n adj val frac cap i) :
    ∃ k, k < n ∧ labelAt n adj val frac cap k = labelAt n adj val frac cap i ∧
      ∀ j', labelAt n adj val frac cap i ≤ labelAt n adj val frac cap j' → val j' ≤ val k := by
  obtain ⟨rem, cs, h, heq, hlt, -⟩ := labelAt_spec n adj val frac cap
  simp only [heq] at hpos ⊢
  obtain ⟨k, hk, hkeq, hkmax⟩ := label_seed h i _ hpos (Nat.le_refl _)
  exact ⟨k, hlt k hk, hkeq, hkmax⟩

theorem labelAt_contiguous [Mul α] (n : Nat) (adj : Nat → Nat → Bool) (val : Nat → α) (frac : α) (cap : Option α)
    (j : Nat) (l : Nat) (hl : 1 ≤ l) (hlj : l ≤ labelAt n adj val frac cap j) :
    ∃ k, k < n ∧ labelAt n adj val frac cap k = l := by
  obtain ⟨rem, cs, h, heq, hlt, -⟩ := labelAt_spec n adj val frac cap
  simp only [heq] at hlj ⊢
  obtain ⟨k, hk, hkeq, -⟩ := label_seed h j l hl hlj
  exact ⟨k, hlt k hk, hkeq⟩

theorem rowAdj_symm (nodes elems : Array Int) (i j : Nat) : rowAdj nodes elems i j = rowAdj nodes elems j i := by
  unfold rowAdj
  rw [BEq.comm (a := nodes.getD i 0), BEq.comm (a := elems.getD i 0)]

/-! ## Non-vacuity: a five-row chain `0 - 1 - 2 - 3 - 4` with values `2, 1, -5, 2, -5` over `Int`, `frac = 0`:
thresholded rows `0, 1, 3`, hot spots `{0, 1}` (peak 2, found first) and `{3}`. -/

section Examples

def exAdj (a b : Nat) : Bool := a + 1 == b || b + 1 == a

def exVal (i : Nat) : Int := [2, 1, -5, 2, -5].getD i 0

example : hotspotCore 5 exAdj exVal 0 none = [1, 1, 0, 2, 0] := by decide
example : hotspotCore 5 exAdj exVal 0 (some 2) = [1, 1, 0, 2, 0] := by decide
example : hotspotCore 5 exAdj exVal 0 (some (-5)) = [0, 0, 0, 0, 0] := by decide
example : candidates 5 exVal (some (-5)) = [] := by decide
example : maxOf ((candidates 5 exVal none).map exVal) = some 2 := by decide
example : ∀ i j, exAdj i j = exAdj j i := by
  intro i j; unfold exAdj; rw [Bool.or_comm]
example : HotStep 5 exAdj exVal (0 * 2) 0 1 := by unfold HotStep; decide
example : labelAt 5 exAdj exVal 0 none 0 = 1 ∧ labelAt 5 exAdj exVal 0 none 1 = 1 ∧
    labelAt 5 exAdj exVal 0 none 3 = 2 := by decide

end Examples

end PylifeVerif.Mesh
