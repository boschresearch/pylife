/-
The roughness factor `K_R,P` (`Assess.kRP`, eq. (2.5-37), `calculate_roughness_parameter`) over ℝ:

    K_R,P = (1 − a_RP · log10 R_z · log10 (2 R_m / R_m,N,min)) ^ b_RP     for R_z > 1,      1 otherwise.

`Transc.log10` at ℝ is `Real.log x / Real.log 10 = Real.logb 10 x` (`kRP_eq`), `Transc.pow` is `Real.rpow`.

WHICH HYPOTHESIS OF THE FULL STATEMENT IS NEEDED.  The full statement "a rougher surface never increases `K_R,P`, for
EVERY `R_z`" needs `hbase`: the base `1 − a_RP · log10 R_z' · log10 (2 R_m / R_m,N,min)` of the ROUGHER surface must be
non-negative (then the base of the smoother surface is non-negative as well).  The base decreases without bound in
`R_z`; for steel with `R_m = 600` it is negative from `R_z ≈ 10^7.76` on, with `R_m = 2000` from `R_z = 10^(100/27) ≈ 5055`
on.  `Real.rpow` of a negative base is `exp (y · log |x|) · cos (y π)`, which is not monotone (the witness below:
`K_R,P = 0` at base `0`, `K_R,P > 0` at base `−0.08`); the Python code computes `negative ** 0.43 = NaN` there, for which
no order statement holds either.  The other hypotheses (`a_RP ≥ 0`, `b_RP ≥ 0`, `R_m,N,min > 0`) hold for every group
of `constants.py` (`consts_RP`); `R_m,N,min ≤ 2 R_m` (i.e. `log10 (2 R_m / R_m,N,min) ≥ 0`) is needed as well: for
`R_m < R_m,N,min / 2` the base GROWS with `R_z` and `K_R,P > 1` increases with the roughness.
-/
import Model.Assessment
import Proofs.RealNum
import Mathlib.Analysis.SpecialFunctions.Log.Base
import Mathlib.Analysis.SpecialFunctions.Pow.Real
import Mathlib.Tactic.Linarith
import Mathlib.Tactic.NormNum

namespace PylifeVerif.Assess
open PylifeVerif.FkmNl

/-- the base of the power in eq. (2.5-37); the statements per material group and `C10.lifetime_antitone_in_Rz_partial`
write it out in their hypothesis `hbase` -/
noncomputable def kRPBase (k : Consts ℝ) (Rz Rm : ℝ) : ℝ :=
  1 - k.a_RP * Real.logb 10 Rz * Real.logb 10 (2 * Rm / k.R_m_N_min)

theorem kRP_eq (k : Consts ℝ) (Rz Rm : ℝ) :
    kRP k Rz Rm = if 1 < Rz then (kRPBase k Rz Rm) ^ k.b_RP else 1 := by
  simp only [kRP, kRPBase, transc_pow, transc_log10, lit_one, lit_two, Real.log_div_log]

theorem logb_ratio_nonneg (k : Consts ℝ) (Rm : ℝ) (hmin : 0 < k.R_m_N_min) (hRm : k.R_m_N_min ≤ 2 * Rm) :
    0 ≤ Real.logb 10 (2 * Rm / k.R_m_N_min) :=
  Real.logb_nonneg (by norm_num) ((one_le_div hmin).mpr hRm)

theorem kRPBase_antitone (k : Consts ℝ) (Rm Rz Rz' : ℝ) (ha : 0 ≤ k.a_RP) (hmin : 0 < k.R_m_N_min)
    (hRm : k.R_m_N_min ≤ 2 * Rm) (hRz : 0 < Rz) (hle : Rz ≤ Rz') : kRPBase k Rz' Rm ≤ kRPBase k Rz Rm := by
  have hL := logb_ratio_nonneg k Rm hmin hRm
  have hz : Real.logb 10 Rz ≤ Real.logb 10 Rz' := Real.logb_le_logb_of_le (by norm_num) hRz hle
  have h1 : k.a_RP * Real.logb 10 Rz ≤ k.a_RP * Real.logb 10 Rz' := mul_le_mul_of_nonneg_left hz ha
  have h2 := mul_le_mul_of_nonneg_right h1 hL
  unfold kRPBase; linarith

/-- at `R_z = 1` the base is 1 -/
theorem kRPBase_le_one (k : Consts ℝ) (Rm Rz : ℝ) (ha : 0 ≤ k.a_RP) (hmin : 0 < k.R_m_N_min)
    (hRm : k.R_m_N_min ≤ 2 * Rm) (hRz : 1 ≤ Rz) : kRPBase k Rz Rm ≤ 1 :=
  (kRPBase_antitone k Rm 1 Rz ha hmin hRm one_pos hRz).trans_eq (by simp [kRPBase])

theorem kRP_le_one (k : Consts ℝ) (Rm Rz : ℝ) (ha : 0 ≤ k.a_RP) (hb : 0 ≤ k.b_RP) (hmin : 0 < k.R_m_N_min)
    (hRm : k.R_m_N_min ≤ 2 * Rm) (hbase : 1 < Rz → 0 ≤ kRPBase k Rz Rm) : kRP k Rz Rm ≤ 1 := by
  rw [kRP_eq]
  split_ifs with h
  · exact Real.rpow_le_one (hbase h) (kRPBase_le_one k Rm Rz ha hmin hRm h.le) hb
  · exact le_rfl

theorem kRP_nonneg (k : Consts ℝ) (Rm Rz : ℝ)
    (hbase : 1 < Rz → 0 ≤ 1 - k.a_RP * Real.logb 10 Rz * Real.logb 10 (2 * Rm / k.R_m_N_min)) :
    0 ≤ kRP k Rz Rm := by
  rw [kRP_eq]
  split_ifs with h
  · exact Real.rpow_nonneg (hbase h) _
  · exact zero_le_one

theorem kRP_pos (k : Consts ℝ) (Rm Rz : ℝ)
    (hbase : 1 < Rz → 0 < 1 - k.a_RP * Real.logb 10 Rz * Real.logb 10 (2 * Rm / k.R_m_N_min)) :
    0 < kRP k Rz Rm := by
  rw [kRP_eq]
  split_ifs with h
  · exact Real.rpow_pos_of_pos (hbase h) _
  · exact zero_lt_one

/-- **A rougher surface never increases `K_R,P`**, as long as the base of the power of the rougher surface is
non-negative. -/
theorem kRP_antitone (k : Consts ℝ) (Rm Rz Rz' : ℝ) (ha : 0 ≤ k.a_RP) (hb : 0 ≤ k.b_RP) (hmin : 0 < k.R_m_N_min)
    (hRm : k.R_m_N_min ≤ 2 * Rm) (hle : Rz ≤ Rz') (hbase : 1 < Rz' → 0 ≤ kRPBase k Rz' Rm) :
    kRP k Rz' Rm ≤ kRP k Rz Rm := by
  by_cases h : 1 < Rz
  · have h' : 1 < Rz' := lt_of_lt_of_le h hle
    rw [kRP_eq, kRP_eq, if_pos h, if_pos h']
    exact Real.rpow_le_rpow (hbase h') (kRPBase_antitone k Rm Rz Rz' ha hmin hRm (by linarith) hle) hb
  · have e : kRP k Rz Rm = 1 := by rw [kRP_eq, if_neg h]
    rw [e]
    exact kRP_le_one k Rm Rz' ha hb hmin hRm hbase

theorem consts_RP (g : Group) :
    0 ≤ (consts g : Consts ℝ).a_RP ∧ 0 ≤ (consts g : Consts ℝ).b_RP ∧ 0 < (consts g : Consts ℝ).R_m_N_min := by
  cases g <;> simp [consts] <;> norm_num

theorem kRP_antitone_group (g : Group) (Rm Rz Rz' : ℝ) (hRm : (consts g : Consts ℝ).R_m_N_min ≤ 2 * Rm)
    (hle : Rz ≤ Rz')
    (hbase : 1 < Rz' → 0 ≤ 1 - (consts g : Consts ℝ).a_RP * Real.logb 10 Rz' *
      Real.logb 10 (2 * Rm / (consts g : Consts ℝ).R_m_N_min)) :
    kRP (consts g) Rz' Rm ≤ kRP (consts g) Rz Rm :=
  kRP_antitone (consts g) Rm Rz Rz' (consts_RP g).1 (consts_RP g).2.1 (consts_RP g).2.2 hRm hle hbase

theorem kRP_le_one_group (g : Group) (Rm Rz : ℝ) (hRm : (consts g : Consts ℝ).R_m_N_min ≤ 2 * Rm)
    (hbase : 1 < Rz → 0 ≤ 1 - (consts g : Consts ℝ).a_RP * Real.logb 10 Rz *
      Real.logb 10 (2 * Rm / (consts g : Consts ℝ).R_m_N_min)) :
    kRP (consts g) Rz Rm ≤ 1 :=
  kRP_le_one (consts g) Rm Rz (consts_RP g).1 (consts_RP g).2.1 (consts_RP g).2.2 hRm hbase

/-! ### non-vacuity: steel, `R_m = 600`, `R_z = 10` and `R_z' = 100` -/

theorem logb_10_100 : Real.logb 10 100 = 2 := by
  have : (100 : ℝ) = 10 ^ (2 : ℕ) := by norm_num
  rw [this, Real.logb_pow, Real.logb_self_eq_one (by norm_num)]
  norm_num

theorem steel_base_pos :
    0 < 1 - (consts Group.Steel : Consts ℝ).a_RP * Real.logb 10 100 *
      Real.logb 10 (2 * 600 / (consts Group.Steel : Consts ℝ).R_m_N_min) := by
  have e : (2 * 600 / (consts Group.Steel : Consts ℝ).R_m_N_min) = 3 := by simp [consts]; norm_num
  have ea : (consts Group.Steel : Consts ℝ).a_RP = 27 / 100 := by simp [consts]; norm_num
  have h3 : Real.logb 10 3 < 1 := by
    have := Real.logb_lt_logb (b := 10) (by norm_num) (by norm_num : (0:ℝ) < 3) (by norm_num : (3:ℝ) < 10)
    rwa [Real.logb_self_eq_one (by norm_num)] at this
  rw [e, ea, logb_10_100]
  linarith

example : kRP (consts Group.Steel) 100 600 ≤ kRP (consts Group.Steel : Consts ℝ) 10 600 :=
  kRP_antitone_group Group.Steel 600 10 100 (by simp [consts]; norm_num) (by norm_num) (fun _ => steel_base_pos.le)

example : 0 < kRP (consts Group.Steel : Consts ℝ) 100 600 ∧ kRP (consts Group.Steel : Consts ℝ) 100 600 ≤ 1 :=
  ⟨kRP_pos _ 600 100 (fun _ => steel_base_pos),
   kRP_le_one_group Group.Steel 600 100 (by simp [consts]; norm_num) (fun _ => steel_base_pos.le)⟩

/-! ### the hypothesis `hbase` cannot be dropped -/

/-- Steel with `R_m = 2000` (so `log10 (2 R_m / R_m,N,min) = 1`): at `R_z = 10^(100/27)` the base is exactly `0`, hence
`K_R,P = 0`; at the rougher `R_z' = 10^4` the base is `-0.08` and `Real.rpow` gives
`exp (0.43 · log 0.08) · cos (0.43 π) > 0`.  (In double arithmetic the code gives NaN there.) -/
theorem kRP_not_antitone_without_hbase :
    ∃ (g : Group) (Rm Rz Rz' : ℝ), (consts g : Consts ℝ).R_m_N_min ≤ 2 * Rm ∧ Rz ≤ Rz' ∧
      kRP (consts g) Rz Rm < kRP (consts g) Rz' Rm := by
  have h10 : (0:ℝ) < 10 := by norm_num
  have h10' : (10:ℝ) ≠ 1 := by norm_num
  have e : (2 * 2000 / (consts Group.Steel : Consts ℝ).R_m_N_min) = 10 := by simp [consts]; norm_num
  have ea : (consts Group.Steel : Consts ℝ).a_RP = 27 / 100 := by simp [consts]; norm_num
  have eb : (consts Group.Steel : Consts ℝ).b_RP = 43 / 100 := by simp [consts]; norm_num
  have hlt : (10:ℝ) ^ ((100:ℝ) / 27) < 10 ^ (4:ℝ) := Real.rpow_lt_rpow_of_exponent_lt (by norm_num) (by norm_num)
  have h1 : (1:ℝ) < 10 ^ ((100:ℝ) / 27) := Real.one_lt_rpow (by norm_num) (by norm_num)
  refine ⟨Group.Steel, 2000, 10 ^ ((100:ℝ) / 27), 10 ^ (4:ℝ), by simp [consts]; norm_num, hlt.le, ?_⟩
  rw [kRP_eq, kRP_eq, if_pos h1, if_pos (lt_trans h1 hlt)]
  unfold kRPBase
  rw [e, ea, eb, Real.logb_rpow h10 h10', Real.logb_rpow h10 h10', Real.logb_self_eq_one (by norm_num)]
  have z : (1:ℝ) - 27 / 100 * (100 / 27) * 1 = 0 := by norm_num
  rw [z, Real.zero_rpow (by norm_num)]
  have n : (1:ℝ) - 27 / 100 * 4 * 1 < 0 := by norm_num
  rw [Real.rpow_def_of_neg n]
  apply mul_pos (Real.exp_pos _)
  apply Real.cos_pos_of_mem_Ioo
  constructor
  · have := Real.pi_pos; linarith
  · have := Real.pi_pos; linarith

end PylifeVerif.Assess
