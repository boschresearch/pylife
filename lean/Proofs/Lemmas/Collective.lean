/-
Helper lemmas for C14: re-binning (`rebin`, `aggregate`, `shareC`, NaN contents) over ℝ.  The shares `kapC c` of the
classes of a gap-free binning add up to one for every covered source class, a point class included (`kapC_sum`); a
histogram is the re-bin of point classes (`hist_eq_rebin`), so histograms and re-bins conserve the weight for one reason
(`total_rebin`).
-/
import Proofs.Lemmas.CollectiveBase

namespace PylifeVerif.Collective

attribute [local simp] lit_zero

/-- Fraction of the source class `(l, r]` (or of the point `r` when the class has no width) that the class `c` receives. -/
noncomputable def kapC (c : ℝ × ℝ × Bool) (l r : ℝ) : ℝ :=
  if l < r then kap c.1 c.2.1 l r else if inBin c.1 c.2.1 c.2.2 r then 1 else 0

theorem kapC_of_pos (c : ℝ × ℝ × Bool) (l r : ℝ) (h : l < r) : kapC c l r = kap c.1 c.2.1 l r :=
  if_pos h

theorem shareC_eq (c : ℝ × ℝ × Bool) (s : Bin ℝ) : shareC c s = s.v * kapC c s.l s.r := by
  unfold shareC kapC
  split_ifs <;> simp [share_eq]

theorem shareC_fun (c : ℝ × ℝ × Bool) : shareC (α := ℝ) c = fun s => s.v * kapC c s.l s.r :=
  funext (shareC_eq c)

theorem aggregate_eq (src : List (Bin ℝ)) (c : ℝ × ℝ × Bool) :
    aggregate src c = (src.map fun s => s.v * kapC c s.l s.r).sum := by
  rw [aggregate, total_eq_sum]
  exact congrArg List.sum (List.map_congr_left fun s _ => shareC_eq c s)

theorem aggregate_append (X Y : List (Bin ℝ)) (c : ℝ × ℝ × Bool) :
    aggregate (X ++ Y) c = aggregate X c + aggregate Y c := by
  rw [aggregate_eq, aggregate_eq, aggregate_eq, List.map_append, List.sum_append]

theorem aggregate_of_pos (src : List (Bin ℝ)) (hpos : ∀ s ∈ src, s.l < s.r) (c : ℝ × ℝ × Bool) :
    aggregate src c = (src.map fun s => s.v * kap c.1 c.2.1 s.l s.r).sum := by
  rw [aggregate_eq]
  exact congrArg List.sum (List.map_congr_left fun s hs => by rw [kapC_of_pos c _ _ (hpos s hs)])

theorem kapC_sum_point (v b0 : ℝ) (rest : List ℝ) (hne : rest ≠ []) (hm : Mono (b0 :: rest)) :
    ((classes (b0 :: rest)).map fun c => kapC c v v).sum =
      if decide (b0 ≤ v) && decide (v ≤ (b0 :: rest).getLast (List.cons_ne_nil _ _)) then 1 else 0 := by
  have h : ∀ c : ℝ × ℝ × Bool, kapC c v v = if inBin c.1 c.2.1 c.2.2 v then 1 else 0 := fun c => if_neg (lt_irrefl v)
  rw [List.map_congr_left fun c _ => h c, sum_ite_countP (fun c : ℝ × ℝ × Bool => inBin c.1 c.2.1 c.2.2 v),
    classes_count b0 rest v hne hm]
  simp

theorem kapC_sum (l r b0 : ℝ) (rest : List ℝ) (hne : rest ≠ []) (hm : Mono (b0 :: rest)) (hlr : l ≤ r)
    (hl : b0 ≤ l) (hr : r ≤ (b0 :: rest).getLast (List.cons_ne_nil _ _)) :
    ((classes (b0 :: rest)).map fun c => kapC c l r).sum = 1 := by
  rcases lt_or_eq_of_le hlr with hpos | rfl
  · rw [List.map_congr_left fun c _ => kapC_of_pos c l r hpos, ← kap_sum l r b0 rest hm hpos hl hr, ← classes_map_pairs,
      List.map_map]
    rfl
  · rw [kapC_sum_point l b0 rest hne hm]
    simp [hl, hr]

theorem total_rebin (src : List (Bin ℝ)) (breaks : List ℝ) :
    total (rebin src breaks) = (src.map fun s => s.v * ((classes breaks).map fun c => kapC c s.l s.r).sum).sum := by
  rw [total_eq_sum, rebin, List.map_congr_left fun c _ => aggregate_eq src c, sum_map_sum_comm]
  exact congrArg List.sum (List.map_congr_left fun s _ => List.sum_map_mul_left ..)

theorem binTotal_rebinBins (src : List (Bin ℝ)) (breaks : List ℝ) :
    binTotal (rebinBins src breaks) = total (rebin src breaks) := by
  unfold binTotal rebinBins rebin
  rw [List.map_map]; rfl

/-- The same with unoccupied classes: the occupied target classes hold what `rebinOpt` returns, `NaN` counted as nothing. -/
theorem binTotal_present_rebinOptBins (nd : Bool) (src : List (OBin ℝ)) (breaks : List ℝ) :
    binTotal (present (rebinOptBins nd src breaks)) = ototal (rebinOpt nd src breaks) := by
  rw [binTotal_present]
  unfold ototal rebinOptBins rebinOpt
  simp [total_eq_sum, Function.comp_def]

theorem mem_pairs_of_mem_rebinBins {src : List (Bin ℝ)} {breaks : List ℝ} {s : Bin ℝ}
    (hs : s ∈ rebinBins src breaks) : (s.l, s.r) ∈ pairs breaks := by
  obtain ⟨c, hc, rfl⟩ := List.mem_map.mp hs
  exact mem_pairs_of_mem_classes hc

/-- `np.histogram` is the re-bin of the point classes `(v, v]`: a class without width goes through numpy's bin rule
(`shareC`), so what holds for the total of a re-bin holds for histograms. -/
theorem hist_eq_rebin (edges : List ℝ) (pts : List (ℝ × ℝ)) :
    hist edges pts = rebin (pts.map fun p => ⟨p.1, p.1, p.2⟩) edges := by
  refine List.map_congr_left fun c _ => ?_
  rw [aggregate_eq, wsum_eq_sum, sum_map_filter, List.map_map]
  refine congrArg List.sum (List.map_congr_left fun p _ => ?_)
  simp [kapC]

theorem hist_total (e0 : ℝ) (rest : List ℝ) (pts : List (ℝ × ℝ)) (hne : rest ≠ []) (hm : Mono (e0 :: rest)) :
    total (hist (e0 :: rest) pts) =
      ((pts.filter fun p => decide (e0 ≤ p.1) && decide (p.1 ≤ (e0 :: rest).getLast (List.cons_ne_nil _ _))).map
        (·.2)).sum := by
  rw [hist_eq_rebin, total_rebin, sum_map_filter, List.map_map]
  refine congrArg List.sum (List.map_congr_left fun p _ => ?_)
  rw [Function.comp_apply, kapC_sum_point p.1 e0 rest hne hm, mul_ite, mul_one, mul_zero]

theorem hist2d_rows_total (ex : List ℝ) (y0 : ℝ) (rest : List ℝ) (pts : List (ℝ × ℝ × ℝ))
    (hr : rest ≠ []) (hm : Mono (y0 :: rest)) :
    (hist2d ex (y0 :: rest) pts).map total =
      hist ex ((pts.filter fun p =>
          decide (y0 ≤ p.2.1) && decide (p.2.1 ≤ (y0 :: rest).getLast (List.cons_ne_nil _ _))).map
        fun p => (p.1, p.2.2)) := by
  unfold hist2d
  rw [List.map_map]
  refine List.map_congr_left fun c _ => ?_
  rw [Function.comp_apply, hist_total y0 rest _ hr hm, wsum_eq_sum]
  simp only [List.filter_map, List.filter_filter, List.map_map, Function.comp_def, Bool.and_comm]

/-- The code re-bins level by level: the row of the first-level class `p` is the one-level re-bin, along the second
level, of the cells' first-level shares (as a row of `hist2d` is a one-level histogram by definition). -/
theorem rebin2_row (cells : List (Cell ℝ)) (bx bys : List ℝ) :
    rebin2 cells bx bys =
      (classes bx).map fun p => rebin (cells.map fun c => ⟨c.yl, c.yr, shareC p ⟨c.xl, c.xr, c.v⟩⟩) bys := by
  refine List.map_congr_left fun p _ => List.map_congr_left fun q _ => ?_
  rw [aggregate, List.map_map]
  rfl

theorem rebin2_rows_total (cells : List (Cell ℝ)) (bx bys : List ℝ) :
    (rebin2 cells bx bys).map total =
      rebin (cells.map fun c => ⟨c.xl, c.xr, c.v * ((classes bys).map fun q => kapC q c.yl c.yr).sum⟩) bx := by
  rw [rebin2_row, List.map_map]
  refine List.map_congr_left fun p _ => ?_
  rw [Function.comp_apply, total_rebin, aggregate_eq, List.map_map, List.map_map]
  refine congrArg List.sum (List.map_congr_left fun c _ => ?_)
  simp only [Function.comp_apply, shareC_eq]
  ring

theorem kapC_self (c : ℝ × ℝ × Bool) (h : c.1 < c.2.1 ∨ (c.1 = c.2.1 ∧ c.2.2 = true)) : kapC c c.1 c.2.1 = 1 := by
  rcases h with h | ⟨h, hf⟩
  · rw [kapC_of_pos c _ _ h, kap_inside _ _ _ _ h le_rfl le_rfl]
  · rw [kapC, if_neg (h ▸ lt_irrefl _), ← h, hf, inBin_last]
    simp

theorem kapC_of_le_left (lo hi l r : ℝ) (h : hi ≤ l) (hlr : l ≤ r) : kapC (lo, hi, false) l r = 0 := by
  unfold kapC
  split_ifs with h1 h2
  · exact kap_disjoint_left _ _ _ _ h
  · rw [inBin_inner] at h2
    simp [not_lt.mpr (h.trans hlr)] at h2
  · rfl

/-- Re-binning to the histogram's own binning returns the contents unchanged: a class lies completely in itself and gives
nothing to any other class.  Every class has positive width, except that the last may be the point class `[bₙ, bₙ]` that
`np.histogram` produces for a repeated last edge.  (A point class elsewhere loses its content to the class on its right:
the bin rule puts `b` into `[b, ·)`.) -/
theorem rebin_self (breaks vals : List ℝ) (hm : Mono breaks)
    (hw : ∀ c ∈ classes breaks, c.1 < c.2.1 ∨ (c.1 = c.2.1 ∧ c.2.2 = true)) (hlen : vals.length = (pairs breaks).length) :
    rebin (binsOf breaks vals) breaks = vals := by
  induction breaks generalizing vals with
  | nil => exact (List.length_eq_zero_iff.mp hlen).symm
  | cons b0 rest ih =>
    rcases rest with _ | ⟨b1, rest⟩
    · exact (List.length_eq_zero_iff.mp hlen).symm
    obtain ⟨v, vs, rfl⟩ := List.exists_cons_of_length_eq_add_one hlen
    rcases rest with _ | ⟨b2, rest⟩
    · obtain rfl := List.length_eq_zero_iff.mp (Nat.succ.inj hlen)
      change [aggregate [⟨b0, b1, v⟩] (b0, b1, true)] = [v]
      rw [aggregate_eq, List.map_singleton, List.sum_singleton, kapC_self (b0, b1, true) (hw _ (List.mem_singleton_self _)),
        mul_one]
    have h01 : b0 < b1 := (hw (b0, b1, false) (List.mem_cons_self ..)).resolve_right (by simp)
    have ih := ih vs hm.2 (fun c hc => hw c (List.mem_cons_of_mem _ hc)) (Nat.succ.inj hlen)
    have hb := binsOf_bounds b1 (b2 :: rest) vs hm.2
    rw [rebin, classes_cons_cons, binsOf, pairs_cons_cons, List.zipWith_cons_cons, ← binsOf, List.map_cons]
    congr 1
    · rw [aggregate_eq, List.map_cons, List.sum_cons, kapC_self (b0, b1, false) (Or.inl h01), List.sum_eq_zero, mul_one,
        add_zero]
      intro x hx
      obtain ⟨s, hs, rfl⟩ := List.mem_map.mp hx
      rw [kapC_of_le_left _ _ _ _ (hb s hs).1 (hb s hs).2.1, mul_zero]
    · refine (List.map_congr_left fun c hc => ?_).trans ih
      rw [aggregate_eq, aggregate_eq, List.map_cons, List.sum_cons, kapC_of_pos c _ _ h01,
        kap_disjoint_right _ _ _ _ (pairs_bounds b1 (b2 :: rest) hm.2 _ (mem_pairs_of_mem_classes hc)).1, mul_zero,
        zero_add]

theorem shareC_of_not_occupies (c : ℝ × ℝ × Bool) (s : Bin ℝ) (h : occupies c s = false) : shareC c s = 0 := by
  unfold occupies at h
  unfold shareC
  split_ifs at h ⊢ with h1 h2
  · exact share_of_not_overlaps _ _ s h
  · rw [h] at h2; exact absurd h2 (by simp)
  · simp

theorem aggregateOpt_getD (nd : Bool) (src : List (OBin ℝ)) (c : ℝ × ℝ × Bool) :
    (aggregateOpt nd src c).getD 0 = aggregate (present src) c := by
  unfold aggregateOpt aggregate
  simp only [total_eq_sum]
  rw [← sum_map_filter_of_zero _ _ (shareC_of_not_occupies c) (present src)]
  by_cases he : ((present src).filter (occupies c)).isEmpty = true
  · have : (present src).filter (occupies c) = [] := List.isEmpty_iff.mp he
    simp only [this]
    cases nd <;> simp
  · simp [he]

theorem rebinOpt_getD (nd : Bool) (src : List (OBin ℝ)) (breaks : List ℝ) :
    (rebinOpt nd src breaks).map (fun v => v.getD 0) = rebin (present src) breaks := by
  unfold rebinOpt rebin
  rw [List.map_map]
  exact List.map_congr_left fun c _ => aggregateOpt_getD nd src c

end PylifeVerif.Collective
