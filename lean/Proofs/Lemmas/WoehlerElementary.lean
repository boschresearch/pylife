/-
C18: the `Elementary` analysis of `Model/WoehlerAnalysis.lean` over ℝ – equivariance under load / cycle scaling,
permutation invariance, exact recovery of a Basquin line; `kneeCurve`, the shape of curve that Probit and MaxLikeInf
report as well, under the same three transformations.  Last: the data sets that show the guards of the cycle-scaling theorem
to be needed (`elementary_nil_ND`: no fracture in the finite zone; `negLoadData`: a negative load).
-/
import Proofs.Lemmas.WoehlerZones

namespace PylifeVerif.WoehlerElementary

open PylifeVerif.WoehlerAnalysis PylifeVerif.WoehlerBasics

theorem mem_of_mem_ff {d : List (Test ℝ)} {t : Test ℝ}
    (h : t ∈ (finiteZone (irrelevantRunoutsDropped d)).filter (·.fracture)) : t ∈ d :=
  WoehlerZones.mem_of_mem_irrelevantRunoutsDropped (WoehlerZones.mem_of_mem_finiteZone (List.mem_filter.mp h).1)

/-- with fractures only nothing is dropped and the regression sample (`ff`, see `WoehlerZones.ff_map`) is all of the data -/
theorem ff_of_fractures {d : List (Test ℝ)} (h : ∀ t ∈ d, t.fracture = true) :
    irrelevantRunoutsDropped d = d ∧ (finiteZone d).filter (·.fracture) = d := by
  have hr : runouts d = [] := List.filter_eq_nil_iff.2 fun t ht => by simp [h t ht]
  refine ⟨WoehlerZones.irrelevantRunoutsDropped_of_no_runouts hr, ?_⟩
  rw [WoehlerZones.finiteZone_eq, if_pos hr]
  exact List.filter_eq_self.2 h

theorem rossow_length_eq {β γ : Type} {l₁ : List β} {l₂ : List γ} (h : l₁.length = l₂.length) :
    (rossow l₁ : List ℝ) = rossow l₂ := by
  unfold rossow; rw [lenα_eq, lenα_eq, h]

/-- `elementaryCore` with the pair of `fitSlope` projected -/
theorem elementaryCore_eq (Q : ℝ → ℝ) (d : List (Test ℝ)) : elementaryCore Q d =
    { k1 := -(fitSlope d).1
      ND := transitionCycles (fitSlope d).1 (fitSlope d).2 (transition d)
      SD := transition d
      TN := scatterOfSlope (pearlChainSlope Q ((finiteZone d).filter (·.fracture)) (fitSlope d).1)
      TS := Transc.pow (scatterOfSlope (pearlChainSlope Q ((finiteZone d).filter (·.fracture)) (fitSlope d).1))
        (1.0 / -(fitSlope d).1) } := rfl

theorem ff_scaleLoad {c : ℝ} (hc : 0 < c) (d : List (Test ℝ)) :
    (finiteZone (scaleLoad c d)).filter (·.fracture) = scaleLoad c ((finiteZone d).filter (·.fracture)) :=
  WoehlerZones.ff_map (.ofLoad c) hc d

theorem fitSlope_scaleLoad {c : ℝ} (hc : 0 < c) (d : List (Test ℝ)) (hpos : ∀ t ∈ d, 0 < t.load) :
    fitSlope (scaleLoad c d) = ((fitSlope d).1, (fitSlope d).2 - (fitSlope d).1 * Transc.log10 c) := by
  unfold fitSlope
  rw [ff_scaleLoad hc]
  refine Eq.trans (congrArg ols (map_map_of fun t ht => ?_)) (ols_shift_x _ _)
  rw [log10_mul hc.ne' (hpos t (WoehlerZones.mem_of_mem_finiteZone (List.mem_filter.mp ht).1)).ne']

theorem transitionCycles_scaleLoad {c tr : ℝ} (hc : c ≠ 0) (htr : tr ≠ 0) (s i : ℝ) :
    transitionCycles s (i - s * Transc.log10 c) (c * tr) = transitionCycles s i tr := by
  have h1 : eqα (c * tr) (0.0 : ℝ) = false := by
    rw [Bool.eq_false_iff, Ne, eqα_iff, lit_zero]; exact mul_ne_zero hc htr
  have h2 : eqα tr (0.0 : ℝ) = false := by
    rw [Bool.eq_false_iff, Ne, eqα_iff, lit_zero]; exact htr
  unfold transitionCycles
  simp only [h1, h2, Bool.false_eq_true, if_false]
  rw [log10_mul hc htr]
  congr 1
  ring

theorem normedCycles_scaleLoad {c : ℝ} (hc : c ≠ 0) (ff : List (Test ℝ)) (s : ℝ) :
    normedCycles (scaleLoad c ff) s = normedCycles ff s := by
  unfold normedCycles
  simp only []
  rw [scaleLoad, WoehlerZones.loads_map (.ofLoad c), mean_map_mul]
  congr 1
  simp only [List.map_map]
  apply List.map_congr_left
  intro t _
  simp only [Function.comp, mul_div_mul_left _ _ hc]

theorem pearlChainSlope_scaleLoad (Q : ℝ → ℝ) {c : ℝ} (hc : c ≠ 0) (ff : List (Test ℝ)) (s : ℝ) :
    pearlChainSlope Q (scaleLoad c ff) s = pearlChainSlope Q ff s := by
  unfold pearlChainSlope
  rw [normedCycles_scaleLoad hc]

/-- the endurance limit scales and the knee is re-evaluated on the shifted line at the scaled limit (where it is the old
knee unless the limit is 0, `transitionCycles_scaleLoad`) -/
theorem elementaryCore_load_scale (Q : ℝ → ℝ) {c : ℝ} (hc : 0 < c) (d : List (Test ℝ)) (hpos : ∀ t ∈ d, 0 < t.load) :
    elementaryCore Q (scaleLoad c d) = { elementaryCore Q d with
      SD := c * (elementaryCore Q d).SD
      ND := transitionCycles (fitSlope d).1 ((fitSlope d).2 - (fitSlope d).1 * Transc.log10 c)
        (c * (elementaryCore Q d).SD) } := by
  simp only [elementaryCore_eq, fitSlope_scaleLoad hc d hpos, WoehlerZones.transition_scaleLoad hc, ff_scaleLoad hc,
    pearlChainSlope_scaleLoad Q hc.ne']

/-- the statement of `C18.elementary_load_scale`; it stands here because the fall-back branch of `probit` needs it -/
theorem elementary_load_scale (Q : ℝ → ℝ) {c : ℝ} (hc : 0 < c) (d : List (Test ℝ)) (hpos : ∀ t ∈ d, 0 < t.load) :
    (elementary Q (scaleLoad c d)).k1 = (elementary Q d).k1 ∧
    (elementary Q (scaleLoad c d)).SD = c * (elementary Q d).SD ∧
    (elementary Q (scaleLoad c d)).TN = (elementary Q d).TN ∧
    (elementary Q (scaleLoad c d)).TS = (elementary Q d).TS ∧
    ((elementary Q d).SD ≠ 0 → (elementary Q (scaleLoad c d)).ND = (elementary Q d).ND) := by
  unfold elementary
  rw [WoehlerZones.irrelevantRunoutsDropped_scaleLoad hc,
    elementaryCore_load_scale Q hc _ (WoehlerZones.forall_mem_irrelevantRunoutsDropped hpos)]
  exact ⟨rfl, rfl, rfl, rfl, fun h => transitionCycles_scaleLoad hc.ne' h _ _⟩

theorem ff_scaleCycles (c : ℝ) (d : List (Test ℝ)) :
    (finiteZone (scaleCycles c d)).filter (·.fracture) = scaleCycles c ((finiteZone d).filter (·.fracture)) :=
  WoehlerZones.ff_map (.ofCycles c) one_pos d

theorem fitSlope_scaleCycles {c : ℝ} (hc : 0 < c) (d : List (Test ℝ)) (hpos : ∀ t ∈ d, 0 < t.cycles)
    (hne : (finiteZone d).filter (·.fracture) ≠ []) :
    fitSlope (scaleCycles c d) = ((fitSlope d).1, (fitSlope d).2 + Transc.log10 c) := by
  unfold fitSlope
  rw [ff_scaleCycles]
  refine Eq.trans (congrArg ols (map_map_of fun t ht => ?_)) (ols_shift_y _ (fun e => hne (List.map_eq_nil_iff.1 e)) _)
  rw [log10_mul hc.ne' (hpos t (WoehlerZones.mem_of_mem_finiteZone (List.mem_filter.mp ht).1)).ne']

theorem transitionCycles_scaleCycles {c : ℝ} (hc : 0 < c) (s i tr : ℝ) :
    transitionCycles s (i + Transc.log10 c) tr = c * transitionCycles s i tr := by
  unfold transitionCycles
  simp only [transc_pow, lit_ten]
  rw [add_assoc, add_comm, add_assoc, Real.rpow_add (by norm_num), transc_log10, ten_rpow_log10 hc, add_comm]

theorem normedCycles_scaleCycles {c : ℝ} (hc : 0 < c) (ff : List (Test ℝ)) (s : ℝ) :
    normedCycles (scaleCycles c ff) s = (normedCycles ff s).map (c * ·) := by
  unfold normedCycles
  simp only []
  rw [scaleCycles, WoehlerZones.loads_map (.ofCycles c), mean_map_mul, one_mul, ← sort_map_mul hc]
  exact congrArg sort (map_map_of fun t _ => mul_assoc _ _ _)

theorem mem_normedCycles {ff : List (Test ℝ)} {s n : ℝ} :
    n ∈ normedCycles ff s ↔ ∃ t ∈ ff, t.cycles * (mean (ff.map (·.load)) / t.load) ^ s = n := by
  simp only [normedCycles, mem_sort, List.mem_map, transc_pow]

theorem mean_load_pos {ff : List (Test ℝ)} {t : Test ℝ} (ht : t ∈ ff) (h : ∀ u ∈ ff, 0 < u.load) :
    0 < mean (ff.map (·.load)) :=
  mean_pos _ (List.ne_nil_of_mem (List.mem_map_of_mem ht)) (List.forall_mem_map.2 h)

theorem normedCycles_pos (ff : List (Test ℝ)) (s : ℝ) (h : ∀ t ∈ ff, 0 < t.load ∧ 0 < t.cycles) :
    ∀ n ∈ normedCycles ff s, 0 < n := by
  intro n hn
  obtain ⟨t, ht, rfl⟩ := mem_normedCycles.1 hn
  exact mul_pos (h t ht).2
    (Real.rpow_pos_of_pos (div_pos (mean_load_pos ht fun u hu => (h u hu).1) (h t ht).1) _)

theorem pearlChainSlope_scaleCycles (Q : ℝ → ℝ) {c : ℝ} (hc : 0 < c) (ff : List (Test ℝ)) (s : ℝ)
    (h : ∀ t ∈ ff, 0 < t.load ∧ 0 < t.cycles) :
    pearlChainSlope Q (scaleCycles c ff) s = pearlChainSlope Q ff s := by
  unfold pearlChainSlope
  simp only []
  rw [normedCycles_scaleCycles hc,
    rossow_length_eq (l₁ := (normedCycles ff s).map (c * ·)) (l₂ := normedCycles ff s) (List.length_map _)]
  have hlog : ((normedCycles ff s).map (c * ·)).map Transc.log10 =
      ((normedCycles ff s).map Transc.log10).map (· + Transc.log10 c) :=
    map_map_of fun n hn => log10_mul hc.ne' (normedCycles_pos ff s h n hn).ne'
  rw [hlog, List.zip_map_left,
    show (Prod.map (· + Transc.log10 c) id : ℝ × ℝ → ℝ × ℝ) = fun p => (p.1 + Transc.log10 c, p.2) from rfl,
    ols_shift_x]

theorem elementaryCore_cycle_scale (Q : ℝ → ℝ) {c : ℝ} (hc : 0 < c) (d : List (Test ℝ))
    (hpos : ∀ t ∈ d, 0 < t.cycles) (hload : ∀ t ∈ d, 0 < t.load)
    (hne : (finiteZone d).filter (·.fracture) ≠ []) :
    elementaryCore Q (scaleCycles c d) = { elementaryCore Q d with ND := c * (elementaryCore Q d).ND } := by
  have hff : ∀ t ∈ (finiteZone d).filter (·.fracture), 0 < t.load ∧ 0 < t.cycles := fun t ht =>
    have htd : t ∈ d := WoehlerZones.mem_of_mem_finiteZone (List.mem_filter.mp ht).1
    ⟨hload t htd, hpos t htd⟩
  simp only [elementaryCore_eq, fitSlope_scaleCycles hc d hpos hne, WoehlerZones.transition_scaleCycles,
    ff_scaleCycles, pearlChainSlope_scaleCycles Q hc _ _ hff, transitionCycles_scaleCycles hc]

theorem fitSlope_perm {d₁ d₂ : List (Test ℝ)} (h : d₁.Perm d₂) : fitSlope d₁ = fitSlope d₂ := by
  unfold fitSlope
  exact ols_perm_invariant (((WoehlerZones.finiteZone_perm h).filter _).map _)

theorem normedCycles_perm {f₁ f₂ : List (Test ℝ)} (h : f₁.Perm f₂) (s : ℝ) :
    normedCycles f₁ s = normedCycles f₂ s := by
  unfold normedCycles
  simp only []
  rw [mean_perm (h.map _)]
  exact sort_perm_eq (h.map _)

theorem pearlChainSlope_perm (Q : ℝ → ℝ) {f₁ f₂ : List (Test ℝ)} (h : f₁.Perm f₂) (s : ℝ) :
    pearlChainSlope Q f₁ s = pearlChainSlope Q f₂ s := by
  unfold pearlChainSlope
  rw [normedCycles_perm h]

theorem elementaryCore_perm_invariant (Q : ℝ → ℝ) {d₁ d₂ : List (Test ℝ)} (h : d₁.Perm d₂) :
    elementaryCore Q d₁ = elementaryCore Q d₂ := by
  rw [elementaryCore_eq, elementaryCore_eq, fitSlope_perm h, WoehlerZones.transition_perm h,
    pearlChainSlope_perm Q ((WoehlerZones.finiteZone_perm h).filter _)]

/-- The curve that Elementary, Probit and MaxLikeInf report on reduced data `d`: slope and `TN` of the finite-zone
regression and its pearl chain, an endurance limit `SD` with scatter `TS` of the analyzer's own, and the knee read off the
regression line at that limit (`elementaryCore Q d` is the case `SD = transition d`). -/
noncomputable def kneeCurve (Q : ℝ → ℝ) (d : List (Test ℝ)) (SD TS : ℝ) : Curve ℝ :=
  { elementaryCore Q d with SD := SD, TS := TS, ND := transitionCycles (fitSlope d).1 (fitSlope d).2 SD }

theorem kneeCurve_scaleLoad (Q : ℝ → ℝ) {c : ℝ} (hc : 0 < c) (d : List (Test ℝ)) (hpos : ∀ t ∈ d, 0 < t.load)
    (SD TS : ℝ) :
    kneeCurve Q (scaleLoad c d) (c * SD) TS = { kneeCurve Q d SD TS with
      SD := c * SD
      ND := transitionCycles (fitSlope d).1 ((fitSlope d).2 - (fitSlope d).1 * Transc.log10 c) (c * SD) } := by
  rw [kneeCurve, elementaryCore_load_scale Q hc d hpos, fitSlope_scaleLoad hc d hpos]
  rfl

theorem kneeCurve_scaleCycles (Q : ℝ → ℝ) {c : ℝ} (hc : 0 < c) (d : List (Test ℝ))
    (hpos : ∀ t ∈ d, 0 < t.cycles) (hload : ∀ t ∈ d, 0 < t.load)
    (hne : (finiteZone d).filter (·.fracture) ≠ []) (SD TS : ℝ) :
    kneeCurve Q (scaleCycles c d) SD TS = { kneeCurve Q d SD TS with ND := c * (kneeCurve Q d SD TS).ND } := by
  rw [kneeCurve, elementaryCore_cycle_scale Q hc d hpos hload hne, fitSlope_scaleCycles hc d hpos hne,
    transitionCycles_scaleCycles hc]
  rfl

theorem kneeCurve_perm (Q : ℝ → ℝ) {d₁ d₂ : List (Test ℝ)} (h : d₁.Perm d₂) (SD TS : ℝ) :
    kneeCurve Q d₁ SD TS = kneeCurve Q d₂ SD TS := by
  rw [kneeCurve, kneeCurve, elementaryCore_perm_invariant Q h, fitSlope_perm h]

theorem elementary_perm_invariant (Q : ℝ → ℝ) {d₁ d₂ : List (Test ℝ)} (h : d₁.Perm d₂) :
    elementary Q d₁ = elementary Q d₂ :=
  elementaryCore_perm_invariant Q (WoehlerZones.irrelevantRunoutsDropped_perm h)

/-! Cycle scaling of `elementary` without `hload` and `hne` is false:
* `d = []` (or any data without a fracture in the finite zone): the regression sample is empty, `ols [] = (0, 0)`, hence
  `ND = 10 ^ 0 = 1` for `d` and for `scaleCycles c d`, but `c * 1 ≠ 1` for `c ≠ 1` (`elementary_nil_ND`);
* without positive loads the shifted cycles `N * (nl / L) ^ slope` can vanish for some tests only (real `rpow` of a
  negative base), then `log10 0 = 0` is not shifted by `log10 c` while the other abscissae are, and the pearl-chain
  slope (hence `TN`, `TS`) changes (`negLoadData`, at the end of this file). -/

/-- the statement of `C18.elementary_cycle_scale` (why the guards `hload`, `hne` are there: the comment above); the fall-back
branch of `probit` needs it -/
theorem elementary_cycle_scale (Q : ℝ → ℝ) {c : ℝ} (hc : 0 < c) (d : List (Test ℝ)) (hpos : ∀ t ∈ d, 0 < t.cycles)
    (hload : ∀ t ∈ d, 0 < t.load)
    (hne : (finiteZone (irrelevantRunoutsDropped d)).filter (·.fracture) ≠ []) :
    (elementary Q (scaleCycles c d)).k1 = (elementary Q d).k1 ∧
    (elementary Q (scaleCycles c d)).ND = c * (elementary Q d).ND ∧
    (elementary Q (scaleCycles c d)).SD = (elementary Q d).SD ∧
    (elementary Q (scaleCycles c d)).TN = (elementary Q d).TN ∧
    (elementary Q (scaleCycles c d)).TS = (elementary Q d).TS := by
  unfold elementary
  rw [WoehlerZones.irrelevantRunoutsDropped_scaleCycles,
    elementaryCore_cycle_scale Q hc _ (WoehlerZones.forall_mem_irrelevantRunoutsDropped hpos)
      (WoehlerZones.forall_mem_irrelevantRunoutsDropped hload) hne]
  exact ⟨rfl, rfl, rfl, rfl, rfl⟩

/-- the parts of the cycle-scaling statement that need no extra hypothesis: slope and endurance limit -/
theorem elementary_cycle_scale_k1_SD (Q : ℝ → ℝ) {c : ℝ} (hc : 0 < c) (d : List (Test ℝ))
    (hpos : ∀ t ∈ d, 0 < t.cycles) :
    (elementary Q (scaleCycles c d)).k1 = (elementary Q d).k1 ∧
    (elementary Q (scaleCycles c d)).SD = (elementary Q d).SD := by
  unfold elementary
  rw [WoehlerZones.irrelevantRunoutsDropped_scaleCycles]
  refine ⟨?_, ?_⟩
  · by_cases hne : (finiteZone (irrelevantRunoutsDropped d)).filter (·.fracture) = []
    · have h2 : (finiteZone (scaleCycles c (irrelevantRunoutsDropped d))).filter (·.fracture) = [] := by
        rw [ff_scaleCycles, hne]; rfl
      simp only [elementaryCore_eq, fitSlope, h2, hne]
    · simp only [elementaryCore_eq, fitSlope_scaleCycles hc _
        (WoehlerZones.forall_mem_irrelevantRunoutsDropped hpos) hne]
  · simp only [elementaryCore_eq, WoehlerZones.transition_scaleCycles]

/-- on a Basquin line `N = ND₀ (L/SD₀)^(-k)` the decadic logarithms are collinear (`Woehler.log_basquin` is the same for the
natural logarithm; the two chains do not import each other) -/
theorem log10_basquin {k SD₀ ND₀ L : ℝ} (hSD : 0 < SD₀) (hND : 0 < ND₀) (hL : 0 < L) :
    (Transc.log10 (ND₀ * (L / SD₀) ^ (-k)) : ℝ) =
      (Transc.log10 ND₀ + k * Transc.log10 SD₀) + (-k) * Transc.log10 L := by
  have hq : 0 < L / SD₀ := div_pos hL hSD
  simp only [transc_log10]
  rw [Real.log_mul hND.ne' (Real.rpow_pos_of_pos hq _).ne', Real.log_rpow hq, Real.log_div hL.ne' hSD.ne']
  ring

theorem fitSlope_exact_basquin (d : List (Test ℝ)) {k SD₀ ND₀ : ℝ} (hSD : 0 < SD₀) (hND : 0 < ND₀)
    (hline : ∀ t ∈ (finiteZone d).filter (·.fracture), 0 < t.load ∧ t.cycles = ND₀ * (t.load / SD₀) ^ (-k))
    (hlev : ∃ t ∈ (finiteZone d).filter (·.fracture), ∃ u ∈ (finiteZone d).filter (·.fracture), t.load ≠ u.load) :
    fitSlope d = (-k, Transc.log10 ND₀ + k * Transc.log10 SD₀) := by
  unfold fitSlope
  apply ols_collinear
  · intro p hp
    obtain ⟨t, ht, rfl⟩ := List.mem_map.mp hp
    obtain ⟨hL, hN⟩ := hline t ht
    simp only []
    rw [hN]
    exact log10_basquin hSD hND hL
  · obtain ⟨t, ht, u, hu, htu⟩ := hlev
    refine ⟨_, List.mem_map_of_mem ht, _, List.mem_map_of_mem hu, ?_⟩
    intro h
    exact htu (log10_injOn_pos (hline t ht).1 (hline u hu).1 h)

/-- data exactly on a Basquin line N = ND₀ (L/SD₀)^(-k): the slope is recovered -/
theorem exact_basquin_slope (Q : ℝ → ℝ) (d : List (Test ℝ)) {k SD₀ ND₀ : ℝ} (hSD : 0 < SD₀) (hND : 0 < ND₀)
    (hline : ∀ t ∈ (finiteZone (irrelevantRunoutsDropped d)).filter (·.fracture),
      0 < t.load ∧ t.cycles = ND₀ * (t.load / SD₀) ^ (-k))
    (hlev : ∃ t ∈ (finiteZone (irrelevantRunoutsDropped d)).filter (·.fracture),
      ∃ u ∈ (finiteZone (irrelevantRunoutsDropped d)).filter (·.fracture), t.load ≠ u.load) :
    (elementary Q d).k1 = k := by
  unfold elementary
  rw [elementaryCore_eq]
  simp only [fitSlope_exact_basquin _ hSD hND hline hlev, neg_neg]

/-- On an exact Basquin line the pearl chain collapses: all shifted cycles coincide, so the probability-net regression that yields TN is
degenerate (Sxx = 0: the code divides 0 by 0) -/
theorem exact_basquin_pearl_chain_degenerate (d : List (Test ℝ)) {k SD₀ ND₀ : ℝ} (hSD : 0 < SD₀)
    (hND : 0 < ND₀)
    (hline : ∀ t ∈ (finiteZone (irrelevantRunoutsDropped d)).filter (·.fracture),
      0 < t.load ∧ t.cycles = ND₀ * (t.load / SD₀) ^ (-k))
    (hlev : ∃ t ∈ (finiteZone (irrelevantRunoutsDropped d)).filter (·.fracture),
      ∃ u ∈ (finiteZone (irrelevantRunoutsDropped d)).filter (·.fracture), t.load ≠ u.load) :
    let ff := (finiteZone (irrelevantRunoutsDropped d)).filter (·.fracture)
    ∃ N₀, ∀ n ∈ normedCycles ff (fitSlope (irrelevantRunoutsDropped d)).1, n = N₀ := by
  intro ff
  rw [fitSlope_exact_basquin _ hSD hND hline hlev]
  refine ⟨ND₀ * (mean (ff.map (·.load)) / SD₀) ^ (-k), ?_⟩
  intro n hn
  obtain ⟨t, ht, rfl⟩ := mem_normedCycles.1 hn
  obtain ⟨hL, hN⟩ := hline t ht
  have hm := mean_load_pos ht fun u hu => (hline u hu).1
  rw [hN, mul_assoc, ← Real.mul_rpow (div_pos hL hSD).le (div_pos hm hL).le]
  congr 2
  field_simp

/-- consequence: the abscissae of the probability-net regression coincide, its `Sxx` vanishes -/
theorem exact_basquin_pearl_chain_sxx_zero (Q : ℝ → ℝ) (d : List (Test ℝ)) {k SD₀ ND₀ : ℝ} (hSD : 0 < SD₀)
    (hND : 0 < ND₀)
    (hline : ∀ t ∈ (finiteZone (irrelevantRunoutsDropped d)).filter (·.fracture),
      0 < t.load ∧ t.cycles = ND₀ * (t.load / SD₀) ^ (-k))
    (hlev : ∃ t ∈ (finiteZone (irrelevantRunoutsDropped d)).filter (·.fracture),
      ∃ u ∈ (finiteZone (irrelevantRunoutsDropped d)).filter (·.fracture), t.load ≠ u.load) :
    let ff := (finiteZone (irrelevantRunoutsDropped d)).filter (·.fracture)
    let nc := normedCycles ff (fitSlope (irrelevantRunoutsDropped d)).1
    let pts := (nc.map Transc.log10).zip ((rossow nc).map Q)
    sum (pts.map fun p => (p.1 - mean (pts.map (·.1))) * (p.1 - mean (pts.map (·.1)))) = 0 ∧
    pearlChainSlope Q ff (fitSlope (irrelevantRunoutsDropped d)).1 = 0 := by
  intro ff nc pts
  obtain ⟨N₀, hN₀⟩ := exact_basquin_pearl_chain_degenerate d hSD hND hline hlev
  have hx : ∀ p ∈ pts, p.1 = Transc.log10 N₀ := by
    intro p hp
    have h1 : p.1 ∈ nc.map Transc.log10 := (List.of_mem_zip hp).1
    obtain ⟨n, hn, hn'⟩ := List.mem_map.mp h1
    rw [← hn', hN₀ n hn]
  refine ⟨ols_sxx_zero_of_const pts _ hx, ?_⟩
  have := ols_of_const_x pts _ hx
  show (ols pts).1 = 0
  rw [this]

/-- two fractures on the Basquin line `N = 100 · L^(-2)` -/
def exampleData : List (Test ℝ) := [⟨1, 100, true⟩, ⟨2, 25, true⟩]

theorem ff_exampleData :
    (finiteZone (irrelevantRunoutsDropped exampleData)).filter (·.fracture) = exampleData := by
  have h := ff_of_fractures (d := exampleData) (by simp [exampleData])
  rw [h.1, h.2]

theorem exampleData_line : ∀ t ∈ (finiteZone (irrelevantRunoutsDropped exampleData)).filter (·.fracture),
    0 < t.load ∧ t.cycles = 100 * (t.load / 1) ^ (-(2 : ℝ)) := by
  rw [ff_exampleData]
  intro t ht
  simp only [exampleData, List.mem_cons, List.not_mem_nil, or_false] at ht
  rcases ht with rfl | rfl
  · norm_num
  · refine ⟨by norm_num, ?_⟩
    show (25 : ℝ) = 100 * (2 / 1) ^ (-(2 : ℝ))
    rw [Real.rpow_neg (by norm_num), Real.rpow_two]; norm_num

theorem exampleData_levels : ∃ t ∈ (finiteZone (irrelevantRunoutsDropped exampleData)).filter (·.fracture),
    ∃ u ∈ (finiteZone (irrelevantRunoutsDropped exampleData)).filter (·.fracture), t.load ≠ u.load := by
  rw [ff_exampleData]
  exact ⟨⟨1, 100, true⟩, by simp [exampleData], ⟨2, 25, true⟩, by simp [exampleData], by norm_num⟩

example : (elementary (fun x => x) exampleData).k1 = 2 :=
  exact_basquin_slope _ _ one_pos (by norm_num) exampleData_line exampleData_levels

/-- the hypotheses of `elementary_cycle_scale` / `elementary_load_scale` are satisfiable -/
example : (∀ t ∈ exampleData, 0 < t.cycles) ∧ (∀ t ∈ exampleData, 0 < t.load) ∧
    (finiteZone (irrelevantRunoutsDropped exampleData)).filter (·.fracture) ≠ [] := by
  rw [ff_exampleData]
  refine ⟨?_, ?_, by simp [exampleData]⟩ <;>
  · intro t ht
    simp only [exampleData, List.mem_cons, List.not_mem_nil, or_false] at ht
    rcases ht with rfl | rfl <;> norm_num

/-- counterexample to cycle scaling without `hne`: on empty data `ND = 1` before and after the scaling -/
theorem elementary_nil_ND (Q : ℝ → ℝ) : (elementary Q []).ND = 1 := by
  have h1 : irrelevantRunoutsDropped ([] : List (Test ℝ)) = [] := rfl
  have h2 : fitSlope ([] : List (Test ℝ)) = (0, 0) := by
    unfold fitSlope; exact ols_nil
  have h3 : transition ([] : List (Test ℝ)) = 0.0 := rfl
  unfold elementary
  rw [h1, elementaryCore_eq, h2, h3]
  simp [transitionCycles]

example (Q : ℝ → ℝ) :
    (elementary Q (scaleCycles 2 [])).ND ≠ 2 * (elementary Q []).ND := by
  have : scaleCycles (2 : ℝ) [] = [] := rfl
  rw [this, elementary_nil_ND]; norm_num

/-! counterexample to cycle scaling of the pearl chain without positive loads: with the loads `-1`, `3` (mean load 1)
and slope `1/2` the first shifted cycle number is `a · (-1)^(1/2) = 0` (real `rpow`), the second is `a`; the abscissae of
the probability net are `log10 0 = 0` and `log10 a`, so its slope depends on `a`. -/

/-- fractures at the loads `-1` and `3` on the line `N = a · |L|^(1/2)` -/
noncomputable def negLoadData (a : ℝ) : List (Test ℝ) := [⟨-1, a, true⟩, ⟨3, a * Real.sqrt 3, true⟩]

theorem normedCycles_negLoadData {a : ℝ} (ha : 0 < a) : normedCycles (negLoadData a) (1 / 2) = [0, a] := by
  have hm : mean ((negLoadData a).map (·.load)) = 1 := by
    rw [mean_eq]; simp [negLoadData]; norm_num
  have h1 : ((1 : ℝ) / (-1)) ^ ((1 : ℝ) / 2) = 0 := by
    rw [show (1 : ℝ) / (-1) = -1 by norm_num, Real.rpow_def_of_neg (by norm_num),
      show (1 : ℝ) / 2 * Real.pi = Real.pi / 2 by ring, Real.cos_pi_div_two, mul_zero]
  have h2 : Real.sqrt 3 * ((1 : ℝ) / 3) ^ ((1 : ℝ) / 2) = 1 := by
    rw [← Real.sqrt_eq_rpow, ← Real.sqrt_mul (by norm_num)]; norm_num
  unfold normedCycles
  simp only []
  rw [hm]
  simp only [negLoadData, List.map_cons, List.map_nil, transc_pow, h1, mul_zero, mul_assoc, h2, mul_one]
  simp [sort, insertSorted, ha.le]

theorem pearlChainSlope_negLoadData {a : ℝ} (ha : 0 < a) (ha1 : a ≠ 1) :
    pearlChainSlope (fun x => x) (negLoadData a) (1 / 2) = 3 / 7 / Transc.log10 a := by
  have hl : (Transc.log10 a : ℝ) ≠ 0 := by
    intro h
    have h0 : (Transc.log10 (1 : ℝ) : ℝ) = 0 := by simp
    exact ha1 (log10_injOn_pos ha one_pos (h.trans h0.symm))
  have hr : (rossow ([0, a] : List ℝ) : List ℝ) = [2 / 7, 5 / 7] := by
    simp only [rossow, rossowFrom, lenα_eq, lit_one, lit_three, List.length_cons, List.length_nil]
    norm_num
  unfold pearlChainSlope
  simp only []
  rw [normedCycles_negLoadData ha, hr]
  have hz : (Transc.log10 (0 : ℝ) : ℝ) = 0 := by simp
  simp only [List.map_cons, List.map_nil, List.zip_cons_cons, List.zip_nil_right, hz]
  rw [ols_two_points (Ne.symm hl), sub_zero, show (5 / 7 - 2 / 7 : ℝ) = 3 / 7 by norm_num]

theorem scaleCycles_negLoadData : scaleCycles 2 (negLoadData 2) = negLoadData 4 := by
  simp only [scaleCycles, negLoadData, List.map_cons, List.map_nil]
  rw [← mul_assoc]; norm_num

/-- the pearl-chain slope (hence `TN`, `TS`) is NOT invariant under cycle scaling when a load is negative -/
example : scaleCycles 2 (negLoadData 2) = negLoadData 4 ∧
    pearlChainSlope (fun x => x) (negLoadData 4) (1 / 2) ≠ pearlChainSlope (fun x => x) (negLoadData 2) (1 / 2) := by
  refine ⟨scaleCycles_negLoadData, ?_⟩
  rw [pearlChainSlope_negLoadData (by norm_num) (by norm_num),
    pearlChainSlope_negLoadData (by norm_num) (by norm_num), log10_four]
  have hl := log10_two_pos.ne'
  intro h
  field_simp at h
  norm_num at h

theorem negLoadData_spec (a : ℝ) : irrelevantRunoutsDropped (negLoadData a) = negLoadData a ∧
    (finiteZone (negLoadData a)).filter (·.fracture) = negLoadData a :=
  ff_of_fractures (by simp [negLoadData])

theorem fitSlope_negLoadData {a : ℝ} (ha : 0 < a) :
    fitSlope (negLoadData a) = (1 / 2, Transc.log10 a) := by
  have hl3 : (Transc.log10 (3 : ℝ) : ℝ) ≠ 0 := div_ne_zero (Real.log_pos (by norm_num)).ne' log_ten_ne_zero
  have h1 : (Transc.log10 (-1 : ℝ) : ℝ) = 0 := by
    simp only [transc_log10, Real.log_neg_eq_log, Real.log_one, zero_div]
  have h2 : (Transc.log10 (a * Real.sqrt 3) : ℝ) = Transc.log10 a + 1 / 2 * Transc.log10 3 := by
    simp only [transc_log10]
    rw [Real.log_mul ha.ne' (Real.sqrt_pos.mpr (by norm_num)).ne', Real.log_sqrt (by norm_num)]
    ring
  unfold fitSlope
  rw [(negLoadData_spec a).2]
  simp only [negLoadData, List.map_cons, List.map_nil]
  rw [h1, h2, ols_two_points (Ne.symm hl3), sub_zero, add_sub_cancel_left, mul_zero, sub_zero, mul_div_assoc,
    div_self hl3, mul_one]

theorem elementary_TN_negLoadData {a : ℝ} (ha : 0 < a) (ha1 : a ≠ 1) :
    (elementary (fun x => x) (negLoadData a)).TN =
      (10 : ℝ) ^ ((2.5631031310892007 : ℝ) * (1 / (3 / 7 / Transc.log10 a))) := by
  unfold elementary
  rw [(negLoadData_spec a).1, elementaryCore_eq]
  simp only []
  rw [(negLoadData_spec a).2, fitSlope_negLoadData ha]
  simp only []
  rw [pearlChainSlope_negLoadData ha ha1]
  simp only [scatterOfSlope, transc_pow, lit_ten, lit_one]

/-- counterexample to `elementary_cycle_scale` without positive loads (real semantics of `rpow`) -/
example : (elementary (fun x => x) (scaleCycles 2 (negLoadData 2))).TN ≠ (elementary (fun x => x) (negLoadData 2)).TN := by
  rw [scaleCycles_negLoadData, elementary_TN_negLoadData (by norm_num) (by norm_num),
    elementary_TN_negLoadData (by norm_num) (by norm_num), log10_four]
  apply ne_of_gt
  rw [Real.rpow_lt_rpow_left_iff (by norm_num), one_div_div, one_div_div]
  have hl := log10_two_pos
  exact mul_lt_mul_of_pos_left (div_lt_div_of_pos_right (by linarith) (by norm_num)) (by norm_num)

end PylifeVerif.WoehlerElementary
