/-
`findTurns` / `newTurns` (model file `Model/Rainflow/Turns.lean`) on the local test of `Reversals.lean`.  One step of the
test, with the direction of the first move known (`Heads`, `revList_step`), gives what lies behind a sample: between two
way points (first sample, turns, last sample) the signal is weakly monotone (`revList_nil_dir`, `nextVal_heads`,
`findTurns_hull`).  What a block leaves to the samples behind it is the sample of its last step and one candidate
(`Leaves`: the split `findTurns_split`, and the way points alternate, `findTurns_zig`, `findTurns_dirOk`).  Re-scanning
from the last decided turn, as `_new_turns` does, finds the turns that follow (`findTurns_restart`), hence the canonical
bookkeeping state `canonTs`.  Beside these stand the single facts the HCM files draw on: a signal that is constant behind its
first sample has no turn (`findTurns_cons_const`) and one without a turn that ends where it began is constant
(`const_of_no_turn`), a sample in front (`findTurns_prepend`), the stretch behind the last turn
(`findTurns_drop_lastIdx`, `tail_turn_value`).
-/
import Proofs.Lemmas.Reversals
import Proofs.Lemmas.PeriodicAlt
import Mathlib.Data.List.Basic
import Mathlib.Data.List.Induction

namespace PylifeVerif.Rainflow
open PylifeVerif.C02 (revList isRevLocal isRevLocal_self isRevLocal_nil isRevLocal_cons_self isRevLocal_cons_ne findTurns_eq_revList)
open PylifeVerif.C04 (Alt Zig alt_head alt_prefix zig_reverse)

/-- index shift of a list of points (same shape as the `map` inside `newTurns`) -/
def shiftPts (t : Nat) (l : List Pt) : List Pt := l.map fun p => (p.1 + t, p.2)

/-- index of the last point of a list of points, `0` if there is none (`tailIdx` of `newTurns`) -/
def lastIdx (l : List Pt) : Nat :=
  match l.getLast? with
  | some p => p.1
  | none => 0

@[simp] theorem shiftPts_nil (t : Nat) : shiftPts t [] = [] := rfl

@[simp] theorem shiftPts_zero (l : List Pt) : shiftPts 0 l = l := by
  simp [shiftPts]

theorem shiftPts_append (t : Nat) (l l' : List Pt) :
    shiftPts t (l ++ l') = shiftPts t l ++ shiftPts t l' := by
  simp [shiftPts]

theorem shiftPts_shiftPts (t t' : Nat) (l : List Pt) :
    shiftPts t (shiftPts t' l) = shiftPts (t + t') l := by
  simp [shiftPts, Nat.add_assoc, Nat.add_comm t' t]

@[simp] theorem lastIdx_nil : lastIdx [] = 0 := rfl

theorem lastIdx_mem (l : List Pt) (h : l ≠ []) : ∃ q ∈ l, lastIdx l = q.1 := by
  unfold lastIdx
  rw [List.getLast?_eq_some_getLast h]
  exact ⟨_, List.getLast_mem h, rfl⟩

theorem lastIdx_append_of_ne_nil (l l' : List Pt) (h : l' ≠ []) :
    lastIdx (l ++ l') = lastIdx l' := by
  unfold lastIdx; rw [List.getLast?_append_of_ne_nil _ h]

theorem lastIdx_shiftPts (t : Nat) (l : List Pt) (h : l ≠ []) :
    lastIdx (shiftPts t l) = lastIdx l + t := by
  unfold lastIdx shiftPts
  rw [List.getLast?_map, List.getLast?_eq_some_getLast h]
  rfl

theorem lastIdx_append_shiftPts (A B : List Pt) :
    lastIdx (A ++ shiftPts (lastIdx A) B) = lastIdx A + lastIdx B := by
  cases B with
  | nil => simp
  | cons q B =>
    rw [lastIdx_append_of_ne_nil _ _ (by simp [shiftPts]), lastIdx_shiftPts _ _ (by simp)]
    omega

theorem lastIdx_cons_shiftPts (p : Pt) (l : List Pt) :
    lastIdx (p :: shiftPts p.1 l) = p.1 + lastIdx l :=
  lastIdx_append_shiftPts [p] l

/-- strict / weak comparison in a direction (`up = true`: increasing) -/
def dlt (up : Bool) (a b : Int) : Prop := if up then a < b else b < a
def dle (up : Bool) (a b : Int) : Prop := if up then a ≤ b else b ≤ a

theorem dlt_not (up : Bool) (a b : Int) : dlt (!up) a b ↔ dlt up b a := by
  cases up <;> simp [dlt]

theorem dle_not (up : Bool) (a b : Int) : dle (!up) a b ↔ dle up b a := by
  cases up <;> simp [dle]

theorem dle_refl (up : Bool) (a : Int) : dle up a a := by
  cases up <;> simp [dle]

theorem dle_of_dlt {up : Bool} {a b : Int} (h : dlt up a b) : dle up a b := by
  cases up <;> simp only [dle, dlt, if_true, Bool.false_eq_true, if_false] at * <;> omega

theorem dle_trans {up : Bool} {a c v : Int} (h : dle up a c) (hv : dle up c v) : dle up a v := by
  cases up <;> simp only [dle, if_true, Bool.false_eq_true, if_false] at * <;> omega

theorem dle_dlt_trans {up : Bool} {a c v : Int} (h : dle up a c) (hv : dlt up c v) : dlt up a v := by
  cases up <;> simp only [dle, dlt, if_true, Bool.false_eq_true, if_false] at * <;> omega

theorem dle_of_close {up : Bool} {a b c : Int} (hcb : dlt up c b) (hab : dlt up a b)
    (h : absDiff b c ≤ absDiff a b) : dle up a c := by
  cases up <;> simp only [dle, dlt, absDiff, if_true, Bool.false_eq_true, if_false] at * <;> omega

theorem absDiff_le_of_dle {up : Bool} {c d d' : Int} (hd : dle up c d) (hd' : dle up d d') :
    absDiff c d ≤ absDiff c d' := by
  cases up <;> simp only [dle, absDiff, if_true, Bool.false_eq_true, if_false] at * <;> omega

/-- the first sample of `l` that differs from `p`, if there is one, lies in direction `up` from `p` -/
def Heads (up : Bool) (p : Int) (l : List Int) : Prop := ∀ n, l.find? (· ≠ p) = some n → dlt up p n

theorem heads_of_not_rev {up : Bool} {p v : Int} {post : List Int} (hpv : dlt up p v)
    (hr : isRevLocal p v post = false) : Heads up v post := fun n hn => by
  have hn' : n ≠ v := by simpa using List.find?_some hn
  have : ¬ ((p < v ∧ n < v) ∨ (v < p ∧ v < n)) := fun c => by rw [isRevLocal_iff.mpr ⟨n, hn, c⟩] at hr; cases hr
  cases up <;> simp only [dlt, if_true, Bool.false_eq_true, if_false] at hpv ⊢ <;> omega

theorem revList_step {up : Bool} {p v : Int} {post : List Int} (i : Nat) (h : Heads up p (v :: post)) :
    (v = p ∧ Heads up v post ∧ revList i (p :: v :: post) = revList (i + 1) (v :: post)) ∨
    (dlt up p v ∧ Heads (!up) v post ∧ revList i (p :: v :: post) = (i, v) :: revList (i + 1) (v :: post)) ∨
    (dlt up p v ∧ Heads up v post ∧ revList i (p :: v :: post) = revList (i + 1) (v :: post)) := by
  by_cases e : v = p
  · subst e
    refine Or.inl ⟨rfl, fun n hn => h n (by rwa [List.find?_cons_of_neg (by simp)]), ?_⟩
    rw [revList, isRevLocal_self]; rfl
  · have hpv : dlt up p v := h v (List.find?_cons_of_pos (by simpa using e))
    cases hr : isRevLocal p v post with
    | true =>
      refine Or.inr (Or.inl ⟨hpv, fun n hn => ?_, by rw [revList, hr]; rfl⟩)
      obtain ⟨m, hm, hs⟩ := isRevLocal_iff.mp hr
      obtain rfl : m = n := Option.some.inj (hm.symm.trans hn)
      cases up <;> simp only [dlt, Bool.not_true, Bool.not_false, if_true, Bool.false_eq_true, if_false] at hpv ⊢ <;> omega
    | false => exact Or.inr (Or.inr ⟨hpv, heads_of_not_rev hpv hr, by rw [revList, hr]; rfl⟩)

theorem heads_total (p : Int) (l : List Int) : ∃ up, Heads up p l := by
  cases hf : l.find? (· ≠ p) with
  | none => exact ⟨true, fun n hn => by rw [hf] at hn; cases hn⟩
  | some n =>
    have hn : n ≠ p := by simpa using List.find?_some hf
    rcases Int.lt_or_gt_of_ne hn with h | h
    · exact ⟨false, fun m hm => by rw [hf] at hm; cases hm; exact h⟩
    · exact ⟨true, fun m hm => by rw [hf] at hm; cases hm; exact h⟩

theorem revList_nil_dir {up : Bool} : ∀ (l : List Int) (i : Nat) (p : Int), Heads up p l → revList i (p :: l) = [] →
    (p :: l).Pairwise (dle up)
  | [], _, _, _, _ => List.pairwise_singleton _ _
  | v :: post, i, p, h, hn => by
    have key : dle up p v ∧ Heads up v post ∧ revList (i + 1) (v :: post) = [] := by
      rcases revList_step i h with ⟨rfl, h', e⟩ | ⟨_, _, e⟩ | ⟨hpv, h', e⟩
      · exact ⟨dle_refl _ _, h', e ▸ hn⟩
      · rw [e] at hn; cases hn
      · exact ⟨dle_of_dlt hpv, h', e ▸ hn⟩
    have ih := revList_nil_dir post (i + 1) v key.2.1 key.2.2
    exact List.pairwise_cons.mpr ⟨fun x hx => by
      rcases List.mem_cons.mp hx with rfl | hx
      · exact key.1
      · exact dle_trans key.1 ((List.pairwise_cons.mp ih).1 x hx), ih⟩

/-- value of the next decided turn if there is one, else the provisional end `d'` -/
def nextVal (N : List Pt) (d' : Int) : Int :=
  match N with
  | [] => d'
  | p :: _ => p.2

theorem nextVal_mem (N : List Pt) (d : Int) : nextVal N d ∈ N.map (·.2) ++ [d] := by
  cases N <;> simp [nextVal]

theorem nextVal_heads {up : Bool} : ∀ (l : List Int) (i : Nat) (p : Int), Heads up p l →
    dle up p (nextVal (revList i (p :: l)) ((p :: l).getLast (List.cons_ne_nil _ _)))
  | [], _, p, _ => dle_refl up p
  | v :: post, i, p, h => by
    rw [List.getLast_cons_cons]
    rcases revList_step i h with ⟨rfl, h', e⟩ | ⟨hpv, _, e⟩ | ⟨hpv, h', e⟩ <;> rw [e]
    · exact nextVal_heads post (i + 1) v h'
    · exact dle_of_dlt hpv
    · exact dle_trans (dle_of_dlt hpv) (nextVal_heads post (i + 1) v h')

/-- **Every sample lies in the hull of the way points**: seen in either direction `w`, some way point lies weakly
before it. -/
theorem revList_hull {up : Bool} : ∀ (l : List Int) (i : Nat) (p : Int), Heads up p l →
    ∀ x ∈ p :: l, ∀ w, ∃ a ∈ p :: ((revList i (p :: l)).map (·.2) ++ [(p :: l).getLast (List.cons_ne_nil _ _)]), dle w a x
  | [], _, p, _, x, hx, w => ⟨p, List.mem_cons_self, by rw [List.mem_singleton.mp hx]; exact dle_refl w p⟩
  | v :: post, i, p, h, x, hx, w => by
    rcases List.mem_cons.mp hx with rfl | hx'
    · exact ⟨x, List.mem_cons_self, dle_refl w x⟩
    have hnext (h' : Heads up v post) := nextVal_heads post (i + 1) v h'
    rw [List.getLast_cons_cons]
    rcases revList_step i h with ⟨rfl, h', e⟩ | ⟨hpv, h', e⟩ | ⟨hpv, h', e⟩ <;> rw [e]
    · exact revList_hull post (i + 1) v h' x hx' w
    · obtain ⟨a, ha, hax⟩ := revList_hull post (i + 1) v h' x hx' w
      exact ⟨a, List.mem_cons_of_mem _ ha, hax⟩
    · -- `v` is no way point: seen along `up`, `p` lies before it; seen against `up`, the next way point does
      obtain ⟨a, ha, hax⟩ := revList_hull post (i + 1) v h' x hx' w
      rcases List.mem_cons.mp ha with rfl | ha
      · by_cases e : w = up
        · exact ⟨p, List.mem_cons_self, dle_trans (dle_of_dlt (e ▸ hpv)) hax⟩
        · rw [Bool.eq_not_of_ne e] at hax ⊢
          exact ⟨_, List.mem_cons_of_mem _ (nextVal_mem _ _), dle_trans ((dle_not up _ _).2 (hnext h')) hax⟩
      · exact ⟨a, List.mem_cons_of_mem _ ha, hax⟩

theorem findTurns_hull (s0 : Int) (xs : List Int) : ∀ x ∈ s0 :: xs,
    (∃ a ∈ s0 :: ((findTurns (s0 :: xs)).map (·.2) ++ [(s0 :: xs).getLast (List.cons_ne_nil _ _)]), a ≤ x) ∧
    (∃ b ∈ s0 :: ((findTurns (s0 :: xs)).map (·.2) ++ [(s0 :: xs).getLast (List.cons_ne_nil _ _)]), x ≤ b) := by
  obtain ⟨up, hh⟩ := heads_total s0 xs
  rw [findTurns_eq_revList]
  exact fun x hx => ⟨revList_hull xs 1 s0 hh x hx true, revList_hull xs 1 s0 hh x hx false⟩

/-- a sample lies in the hull of the way points `0`, the turning points, the last sample -/
theorem findTurns_bound (xs : List Int) :
    ∀ x ∈ (0 : Int) :: xs, (∃ p ∈ findTurns (0 :: xs), x.natAbs ≤ p.2.natAbs) ∨
      x.natAbs ≤ (xs.getLastD 0).natAbs := by
  intro x hx
  obtain ⟨⟨a, ha, h1⟩, ⟨b, hb, h2⟩⟩ := findTurns_hull 0 xs x hx
  have hl : (0 :: xs).getLast (List.cons_ne_nil _ _) = xs.getLastD 0 := by
    cases xs <;> simp [List.getLastD_eq_getLast?, List.getLast?_eq_some_getLast]
  have key : ∀ w ∈ (0 : Int) :: ((findTurns (0 :: xs)).map (·.2) ++ [(0 :: xs).getLast (List.cons_ne_nil _ _)]),
      x.natAbs ≤ w.natAbs → (∃ p ∈ findTurns (0 :: xs), x.natAbs ≤ p.2.natAbs) ∨
        x.natAbs ≤ (xs.getLastD 0).natAbs := by
    intro w hw hxw
    simp only [List.mem_cons, List.mem_append, List.mem_map, List.not_mem_nil, or_false, hl] at hw
    rcases hw with rfl | ⟨p, hp, rfl⟩ | rfl
    · exact Or.inr (by omega)
    · exact Or.inl ⟨p, hp, hxw⟩
    · exact Or.inr hxw
  rcases (by omega : x.natAbs ≤ a.natAbs ∨ x.natAbs ≤ b.natAbs) with h | h
  · exact key a ha h
  · exact key b hb h

theorem findTurns_nil_mono (l : List Int) (h : findTurns l = []) :
    l.Pairwise (· ≤ ·) ∨ l.Pairwise (· ≥ ·) := by
  cases l with
  | nil => exact Or.inl List.Pairwise.nil
  | cons p l =>
    obtain ⟨up, hh⟩ := heads_total p l
    have := revList_nil_dir l 1 p hh (findTurns_eq_revList _ ▸ h)
    cases up
    · exact Or.inr this
    · exact Or.inl this

theorem between_of_findTurns_nil (v : Int) (C : List Int) (c : Int)
    (h : findTurns (v :: (C ++ [c])) = []) :
    (∀ x ∈ C, v ≤ x ∧ x ≤ c) ∨ (∀ x ∈ C, c ≤ x ∧ x ≤ v) := by
  rcases findTurns_nil_mono _ h with hm | hm
  · left; intro x hx
    exact ⟨(List.pairwise_cons.mp hm).1 x (List.mem_append_left _ hx),
      (List.pairwise_append.mp (List.pairwise_cons.mp hm).2).2.2 x hx c (List.mem_singleton_self c)⟩
  · right; intro x hx
    exact ⟨(List.pairwise_append.mp (List.pairwise_cons.mp hm).2).2.2 x hx c (List.mem_singleton_self c),
      (List.pairwise_cons.mp hm).1 x (List.mem_append_left _ hx)⟩

/-- no turning point, and the last sample is the first again: a constant sequence (converse: `findTurns_cons_const`) -/
theorem const_of_no_turn (l : Int) (rest : List Int) (hnil : findTurns (l :: rest) = [])
    (hlast : rest.getLastD l = l) : ∀ x ∈ rest, x = l := by
  rcases List.eq_nil_or_concat rest with rfl | ⟨C, c, rfl⟩
  · exact fun _ hx => absurd hx List.not_mem_nil
  · rw [List.concat_eq_append] at hnil hlast ⊢
    rw [List.getLastD_concat] at hlast
    subst hlast
    intro x hx
    rcases List.mem_append.mp hx with hx | hx
    · rcases between_of_findTurns_nil c C c hnil with h | h <;> have := h x hx <;> omega
    · exact List.mem_singleton.mp hx

theorem findTurns_cons_const (a c : Int) (l : List Int) (hl : ∀ x ∈ l, x = c) : findTurns (a :: l) = [] := by
  rw [C02.findTurns_eq_revList]
  refine List.eq_nil_iff_forall_not_mem.mpr fun q hq => ?_
  obtain ⟨pre, p, post, e, _, hr⟩ := (mem_revList_iff 1 _).mp hq
  obtain ⟨n, hn, _⟩ := isRevLocal_iff.mp hr
  -- the reported sample and the sample that reverses behind it both lie on the plateau
  have hsub : ∀ x ∈ q.2 :: post, x ∈ l := by
    intro x hx
    cases pre with
    | nil => rw [(List.cons.inj e).2]; exact hx
    | cons b pre => rw [(List.cons.inj e).2]; exact List.mem_append_right _ (List.mem_cons_of_mem _ hx)
  have h1 := hl _ (hsub _ List.mem_cons_self)
  have h2 := hl _ (hsub _ (List.mem_cons_of_mem _ (List.mem_of_find?_eq_some hn)))
  exact absurd (h2.trans h1.symm) (by simpa using List.find?_some hn)

theorem findTurns_const (c : Int) (l : List Int) (hl : ∀ x ∈ l, x = c) : findTurns l = [] := by
  cases l with
  | nil => rfl
  | cons x xs => exact findTurns_cons_const x c xs fun y hy => hl y (List.mem_cons_of_mem _ hy)

/-- **Junction.**  Let `z` (predecessor `a`) be a turning point when the rest `d` of a period and the
next period `c :: P ++ z :: d` follow, and let the stretch from `z` through `d` to the first sample `c` of
the next period be free of turning points.  Then the look-ahead into `c :: P` alone gives the same
verdict: behind `z` the signal moves on monotonically to `c`, so `c` lies where the first sample of `d`
that differs from `z` lies. -/
theorem isRevLocal_junction (a z c : Int) (P d : List Int)
    (hturn : isRevLocal a z (d ++ (c :: P ++ z :: d)) = true)
    (hnil : findTurns (z :: (d ++ [c])) = []) : isRevLocal a z (c :: P) = true := by
  rw [isRevLocal_iff] at hturn ⊢
  obtain ⟨n, hn, hs⟩ := hturn
  cases hd : d.find? (· ≠ z) with
  | none =>
    rw [List.find?_append, hd, Option.none_or, find?_ne_skip, List.find?_append, hd, Option.or_none] at hn
    exact ⟨n, hn, hs⟩
  | some u =>
    rw [List.find?_append, hd] at hn
    obtain rfl : u = n := Option.some.inj hn
    have hu : u ≠ z := by simpa using List.find?_some hd
    have hcz : (a < z ∧ c < z) ∨ (z < a ∧ z < c) := by
      rcases between_of_findTurns_nil z d c hnil with hb | hb <;>
        have := hb u (List.mem_of_find?_eq_some hd) <;> omega
    exact ⟨c, List.find?_cons_of_pos (by simp; omega), hcz⟩

/-- What the block `A` (first sample `s0`, last sample `x`) leaves to whatever follows it: the sample `u` of its
last step (`u = x`: it has not moved) and the first sample `c` of its last plateau, which is reported iff `x`
passes the local test behind `u`; the samples that follow are tested locally.  Seen from `x`, the way points
of `A` alternate, `x` lying beyond the last of them in the direction of the step from `u`. -/
structure Leaves (A : List Int) (s0 x u : Int) (c : Pt) : Prop where
  idx : c.1 < A.length
  val : c.2 = x
  split : ∀ B, findTurns (A ++ B) =
    findTurns A ++ ((if isRevLocal u x B then [c] else []) ++ revList A.length (x :: B))
  alt : (u = x ∧ (∀ y ∈ A, y = x) ∧ findTurns A = []) ∨
    ∃ up, dlt up u x ∧ Alt (!up) (x :: ((findTurns A).reverse.map (·.2) ++ [s0]))

theorem leaves (s0 : Int) (xs : List Int) :
    ∃ u c, Leaves (s0 :: xs) s0 ((s0 :: xs).getLast (List.cons_ne_nil _ _)) u c := by
  induction xs using List.reverseRecOn with
  | nil =>
    refine ⟨s0, (0, s0), Nat.zero_lt_one, rfl, fun B => ?_, Or.inl ⟨rfl, fun y hy => List.mem_singleton.mp hy, rfl⟩⟩
    rw [List.getLast_singleton, isRevLocal_self, findTurns_eq_revList, findTurns_eq_revList]; rfl
  | append_singleton xs x ih =>
    obtain ⟨u, c, hi, hv, hs, ha⟩ := ih
    generalize (s0 :: xs).getLast (List.cons_ne_nil _ _) = y at hv hs ha
    rw [show (s0 :: (xs ++ [x])).getLast (List.cons_ne_nil _ _) = x by simp]
    have hA : s0 :: (xs ++ [x]) = (s0 :: xs) ++ [x] := rfl
    have hB (B : List Int) : s0 :: (xs ++ [x]) ++ B = (s0 :: xs) ++ x :: B := by simp
    have hl : (s0 :: (xs ++ [x])).length = (s0 :: xs).length + 1 := by simp
    by_cases e : x = y
    · -- a repeated sample: nothing is decided, the block leaves what it left
      subst e
      have hT : findTurns (s0 :: (xs ++ [x])) = findTurns (s0 :: xs) := by
        rw [hA, hs, isRevLocal_cons_self, isRevLocal_nil, revList, isRevLocal_nil]; simp [revList]
      refine ⟨u, c, by omega, hv, fun B => ?_, ?_⟩
      · rw [hB, hs, hT, isRevLocal_cons_self, revList, isRevLocal_self, hl]; rfl
      · rw [hT]
        exact ha.imp_left fun ⟨h1, h2, h3⟩ => ⟨h1, fun y hy => by
          rcases List.mem_append.mp (hA ▸ hy) with hy | hy
          exacts [h2 y hy, List.mem_singleton.mp hy], h3⟩
    · -- a step: the last plateau is decided by `x`, the new one starts here
      have hT : findTurns (s0 :: (xs ++ [x])) =
          findTurns (s0 :: xs) ++ if isRevLocal u y [x] then [c] else [] := by
        rw [hA, hs, revList, isRevLocal_nil]; simp [revList]
      refine ⟨y, ((s0 :: xs).length, x), by omega, rfl, fun B => ?_, Or.inr ?_⟩
      · rw [hB, hs, hT, isRevLocal_cons_ne e, isRevLocal_cons_ne e, revList, hl]; simp
      · rw [hT]
        rcases ha with ⟨rfl, hc, h0⟩ | ⟨up, hup, hal⟩
        · obtain rfl := hc s0 List.mem_cons_self
          obtain ⟨up', hup'⟩ : ∃ up', dlt up' s0 x :=
            (Int.lt_or_gt_of_ne e).elim (fun h => ⟨false, h⟩) (fun h => ⟨true, h⟩)
          rw [h0, isRevLocal_self]
          exact ⟨up', hup', (dlt_not up' x s0).2 hup', trivial⟩
        · rw [isRevLocal_cons_ne e]
          by_cases hr : (u < y ∧ x < y) ∨ (y < u ∧ y < x)
          · -- the step reverses: the candidate becomes a way point
            have hxy : dlt up x y := by
              cases up <;> simp only [dlt, if_true, Bool.false_eq_true, if_false] at hup ⊢ <;> omega
            refine ⟨!up, (dlt_not up y x).2 hxy, ?_⟩
            simp only [hr, decide_true, if_true, List.reverse_append, List.reverse_singleton,
              List.map_cons, hv, Bool.not_not, List.cons_append]
            exact ⟨hxy, hal⟩
          · have hyx : dlt up y x := by
              cases up <;> simp only [dlt, if_true, Bool.false_eq_true, if_false] at hup ⊢ <;> omega
            refine ⟨up, hyx, ?_⟩
            simp only [hr, decide_false, Bool.false_eq_true, if_false, List.append_nil]
            exact alt_head _ y x _ hal ((dle_not up x y).2 (dle_of_dlt hyx))

theorem findTurns_split (A : List Int) (x : Int) (hx : A.getLast? = some x) :
    ∃ (u : Int) (c : Pt), c.1 < A.length ∧ c.2 = x ∧ ∀ B, findTurns (A ++ B) =
      findTurns A ++ ((if isRevLocal u x B then [c] else []) ++ revList A.length (x :: B)) := by
  cases A with
  | nil => simp at hx
  | cons a A' =>
    obtain ⟨u, c, h⟩ := leaves a A'
    rw [← Option.some.inj ((List.getLast?_eq_some_getLast (List.cons_ne_nil a A')).symm.trans hx)]
    exact ⟨u, c, h.idx, h.val, h.split⟩

/-- A turn of `T ++ xs` that lies in a prefix `T` without turns has the value of the last sample
of `T` (it sits at the start of the final plateau of `T`). -/
theorem tail_turn_value (T : List Int) (hT : T ≠ []) (hnil : findTurns T = []) (xs : List Int) :
    ∀ p ∈ findTurns (T ++ xs), p.1 < T.length → p.2 = T.getLast hT := by
  intro p hp hlt
  obtain ⟨u, c, -, hcx, hs⟩ := findTurns_split T _ (List.getLast?_eq_some_getLast hT)
  rw [hs, hnil, List.nil_append, List.mem_append] at hp
  rcases hp with hp | hp
  · rw [mem_ite_singleton hp, hcx]
  · have := (revList_idx _ _ p hp).1
    omega

theorem findTurns_append_prefix (p c : List Int) : ∃ X, findTurns (p ++ c) = findTurns p ++ X := by
  cases p with
  | nil => exact ⟨_, rfl⟩
  | cons a p' =>
    obtain ⟨u, c', h⟩ := leaves a p'
    exact ⟨_, h.split c⟩

theorem exists_turn_first_period (q : List Int) (h2 : ∃ a ∈ q, ∃ b ∈ q, a ≠ b) :
    ∃ p ∈ findTurns (q ++ q), p.1 < q.length := by
  cases q with
  | nil => obtain ⟨a, ha, _⟩ := h2; simp at ha
  | cons x0 q0 =>
    obtain ⟨b, hbm, hbx⟩ : ∃ b ∈ x0 :: q0, b ≠ x0 := by
      obtain ⟨a, ha, b, hb, hab⟩ := h2
      by_cases hax : a = x0
      · exact ⟨b, hb, fun h => hab (hax.trans h.symm)⟩
      · exact ⟨a, ha, hax⟩
    have hne : findTurns (x0 :: (q0 ++ [x0])) ≠ [] := fun hnil =>
      hbx (const_of_no_turn x0 _ hnil (by rw [List.getLastD_eq_getLast?]; simp) b
        (List.mem_append_left _ ((List.mem_cons.mp hbm).resolve_left hbx)))
    obtain ⟨p, hp⟩ := List.exists_mem_of_ne_nil _ hne
    have hlt := (findTurns_idx _ p hp).2
    obtain ⟨X, hX⟩ := findTurns_append_prefix (x0 :: (q0 ++ [x0])) q0
    refine ⟨p, ?_, ?_⟩
    · have e : x0 :: q0 ++ x0 :: q0 = x0 :: (q0 ++ [x0]) ++ q0 := by simp
      rw [e, hX]; exact List.mem_append_left _ hp
    · simp only [List.length_cons, List.length_append, List.length_nil] at hlt ⊢; omega

theorem findTurns_zig (s0 : Int) (xs : List Int) : Zig (s0 :: (findTurns (s0 :: xs)).map (·.2)) := by
  obtain ⟨u, c, h⟩ := leaves s0 xs
  rcases h.alt with ⟨_, _, h0⟩ | ⟨up, _, hal⟩
  · rw [h0]; exact ⟨true, trivial⟩
  · obtain ⟨w, hz⟩ := zig_reverse _ ⟨_, hal⟩
    rw [List.reverse_cons, List.reverse_append, List.map_reverse, List.reverse_reverse] at hz
    exact ⟨w, alt_prefix _ _ w hz⟩

theorem findTurns_adjNe (x0 : Int) (xs : List Int) :
    C04.AdjNe (x0 :: (findTurns (x0 :: xs)).map (·.2)) :=
  C04.zig_adjNe _ (findTurns_zig x0 xs)

theorem last_turn_ne_last (x0 : Int) (xs w0 : List Int) (a l : Int) (hal : a ≠ l)
    (hw : x0 :: xs = w0 ++ [a, l]) :
    ((findTurns (x0 :: xs)).map (·.2)).getLastD x0 ≠ l := by
  obtain ⟨u, c, h⟩ := leaves x0 xs
  rw [show (x0 :: xs).getLast (List.cons_ne_nil _ _) = l by simp [hw]] at h
  rcases h.alt with ⟨-, hc, -⟩ | ⟨up, -, ha⟩
  · exact absurd (hc a (by rw [hw]; simp)) hal
  · -- seen from the last sample, the last way point comes first in the alternation
    intro hcon
    generalize hW : (findTurns (x0 :: xs)).reverse = W at ha
    rw [← List.reverse_reverse (findTurns (x0 :: xs)), hW] at hcon
    cases W with
    | nil => exact C04.zig_ne l x0 [] ⟨_, ha⟩ (by simpa using hcon.symm)
    | cons q r => exact C04.zig_ne l q.2 _ ⟨_, ha⟩ (by simpa using hcon.symm)

/-! The index shift and the restart at the first reported turn are read off the declarative form
`revList` of the scan, whose recursion forgets everything before the sample it looks at. -/

theorem revList_shift (t : Nat) : ∀ (i : Nat) (l : List Int),
    revList (i + t) l = shiftPts t (revList i l)
  | i, p :: v :: post => by
    rw [revList, revList, shiftPts_append, Nat.add_right_comm,
      revList_shift t (i + 1) (v :: post)]
    split <;> rfl
  | _, [] => rfl
  | _, [_] => rfl

theorem revList_peel (tp : Pt) (rest : List Pt) : ∀ (i : Nat) (l : List Int),
    revList i l = tp :: rest →
    i ≤ tp.1 ∧ tp.1 + 1 < i + l.length ∧
      rest = revList (tp.1 + 1) (l.drop (tp.1 + 1 - i))
  | i, p :: v :: post, h => by
    rw [revList] at h
    split at h
    · obtain ⟨rfl, rfl⟩ := List.cons.inj h
      refine ⟨Nat.le_refl _, by simp only [List.length_cons]; omega, ?_⟩
      rw [Nat.add_sub_cancel_left]
      rfl
    · obtain ⟨a, b, c⟩ := revList_peel tp rest (i + 1) (v :: post) h
      refine ⟨by omega, by simp only [List.length_cons] at b ⊢; omega, ?_⟩
      rw [c, show tp.1 + 1 - i = (tp.1 + 1 - (i + 1)) + 1 by omega, List.drop_succ_cons]
  | _, [], h => by simp [revList] at h
  | _, [_], h => by simp [revList] at h

theorem findTurns_peel (q : List Int) (tp : Pt) (rest : List Pt) (h : findTurns q = tp :: rest) :
    0 < tp.1 ∧ tp.1 < q.length ∧ rest = shiftPts tp.1 (findTurns (q.drop tp.1)) := by
  rw [C02.findTurns_eq_revList] at h
  obtain ⟨a, b, c⟩ := revList_peel tp rest 1 q h
  refine ⟨a, by omega, ?_⟩
  rw [c, Nat.add_sub_cancel, C02.findTurns_eq_revList, Nat.add_comm tp.1 1, revList_shift]

/-- in front of a signal a sample adds at most the old first sample as a turning point -/
theorem findTurns_prepend (v a : Int) (W : List Int) :
    ∃ E, (E = [] ∨ E = [((0 : Nat), a)]) ∧
      findTurns (v :: a :: W) = shiftPts 1 (E ++ findTurns (a :: W)) := by
  refine ⟨if C02.isRevLocal v a W then [(0, a)] else [], by split <;> simp, ?_⟩
  rw [C02.findTurns_eq_revList, C02.findTurns_eq_revList, C02.revList, shiftPts_append, ← revList_shift]
  split <;> rfl

/-- The turns that become decided when the signal `p` is extended by `c`: the scan restarted at the
last decided turn of `p`. -/
def newTurnsOf (p c : List Int) : List Pt :=
  shiftPts (lastIdx (findTurns p)) (findTurns (p.drop (lastIdx (findTurns p)) ++ c))

theorem findTurns_restart (p : List Int) : ∀ c : List Int,
    findTurns (p ++ c) = findTurns p ++ newTurnsOf p c := by
  unfold newTurnsOf
  induction h : p.length using Nat.strongRecOn generalizing p with
  | _ n ih =>
    intro c
    cases hT : findTurns p with
    | nil => simp
    | cons tp rest =>
      obtain ⟨X, hX⟩ := findTurns_append_prefix p c
      rw [hT, List.cons_append] at hX
      obtain ⟨h0, h1, h2⟩ := findTurns_peel p tp rest hT
      obtain ⟨_, _, h3⟩ := findTurns_peel (p ++ c) tp (rest ++ X) hX
      rw [List.drop_append_of_le_length (by omega)] at h3
      have ihd := ih (p.drop tp.1).length (by rw [List.length_drop]; omega) (p.drop tp.1) rfl c
      rw [hX, h3, ihd, h2, lastIdx_cons_shiftPts, shiftPts_append, shiftPts_shiftPts,
        List.drop_drop]
      simp

theorem lastIdx_findTurns_lt (xs : List Int) (hne : xs ≠ []) : lastIdx (findTurns xs) < xs.length := by
  by_cases h : findTurns xs = []
  · rw [h]; exact List.length_pos_iff.mpr hne
  · obtain ⟨q, hq, e⟩ := lastIdx_mem _ h
    have := (findTurns_idx xs q hq).2
    omega

theorem lastIdx_findTurns_le : ∀ p : List Int, lastIdx (findTurns p) ≤ p.length
  | [] => Nat.le_refl 0
  | a :: l => Nat.le_of_lt (lastIdx_findTurns_lt (a :: l) (List.cons_ne_nil a l))

/-- One call with a non-empty chunk hands out the decided turning points of `tail ++ chunk`; a
flushing call hands out the last sample behind them and keeps nothing else. -/
theorem newTurns_chunk (T : List Int) (h : Nat) (xs : List Int) (hxs : xs ≠ []) (flush : Bool) :
    newTurns { tail := T, head := h } xs flush =
      (if flush then { tail := [xs.getLast hxs], head := h + xs.length }
        else { tail := (T ++ xs).drop (lastIdx (findTurns (T ++ xs))), head := h + xs.length },
        (findTurns (T ++ xs)).map (fun p => (p.1 + (h - T.length), p.2)) ++
          if flush then [(h + xs.length - 1, xs.getLast hxs)] else []) := by
  have hk := lastIdx_findTurns_lt (T ++ xs) (by simp [hxs])
  have hd : ((T ++ xs).drop (lastIdx (findTurns (T ++ xs)))).isEmpty = false := by
    rw [List.isEmpty_eq_false_iff]; intro h; rw [List.drop_eq_nil_iff] at h; omega
  have hl : ((T ++ xs).drop (lastIdx (findTurns (T ++ xs)))).getLast! = xs.getLast hxs := by
    rw [List.getLast!_eq_getLast?_getD, List.getLast?_drop, if_neg (by omega),
      List.getLast?_append_of_ne_nil _ hxs, List.getLast?_eq_some_getLast hxs]; rfl
  -- the flushing step, for any kept tail `tl` that ends in the last sample of `xs`
  have step : ∀ (tl : List Int) (tu : List Pt) (H : Nat), tl.isEmpty = false → tl.getLast! = xs.getLast hxs →
      (if (flush && !tl.isEmpty) = true then
        (({ tail := [tl.getLast!], head := H } : TurnState), tu ++ [(H - 1, tl.getLast!)])
        else ({ tail := tl, head := H }, tu)) =
      (if flush then { tail := [xs.getLast hxs], head := H } else { tail := tl, head := H },
        tu ++ if flush then [(H - 1, xs.getLast hxs)] else []) := by
    intro tl tu H h1 h2
    rw [h1, h2]
    cases flush
    · exact Prod.ext rfl (List.append_nil _).symm
    · rfl
  unfold newTurns
  rw [if_neg (by simpa using hxs)]
  exact step _ _ _ hd hl

theorem newTurns_idx (ts : TurnState) (samples : List Int) (flush : Bool) (h : ts.tail.length ≤ ts.head) :
    (∀ p ∈ (newTurns ts samples flush).2, p.1 < ts.head + samples.length) ∧
    (newTurns ts samples flush).1.tail.length ≤ (newTurns ts samples flush).1.head := by
  by_cases hS : samples = []
  · subst hS
    exact ⟨fun p hp => absurd hp List.not_mem_nil, h⟩
  · rw [newTurns_chunk ts.tail ts.head samples hS flush]
    have hlen : 0 < samples.length := List.length_pos_iff.mpr hS
    refine ⟨fun p hp => ?_, ?_⟩
    · rcases List.mem_append.mp hp with hp | hp
      · obtain ⟨q, hq, rfl⟩ := List.mem_map.mp hp
        have := (findTurns_idx _ q hq).2
        simp only [List.length_append] at this ⊢
        omega
      · cases flush
        · exact absurd hp List.not_mem_nil
        · rw [List.mem_singleton.mp hp]
          exact Nat.sub_lt (by omega) Nat.one_pos
    · cases flush
      · simp only [Bool.false_eq_true, if_false, List.length_drop, List.length_append]; omega
      · exact Nat.le_trans hlen (Nat.le_add_left _ _)

theorem lastIdx_map (g : Int → Int) (l : List Pt) : lastIdx (l.map fun p => (p.1, g p.2)) = lastIdx l := by
  unfold lastIdx
  rw [List.getLast?_map]
  cases l.getLast? <;> rfl

theorem newTurns_map (g : Int → Int)
    (hft : ∀ s, findTurns (s.map g) = (findTurns s).map fun p => (p.1, g p.2))
    (t : TurnState) (S : List Int) (flush : Bool) :
    newTurns ⟨t.tail.map g, t.head⟩ (S.map g) flush =
      (⟨(newTurns t S flush).1.tail.map g, (newTurns t S flush).1.head⟩,
       (newTurns t S flush).2.map fun p => (p.1, g p.2)) := by
  by_cases hS : S = []
  · subst hS
    rfl
  · rw [newTurns_chunk _ _ _ (by simpa using hS), newTurns_chunk t.tail t.head S hS]
    simp only [← List.map_append, hft, lastIdx_map, List.length_map, ← List.map_drop, List.getLast_map]
    cases flush <;> simp [List.map_map, Function.comp_def]

/-- The bookkeeping state of `_new_turns` after the signal `p` has been fed (in any chunking):
the samples from the last decided turn on, and the number of samples. -/
def canonTs (p : List Int) : TurnState :=
  { tail := p.drop (lastIdx (findTurns p)), head := p.length }

theorem canonTs_nil : canonTs [] = {} := rfl

theorem canonTs_head (p : List Int) : (canonTs p).head = p.length := rfl

theorem newTurnsOf_nil (c : List Int) : newTurnsOf [] c = findTurns c := by
  simp [newTurnsOf, findTurns]

theorem newTurnsOf_nil_right (p : List Int) : newTurnsOf p [] = [] := by
  have h := findTurns_restart p []
  rw [List.append_nil] at h
  exact List.self_eq_append_right.mp h

theorem newTurnsOf_append (p c c' : List Int) :
    newTurnsOf p (c ++ c') = newTurnsOf p c ++ newTurnsOf (p ++ c) c' := by
  have h := findTurns_restart (p ++ c) c'
  rw [findTurns_restart p c, List.append_assoc, findTurns_restart p (c ++ c'),
    List.append_assoc] at h
  exact List.append_cancel_left h

theorem lastIdx_restart (p c : List Int) :
    lastIdx (findTurns (p ++ c)) =
      lastIdx (findTurns p) + lastIdx (findTurns (p.drop (lastIdx (findTurns p)) ++ c)) := by
  rw [findTurns_restart p c]
  exact lastIdx_append_shiftPts _ _

theorem findTurns_drop_lastIdx (w : List Int) :
    findTurns (w.drop (lastIdx (findTurns w))) = [] := by
  simpa [newTurnsOf, shiftPts] using newTurnsOf_nil_right w

theorem drop_lastIdx_head (x0 : Int) (xs : List Int) :
    ∃ rest, (x0 :: xs).drop (lastIdx (findTurns (x0 :: xs))) =
      ((findTurns (x0 :: xs)).map (·.2)).getLastD x0 :: rest := by
  cases hT : (findTurns (x0 :: xs)).getLast? with
  | none =>
    rw [List.getLast?_eq_none_iff] at hT
    rw [hT]; exact ⟨xs, rfl⟩
  | some p =>
    have hp := List.mem_of_getLast? hT
    have hv := findTurns_getElem? _ p hp
    have hlt := (findTurns_idx _ p hp).2
    have hLp : lastIdx (findTurns (x0 :: xs)) = p.1 := by unfold lastIdx; rw [hT]
    have hval : ((findTurns (x0 :: xs)).map (·.2)).getLastD x0 = p.2 := by
      rw [List.getLastD_eq_getLast?, List.getLast?_map, hT]; rfl
    rw [hLp, hval]
    have hlt' : p.1 < (x0 :: xs).length := by omega
    refine ⟨(x0 :: xs).drop (p.1 + 1), ?_⟩
    rw [← List.getElem_cons_drop (h := hlt')]
    congr 1
    rw [List.getElem?_eq_getElem hlt'] at hv
    exact Option.some.inj hv

theorem newTurns_canon (p c : List Int) (hc : c ≠ []) :
    newTurns (canonTs p) c = (canonTs (p ++ c), newTurnsOf p c) := by
  have hle := lastIdx_findTurns_le p
  have hoff : p.length - (p.drop (lastIdx (findTurns p))).length = lastIdx (findTurns p) := by
    rw [List.length_drop]; omega
  rw [canonTs, newTurns_chunk _ _ c hc false, hoff, canonTs, lastIdx_restart p c, ← List.drop_drop,
    List.drop_append_of_le_length hle, List.length_append]
  exact Prod.ext rfl (List.append_nil _)

/-- the way points of `prev :: S` (`S` newest first) alternate, `prev` lying beyond `S` in direction `up`; or the
signal has not moved yet and `S` is the first sample alone -/
def DirOk (up : Bool) (prev : Int) (S : List Int) : Prop := S = [prev] ∨ Alt (!up) (prev :: S)

/-- Seen from the last sample `d` of `s0 :: xs`, its way points alternate, and the next way point (the next
decided turn, or the last sample of `c` if there is none) lies weakly beyond `d`. -/
theorem findTurns_dirOk (s0 : Int) (xs c : List Int) :
    ∃ up, DirOk up ((s0 :: xs).getLast (List.cons_ne_nil _ _)) ((findTurns (s0 :: xs)).reverse.map (·.2) ++ [s0]) ∧
      dle up ((s0 :: xs).getLast (List.cons_ne_nil _ _))
        (nextVal (newTurnsOf (s0 :: xs) c) ((s0 :: xs ++ c).getLast (by simp))) := by
  obtain ⟨u, q, h⟩ := leaves s0 xs
  have hN : newTurnsOf (s0 :: xs) c = _ :=
    List.append_cancel_left ((findTurns_restart (s0 :: xs) c).symm.trans (h.split c))
  have hl : (s0 :: xs ++ c).getLast (by simp) =
      ((s0 :: xs).getLast (List.cons_ne_nil _ _) :: c).getLast (List.cons_ne_nil _ _) := by
    cases c <;> simp
  rw [hN, hl]
  generalize (s0 :: xs).getLast (List.cons_ne_nil _ _) = d at h ⊢
  -- `[] ++ …`: what `(if isRevLocal u d c then [_] else []) ++ …` becomes when `d` is no turn
  have next {up : Bool} (hh : Heads up d c) :
      dle up d (nextVal ([] ++ revList (s0 :: xs).length (d :: c)) ((d :: c).getLast (List.cons_ne_nil _ _))) :=
    nextVal_heads c _ d hh
  rcases h.alt with ⟨rfl, hc, h0⟩ | ⟨up, hu, hal⟩
  · obtain rfl := hc s0 List.mem_cons_self
    obtain ⟨up, hh⟩ := heads_total s0 c
    rw [isRevLocal_self, h0]
    exact ⟨up, Or.inl rfl, next hh⟩
  · refine ⟨up, Or.inr hal, ?_⟩
    cases hr : isRevLocal u d c
    · exact next (heads_of_not_rev hu hr)
    · simp only [if_true, List.singleton_append, nextVal, h.val]; exact dle_refl up d

end PylifeVerif.Rainflow
