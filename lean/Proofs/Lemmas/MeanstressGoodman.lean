/-
C12 — `HaighDiagram.fkm_goodman` is the diagram in standard form `diagram 0 M 0 [] M2` (`goodman_diagram`): `hG` is a good
potential of it, its runs fire, and for `0 ≤ M2`, `0 ≤ M < 1` the guard holds, as instances of
`Proofs/Lemmas/MeanstressPotential.lean` and `Proofs/Lemmas/MeanstressGuardGeneral.lean`.
-/
import Proofs.Lemmas.MeanstressPotential

namespace PylifeVerif.Meanstress
open ExtR

/-- The iso-damage potential of the FKM-Goodman diagram (normalised to 1 at R = -1). -/
noncomputable def hG (M M2 x : ℝ) : ℝ :=
  if x ≤ -1 then 1 - M else if x ≤ 1 then 1 + M * x else (1 + M) / (1 + M2) * (1 + M2 * x)

theorem hG_seg0 (M M2 : ℝ) {x : ℝ} (h : x ≤ -1) : hG M M2 x = 1 - M := by simp [hG, h]
theorem hG_seg1 (M M2 : ℝ) {x : ℝ} (h1 : -1 ≤ x) (h2 : x ≤ 1) : hG M M2 x = 1 + M * x := by
  unfold hG; split_ifs with h
  · have : x = -1 := le_antisymm h h1
    subst this; ring
  · rfl
theorem hG_seg2 (M M2 : ℝ) (hM2 : 1 + M2 ≠ 0) {x : ℝ} (h : 1 ≤ x) :
    hG M M2 x = (1 + M) / (1 + M2) * (1 + M2 * x) := by
  unfold hG; split_ifs with h1 h2
  · linarith
  · have : x = 1 := le_antisymm h2 h
    subst this; field_simp
  · rfl

/-- For `fkm_goodman` the potential of the standard form is `hG`. -/
theorem hD_nil (M M2 : ℝ) : hD 0 M 0 [] M2 = hG M M2 := by
  funext x
  simp only [hD, hC, hG, px0, mul_one]
  split_ifs <;> ring

theorem goodman_good {M M2 : ℝ} (h0 : -1 < M2) (h1 : -1 < M) (h2 : M < 1) : GoodD 0 M 0 [] M2 := by
  simp only [GoodD, GoodC, px0, mul_one]
  exact ⟨one_pos, h2, by linarith, by linarith⟩

theorem goodman_goodPot {M M2 : ℝ} (h0 : -1 < M2) (h1 : -1 < M) (h2 : M < 1) : GoodPot (hG M M2) (goodman M M2) := by
  rw [goodman_diagram, ← hD_nil]
  exact diagram_goodPot one_pos (goodman_good h0 h1 h2)

theorem goodman_fires (M M2 : ℝ) : Fires (goodman M M2) := by
  rw [goodman_diagram]
  exact diagram_fires one_pos (.refl _)

theorem goodman_compat (M M2 : ℝ) (h0 : -1 < M2) (h1 : -1 < M) (h2 : M < 1) (g : ExtR ℝ) (hg : ValidR g) :
    Compat (hG M M2) (goodman M M2) g :=
  ((goodman_goodPot h0 h1 h2).compatPos hg).compat

theorem hG_pos (M M2 : ℝ) (h0 : 0 ≤ M2) (h1 : 0 ≤ M) (h2 : M < 1) (x : ℝ) : 0 < hG M M2 x := by
  rw [← hD_nil]
  exact hD_pos one_pos (by norm_num) le_rfl h1 h2 (by simp) h0 x

/-- For the FKM-Goodman diagram with 0 ≤ M2, 0 ≤ M < 1 the guard "the iso-damage amplitude stays positive along the run"
holds for EVERY cycle and target: the guard is positivity of the potential at the two end points (`transformGuard_of_goodPot`),
and `hG` is positive everywhere (`hG_pos`). -/
theorem goodman_guard (M M2 : ℝ) (h0 : 0 ≤ M2) (h1 : 0 ≤ M) (h2 : M < 1) (g : ExtR ℝ) (c : Cyc ℝ)
    (hg : ValidR g) (hR : ValidR c.R) : TransformGuard (goodman M M2) g c :=
  transformGuard_of_goodPot (goodman_goodPot (by linarith) (by linarith) h2) hg (hG_pos M M2 h0 h1 h2 _) hR
    (hG_pos M M2 h0 h1 h2 _)

/-- Non-vacuity: a cycle in compression beyond R = 1 moved to R = 1/2 (crosses all three segments). -/
example : TransformGuard (goodman (1/2) (1/6)) (fin (1/2)) ⟨1, fin 3⟩ :=
  goodman_guard (1/2) (1/6) (by norm_num) (by norm_num) (by norm_num) _ _ (by norm_num [ValidR]) (by norm_num [ValidR])

end PylifeVerif.Meanstress
