/-
Helper lemmas for C06 (Seeger-Beste), the analysis.  With `ℓ(u) = ln(1/cos u)` (`lc`), the function `φ(u) = 2/u² · ℓ(u)`
(`sbPhi`) on `(0, π/2)` is `≥ 1`, non-decreasing, `→ 1` at `0⁺` and `→ +∞` at `(π/2)⁻`.  With the `u`-term as a function
`u(f)` of the stress ratio `f = σ/L` (`sbU`), the right-hand side of eq. 2.8-42 is `K_p · e*(L) · H(σ/L)`,
`H(f) = φ(u(f))/f + f − 1` (`sbH`: strictly decreasing on `(1/K_p, 1)`, `→ 1` at `1⁻`, `→ +∞` at `(1/K_p)⁺`).  So on the
open bracket `L/K_p < σ < L` eq. 2.8-42 is one function
`G(σ, L) = sbG m σ L = ε(σ) − _middle_term(σ, L) · _neuber_strain(σ, L) = ε(σ) − K_p · e*(L) · H(σ/L)` (`sbG_eq`), which
grows with the stress and falls with the load (`sbG_lt`), is continuous, and has the limits `−∞` at the end where
`σ/L → 1/K_p` and `ε − K_p·e*` at the end where `σ/L → 1`; `exists_root_Ioo` turns such a pair of limits into a sign
change and a root.
-/
import Proofs.Lemmas.Notch
import Mathlib.Analysis.SpecialFunctions.Trigonometric.Bounds
import Mathlib.Analysis.Calculus.Deriv.MeanValue
import Mathlib.Analysis.SpecialFunctions.Log.Deriv
import Mathlib.Analysis.SpecialFunctions.Trigonometric.Deriv
import Mathlib.Analysis.SpecialFunctions.Trigonometric.ArctanDeriv
import Mathlib.Topology.Algebra.Order.Field

namespace PylifeVerif.Notch
open Filter Topology Set

noncomputable def lc (u : ℝ) : ℝ := -Real.log (Real.cos u)

theorem lc_zero : lc 0 = 0 := by simp [lc]

theorem cos_pos_of_Ico {u : ℝ} (h0 : 0 ≤ u) (h1 : u < Real.pi / 2) : 0 < Real.cos u :=
  Real.cos_pos_of_mem_Ioo ⟨by linarith [Real.pi_pos], h1⟩

theorem lc_hasDerivAt {u : ℝ} (hc : Real.cos u ≠ 0) : HasDerivAt lc (Real.tan u) u := by
  have h := ((Real.hasDerivAt_cos u).log hc).neg
  have e : -(-Real.sin u / Real.cos u) = Real.tan u := by rw [Real.tan_eq_sin_div_cos]; ring
  rw [e] at h
  exact h

theorem hasDerivAt_sq_half (x : ℝ) : HasDerivAt (fun x : ℝ => x * x / 2) x x := by
  have h := ((hasDerivAt_id' x).mul (hasDerivAt_id' x)).div_const 2
  exact h.congr_deriv (by ring)

theorem nonneg_of_hasDerivAt_nonneg {F F' : ℝ → ℝ} {b : ℝ} (hd : ∀ x ∈ Ico 0 b, HasDerivAt F (F' x) x)
    (hF' : ∀ x ∈ Ioo 0 b, 0 ≤ F' x) (h0 : F 0 = 0) {u : ℝ} (hu : u ∈ Ico 0 b) : 0 ≤ F u := by
  have hmono : MonotoneOn F (Ico 0 b) :=
    monotoneOn_of_hasDerivWithinAt_nonneg (convex_Ico _ _) (fun x hx => (hd x hx).continuousAt.continuousWithinAt)
      (fun x hx => (hd x (interior_subset hx)).hasDerivWithinAt) (fun x hx => hF' x (by rwa [interior_Ico] at hx))
  exact h0 ▸ hmono ⟨le_rfl, hu.1.trans_lt hu.2⟩ hu hu.1

/-- the derivative of the difference is `tan u − u ≥ 0` -/
theorem half_sq_le_lc {u : ℝ} (h0 : 0 ≤ u) (h1 : u < Real.pi / 2) : u * u / 2 ≤ lc u :=
  sub_nonneg.mp (nonneg_of_hasDerivAt_nonneg (F := fun x => lc x - x * x / 2)
    (fun x hx => (lc_hasDerivAt (cos_pos_of_Ico hx.1 hx.2).ne').sub (hasDerivAt_sq_half x))
    (fun x hx => sub_nonneg.mpr (Real.lt_tan hx.1 hx.2).le) (by rw [lc_zero, zero_mul, zero_div, sub_zero]) ⟨h0, h1⟩)

/-- the derivative of the difference is `(u − sin u cos u)/cos² u ≥ 0` -/
theorem two_lc_le_mul_tan {u : ℝ} (h0 : 0 ≤ u) (h1 : u < Real.pi / 2) : 2 * lc u ≤ u * Real.tan u := by
  refine sub_nonneg.mp (nonneg_of_hasDerivAt_nonneg (F := fun x => x * Real.tan x - 2 * lc x)
    (F' := fun x => 1 * Real.tan x + x * (1 / Real.cos x ^ 2) - 2 * Real.tan x) (fun x hx => ?_) (fun x hx => ?_) (by rw [lc_zero, zero_mul, mul_zero, sub_zero]) ⟨h0, h1⟩)
  · have hc := (cos_pos_of_Ico hx.1 hx.2).ne'
    exact ((hasDerivAt_id' x).mul (Real.hasDerivAt_tan hc)).sub ((lc_hasDerivAt hc).const_mul 2)
  · have hc := cos_pos_of_Ico hx.1.le hx.2
    have hs0 : 0 ≤ Real.sin x := (Real.sin_pos_of_pos_of_lt_pi hx.1 (by linarith [hx.2])).le
    have e : 1 * Real.tan x + x * (1 / Real.cos x ^ 2) - 2 * Real.tan x
        = (x - Real.sin x * Real.cos x) / Real.cos x ^ 2 := by
      rw [Real.tan_eq_sin_div_cos]; field_simp; ring
    rw [e]
    exact div_nonneg (sub_nonneg.mpr ((mul_le_of_le_one_right hs0 (Real.cos_le_one x)).trans (Real.sin_le hx.1.le)))
      (sq_nonneg _)

/-- the transcendental part of the Seeger-Beste middle term -/
noncomputable def sbPhi (u : ℝ) : ℝ := 2 / (u * u) * Real.log (1 / Real.cos u)

theorem sbPhi_eq (u : ℝ) : sbPhi u = 2 / (u * u) * lc u := by
  rw [sbPhi, lc, one_div, Real.log_inv]

theorem one_le_sbPhi {u : ℝ} (hu : u ∈ Ioo 0 (Real.pi / 2)) : 1 ≤ sbPhi u := by
  rw [sbPhi_eq, div_mul_eq_mul_div, one_le_div (mul_pos hu.1 hu.1)]
  linarith [half_sq_le_lc hu.1.le hu.2]

/-- from `2ℓ ≤ u tan u` and `sin u ≤ u` -/
theorem sbPhi_le_inv_cos {u : ℝ} (hu : u ∈ Ioo 0 (Real.pi / 2)) : sbPhi u ≤ 1 / Real.cos u := by
  obtain ⟨h0, h1⟩ := hu
  rw [sbPhi_eq]
  have h := two_lc_le_mul_tan h0.le h1
  have hc := cos_pos_of_Ico h0.le h1
  have hs : Real.sin u ≤ u := Real.sin_le h0.le
  have huu : 0 < u * u := mul_pos h0 h0
  have h2 : u * Real.tan u ≤ u * u / Real.cos u := by
    rw [Real.tan_eq_sin_div_cos, mul_div_assoc']
    exact div_le_div_of_nonneg_right (mul_le_mul_of_nonneg_left hs h0.le) hc.le
  calc 2 / (u * u) * lc u = (2 * lc u) / (u * u) := by ring
    _ ≤ (u * u / Real.cos u) / (u * u) := div_le_div_of_nonneg_right (le_trans h h2) huu.le
    _ = 1 / Real.cos u := by field_simp

/-- by squeezing `1 ≤ φ(u) ≤ 1/cos u` -/
theorem sbPhi_tendsto_one : Tendsto sbPhi (𝓝[>] 0) (𝓝 1) := by
  have hpi : (0 : ℝ) < Real.pi / 2 := by positivity
  have hmem : Ioo (0 : ℝ) (Real.pi / 2) ∈ 𝓝[>] (0 : ℝ) := Ioo_mem_nhdsGT hpi
  have hup : Tendsto (fun u : ℝ => 1 / Real.cos u) (𝓝[>] 0) (𝓝 1) := by
    have : Tendsto (fun u : ℝ => 1 / Real.cos u) (𝓝 0) (𝓝 (1 / Real.cos 0)) :=
      (tendsto_const_nhds.div Real.continuous_cos.continuousAt (by simp))
    rw [Real.cos_zero, div_one] at this
    exact this.mono_left nhdsWithin_le_nhds
  refine tendsto_of_tendsto_of_tendsto_of_le_of_le' tendsto_const_nhds hup ?_ ?_
  · filter_upwards [hmem] with u hu using one_le_sbPhi hu
  · filter_upwards [hmem] with u hu using sbPhi_le_inv_cos hu

theorem sbPhi_hasDerivAt {x : ℝ} (hx : x ∈ Ioo (0 : ℝ) (Real.pi / 2)) :
    HasDerivAt sbPhi (2 / (x * x * x) * (x * Real.tan x - 2 * lc x)) x := by
  have hc := (cos_pos_of_Ico hx.1.le hx.2).ne'
  have hx0 : x ≠ 0 := hx.1.ne'
  have hxx : x * x ≠ 0 := mul_ne_zero hx0 hx0
  have h1 := ((hasDerivAt_const x (2 : ℝ)).div ((hasDerivAt_id' x).mul (hasDerivAt_id' x)) hxx).mul
    (lc_hasDerivAt hc)
  have hfun : sbPhi = fun y => 2 / (y * y) * lc y := by
    funext y; rw [sbPhi_eq]
  rw [hfun]
  refine h1.congr_deriv ?_
  simp only [Pi.mul_apply, Pi.div_apply]
  field_simp; ring

theorem sbPhi_continuousOn : ContinuousOn sbPhi (Ioo 0 (Real.pi / 2)) := fun _ hx =>
  (sbPhi_hasDerivAt hx).continuousAt.continuousWithinAt

/-- `φ'(u) = 2/u³ · (u tan u − 2ℓ(u)) ≥ 0` -/
theorem sbPhi_monotoneOn : MonotoneOn sbPhi (Ioo 0 (Real.pi / 2)) := by
  apply monotoneOn_of_hasDerivWithinAt_nonneg (convex_Ioo _ _)
    (f' := fun x => 2 / (x * x * x) * (x * Real.tan x - 2 * lc x))
  · exact sbPhi_continuousOn
  · intro x hx
    rw [interior_Ioo] at hx
    exact (sbPhi_hasDerivAt hx).hasDerivWithinAt
  · intro x hx
    rw [interior_Ioo] at hx
    have hx0 := hx.1
    have := two_lc_le_mul_tan hx.1.le hx.2
    exact mul_nonneg (by positivity) (by linarith)

theorem sbPhi_tendsto_atTop : Tendsto sbPhi (𝓝[<] (Real.pi / 2)) atTop := by
  have hlc : Tendsto lc (𝓝[<] (Real.pi / 2)) atTop :=
    tendsto_neg_atBot_atTop.comp (Real.tendsto_log_nhdsGT_zero.comp Real.tendsto_cos_pi_div_two)
  have hq : Tendsto (fun u : ℝ => 2 / (u * u)) (𝓝[<] (Real.pi / 2)) (𝓝 (2 / (Real.pi / 2 * (Real.pi / 2)))) :=
    (tendsto_const_nhds.div (tendsto_id.mul tendsto_id) (by positivity)).mono_left nhdsWithin_le_nhds
  exact (hq.pos_mul_atTop (by positivity) hlc).congr fun u => (sbPhi_eq u).symm

noncomputable def sbU (Kp f : ℝ) : ℝ := Real.pi / 2 * ((1 / f - 1) / (Kp - 1))

theorem pos_of_inv_lt {Kp f : ℝ} (hKp : 1 < Kp) (h1 : 1 / Kp < f) : 0 < f :=
  (one_div_pos.mpr (zero_lt_one.trans hKp)).trans h1

theorem sbU_mem {Kp f : ℝ} (hKp : 1 < Kp) (hf : f ∈ Ioo (1 / Kp) 1) : sbU Kp f ∈ Ioo 0 (Real.pi / 2) := by
  obtain ⟨h1, h2⟩ := hf
  have hK0 : 0 < Kp := by linarith
  have hf := pos_of_inv_lt hKp h1
  have hk : 0 < Kp - 1 := by linarith
  have hpi : 0 < Real.pi / 2 := by positivity
  -- `1 < 1/f < K_p`, so the quotient lies in `(0, 1)`
  have hq0 : 0 < (1 / f - 1) / (Kp - 1) := div_pos (sub_pos.mpr (one_lt_one_div hf h2)) hk
  have hq1 : (1 / f - 1) / (Kp - 1) < 1 :=
    (div_lt_one hk).mpr (sub_lt_sub_right ((one_div_lt hf hK0).mpr h1) 1)
  exact ⟨mul_pos hpi hq0, (mul_lt_iff_lt_one_right hpi).mpr hq1⟩

theorem sbU_strictAntiOn {Kp : ℝ} (hKp : 1 < Kp) : StrictAntiOn (sbU Kp) (Ioi 0) := by
  intro a ha b hb hab
  have h1 : 1 / b < 1 / a := one_div_lt_one_div_of_lt ha hab
  have hk : 0 < Kp - 1 := by linarith
  have h2 : (1 / b - 1) / (Kp - 1) < (1 / a - 1) / (Kp - 1) := div_lt_div_of_pos_right (by linarith) hk
  exact mul_lt_mul_of_pos_left h2 (by positivity)

theorem sbU_continuousAt (Kp : ℝ) {f : ℝ} (hf : f ≠ 0) : ContinuousAt (sbU Kp) f :=
  continuousAt_const.mul (((continuousAt_const.div continuousAt_id hf).sub continuousAt_const).div_const _)

theorem sbU_one (Kp : ℝ) : sbU Kp 1 = 0 := by simp [sbU]

theorem sbU_inv {Kp : ℝ} (hKp : 1 < Kp) : sbU Kp (1 / Kp) = Real.pi / 2 := by
  unfold sbU
  rw [one_div_one_div, div_self (by linarith : Kp - 1 ≠ 0), mul_one]

theorem sbU_tendsto_zero {Kp : ℝ} (hKp : 1 < Kp) : Tendsto (sbU Kp) (𝓝[<] 1) (𝓝[>] 0) := by
  have := tendsto_nhdsWithin_of_tendsto_nhds_of_eventually_within (s := Ioi 0) _
    (sbU_continuousAt Kp one_ne_zero).continuousWithinAt
    (mem_of_superset (Ioo_mem_nhdsLT (div_lt_self one_pos hKp)) fun f hf => (sbU_mem hKp hf).1)
  rwa [sbU_one] at this

theorem sbU_tendsto_pi_div_two {Kp : ℝ} (hKp : 1 < Kp) :
    Tendsto (sbU Kp) (𝓝[>] (1 / Kp)) (𝓝[<] (Real.pi / 2)) := by
  have := tendsto_nhdsWithin_of_tendsto_nhds_of_eventually_within (s := Iio (Real.pi / 2)) _
    (sbU_continuousAt Kp (one_div_pos.mpr (zero_lt_one.trans hKp)).ne').continuousWithinAt
    (mem_of_superset (Ioo_mem_nhdsGT (div_lt_self one_pos hKp)) fun f hf => (sbU_mem hKp hf).2)
  rwa [sbU_inv hKp] at this

noncomputable def sbH (Kp f : ℝ) : ℝ := sbPhi (sbU Kp f) / f + f - 1

theorem sbH_pos {Kp f : ℝ} (hKp : 1 < Kp) (hf : f ∈ Ioo (1 / Kp) 1) : 0 < sbH Kp f := by
  have h3 : 1 ≤ sbPhi (sbU Kp f) / f := by
    rw [le_div_iff₀ (pos_of_inv_lt hKp hf.1)]; linarith [one_le_sbPhi (sbU_mem hKp hf), hf.2]
  unfold sbH; linarith [pos_of_inv_lt hKp hf.1]

theorem div_add_lt {q a b : ℝ} (hq : 1 ≤ q) (ha : 0 < a) (hab : a < b) (hb : b < 1) : q / b + b < q / a + a := by
  have hb0 := ha.trans hab
  have e : q / a + a - (q / b + b) = (b - a) * (q - a * b) / (a * b) := by field_simp; ring
  rw [← sub_pos, e]
  have : a * b < 1 := mul_lt_one_of_nonneg_of_lt_one_left ha.le (hab.trans hb) hb.le
  exact div_pos (mul_pos (sub_pos.mpr hab) (by linarith)) (mul_pos ha hb0)

/-- `φ∘u` is non-increasing and `≥ 1`, and `q/f + f` falls in `f ∈ (0, 1)` for `q ≥ 1` -/
theorem sbH_strictAntiOn {Kp : ℝ} (hKp : 1 < Kp) : StrictAntiOn (sbH Kp) (Ioo (1 / Kp) 1) := by
  intro a ha b hb hab
  have ha0 := pos_of_inv_lt hKp ha.1
  have hb0 := ha0.trans hab
  have hua := sbU_mem hKp ha
  have hp : sbPhi (sbU Kp b) ≤ sbPhi (sbU Kp a) :=
    sbPhi_monotoneOn (sbU_mem hKp hb) hua (sbU_strictAntiOn hKp ha0 hb0 hab).le
  have h1 := div_le_div_of_nonneg_right hp hb0.le
  have h2 := div_add_lt (one_le_sbPhi hua) ha0 hab hb.2
  show sbPhi (sbU Kp b) / b + b - 1 < sbPhi (sbU Kp a) / a + a - 1
  linarith

theorem sbH_continuousOn {Kp : ℝ} (hKp : 1 < Kp) : ContinuousOn (sbH Kp) (Ioo (1 / Kp) 1) := by
  have hpos : ∀ f ∈ Ioo (1 / Kp) 1, f ≠ 0 := fun f hf => (pos_of_inv_lt hKp hf.1).ne'
  have hU : ContinuousOn (sbU Kp) (Ioo (1 / Kp) 1) := fun f hf =>
    (sbU_continuousAt Kp (hpos f hf)).continuousWithinAt
  have hP : ContinuousOn (fun f => sbPhi (sbU Kp f)) (Ioo (1 / Kp) 1) :=
    sbPhi_continuousOn.comp hU (fun _ => sbU_mem hKp)
  exact ((hP.div continuousOn_id hpos).add continuousOn_id).sub continuousOn_const

/-- this is where `lim_{u→0} φ(u) = 1` enters -/
theorem sbH_tendsto_one {Kp : ℝ} (hKp : 1 < Kp) : Tendsto (sbH Kp) (𝓝[<] 1) (𝓝 1) := by
  have hid : Tendsto (fun f : ℝ => f) (𝓝[<] 1) (𝓝 1) := tendsto_id.mono_left nhdsWithin_le_nhds
  have hP : Tendsto (fun f => sbPhi (sbU Kp f)) (𝓝[<] 1) (𝓝 1) := sbPhi_tendsto_one.comp (sbU_tendsto_zero hKp)
  have := ((hP.div hid one_ne_zero).add hid).sub_const 1
  rwa [div_one, add_sub_cancel_right] at this

theorem sbH_tendsto_atTop {Kp : ℝ} (hKp : 1 < Kp) : Tendsto (sbH Kp) (𝓝[>] (1 / Kp)) atTop := by
  have hK0 : (0 : ℝ) < 1 / Kp := one_div_pos.mpr (zero_lt_one.trans hKp)
  have hid : Tendsto (fun f : ℝ => f) (𝓝[>] (1 / Kp)) (𝓝 (1 / Kp)) := tendsto_id.mono_left nhdsWithin_le_nhds
  have hP : Tendsto (fun f => sbPhi (sbU Kp f)) (𝓝[>] (1 / Kp)) atTop :=
    sbPhi_tendsto_atTop.comp (sbU_tendsto_pi_div_two hKp)
  -- `φ(u(f)) → +∞`, `1/f → K_p > 0`, `f − 1` stays bounded
  exact ((hP.atTop_mul_pos (inv_pos.mpr hK0) (hid.inv₀ hK0.ne')).atTop_add (hid.sub_const 1)).congr fun f => by
    rw [sbH, div_eq_mul_inv, add_sub_assoc]

/-- `a − c · H(r)` along any filter on which `r → 1⁻`: for `σ ↦ sbG m σ L` at `L⁻` and for `L ↦ sbG m σ L` at `σ⁺` (below) -/
theorem sub_mul_sbH_tendsto {Kp : ℝ} (hKp : 1 < Kp) {a c r : ℝ → ℝ} {l : Filter ℝ} {a₀ c₀ : ℝ} (ha : Tendsto a l (𝓝 a₀))
    (hc : Tendsto c l (𝓝 c₀)) (hr : Tendsto r l (𝓝[<] 1)) :
    Tendsto (fun t => a t - c t * sbH Kp (r t)) l (𝓝 (a₀ - c₀)) := by
  have := ha.sub (hc.mul ((sbH_tendsto_one hKp).comp hr))
  rwa [mul_one] at this

theorem sub_mul_sbH_tendsto_atBot {Kp : ℝ} (hKp : 1 < Kp) {a c r : ℝ → ℝ} {l : Filter ℝ} {a₀ c₀ : ℝ} (ha : Tendsto a l (𝓝 a₀))
    (hc : Tendsto c l (𝓝 c₀)) (hc₀ : 0 < c₀) (hr : Tendsto r l (𝓝[>] (1 / Kp))) :
    Tendsto (fun t => a t - c t * sbH Kp (r t)) l atBot :=
  (ha.add_atBot (tendsto_neg_atTop_atBot.comp (hc.pos_mul_atTop hc₀ ((sbH_tendsto_atTop hKp).comp hr)))).congr
    fun t => (sub_eq_add_neg (a t) _).symm

/-- `g` continuous on `(a, b)`, eventually negative along one filter that lives on `(a, b)`, eventually positive along
another (in the applications: the two ends, `g → −∞` at one, `g → c > 0` at the other): sign change and a root inside. -/
theorem exists_root_Ioo {g : ℝ → ℝ} {a b : ℝ} (hg : ContinuousOn g (Ioo a b)) {l₁ l₂ : Filter ℝ} [l₁.NeBot] [l₂.NeBot]
    (h₁ : Ioo a b ∈ l₁) (h₂ : Ioo a b ∈ l₂) (hneg : ∀ᶠ x in l₁, g x < 0) (hpos : ∀ᶠ x in l₂, 0 < g x) :
    (∃ x₁ ∈ Ioo a b, ∃ x₂ ∈ Ioo a b, g x₁ < 0 ∧ 0 < g x₂) ∧ ∃ x ∈ Ioo a b, g x = 0 := by
  obtain ⟨x₁, hg₁, hx₁⟩ := (hneg.and h₁).exists
  obtain ⟨x₂, hg₂, hx₂⟩ := (hpos.and h₂).exists
  exact ⟨⟨x₁, hx₁, x₂, hx₂, hg₁, hg₂⟩, isPreconnected_Ioo.intermediate_value hx₁ hx₂ hg ⟨hg₁.le, hg₂.le⟩⟩

theorem uTerm_eq_sbU (m : Mat ℝ) {s : ℝ} (hs : s ≠ 0) (L : ℝ) : uTerm m s L = sbU m.Kp (s / L) := by
  rw [uTerm_eq, ratio_of_ne hs, sbU, one_div_div]

theorem stress_ratio_mem_iff {Kp s L : ℝ} (hL : 0 < L) : s ∈ Ioo (L / Kp) L ↔ s / L ∈ Ioo (1 / Kp) 1 := by
  rw [mem_Ioo, mem_Ioo, lt_div_iff₀ hL, div_lt_one hL, one_div_mul_eq_div]

/-- the equation `ε(σ) = middle term · Neuber term` as one function of `(σ, L)` -/
noncomputable def sbG (m : Mat ℝ) (s L : ℝ) : ℝ := roStrain m s - middleTerm m s L * neuberStrain m s L

/-- all arguments, fall-backs included -/
theorem sbStressImplicit_eq_sbG (m : Mat ℝ) (s L : ℝ) :
    sbStressImplicit m s L = roStrain m s / (roStrain m s - sbG m s L) - 1 := by
  rw [sbStressImplicit_eq, sbG, sub_sub_cancel]

/-- on the open bracket no fall-back is taken -/
theorem middleTerm_eq_on {m : Mat ℝ} (hKp : 1 < m.Kp) {s L : ℝ} (hL : 0 < L) (hs : s ∈ Ioo (L / m.Kp) L) :
    middleTerm m s L = sbPhi (sbU m.Kp (s / L)) + s / L * (s / L) - s / L := by
  have hr := (stress_ratio_mem_iff hL).mp hs
  have hs : 0 < s := lt_trans (div_pos hL (by linarith)) hs.1
  have hu := sbU_mem hKp hr
  rw [middleTerm_eq, uTerm_eq_sbU m hs.ne', if_pos hu.1.ne', if_pos (cos_pos_of_Ico hu.1.le hu.2), ratio_of_ne hL.ne']
  rfl

theorem middleTerm_pos_on {m : Mat ℝ} (hKp : 1 < m.Kp) {s L : ℝ} (hL : 0 < L) (hs : s ∈ Ioo (L / m.Kp) L) :
    0 < middleTerm m s L := by
  have hr := (stress_ratio_mem_iff hL).mp hs
  have hu := sbU_mem hKp hr
  rw [middleTerm_eq_on hKp hL hs]
  linarith [one_le_sbPhi hu, sq_nonneg (s / L - 1 / 2)]

theorem sb_product_eq {m : Mat ℝ} (hKp : 1 < m.Kp) {s L : ℝ} (hL : 0 < L) (hs : s ∈ Ioo (L / m.Kp) L) :
    middleTerm m s L * neuberStrain m s L = m.Kp * eStar m L * sbH m.Kp (s / L) := by
  have hs0 : 0 < s := lt_trans (div_pos hL (by linarith)) hs.1
  rw [middleTerm_eq_on hKp hL hs, neuberStrain_of_ne m hs0.ne', sbH]
  field_simp

theorem sbG_eq {m : Mat ℝ} (hKp : 1 < m.Kp) {s L : ℝ} (hL : 0 < L) (hs : s ∈ Ioo (L / m.Kp) L) :
    sbG m s L = roStrain m s - m.Kp * eStar m L * sbH m.Kp (s / L) := by
  unfold sbG; rw [sb_product_eq hKp hL hs]

/-- `G` grows with the stress and falls with the load on the open region `L/K_p < σ < L`: `ε` and `e*` grow, and `H` falls in
`σ/L`, which grows on the way from `(σ₁, L₁)` to `(σ₂, L₂)` -/
theorem sbG_lt {m : Mat ℝ} (h : m.Adm) (hKp : 1 < m.Kp) {s₁ s₂ L₁ L₂ : ℝ} (hL₂ : 0 < L₂)
    (h₁ : s₁ ∈ Ioo (L₁ / m.Kp) L₁) (h₂ : s₂ ∈ Ioo (L₂ / m.Kp) L₂) (hs : s₁ ≤ s₂) (hL : L₂ ≤ L₁)
    (hne : s₁ < s₂ ∨ L₂ < L₁) : sbG m s₁ L₁ < sbG m s₂ L₂ := by
  have hL₁ : 0 < L₁ := hL₂.trans_le hL
  have hs₁ : 0 < s₁ := (div_pos hL₁ h.Kp_pos).trans h₁.1
  have hf₂ := (stress_ratio_mem_iff hL₂).mp h₂
  have hH : sbH m.Kp (s₂ / L₂) ≤ sbH m.Kp (s₁ / L₁) :=
    (sbH_strictAntiOn hKp).antitoneOn ((stress_ratio_mem_iff hL₁).mp h₁) hf₂
      ((div_le_div_of_nonneg_left hs₁.le hL₂ hL).trans (div_le_div_of_nonneg_right hs hL₂.le))
  have hH₂ := sbH_pos hKp hf₂
  have hc₁ := mul_pos h.Kp_pos (eStar_pos h hL₁)
  rw [sbG_eq hKp hL₁ h₁, sbG_eq hKp hL₂ h₂]
  rcases hne with hlt | hlt
  · exact (sub_lt_sub_right (roStrain_strictMono h hlt) _).trans_le (sub_le_sub_left (mul_le_mul
      (mul_le_mul_of_nonneg_left ((eStar_strictMono h).monotone hL) h.Kp_pos.le) hH hH₂.le hc₁.le) _)
  · exact (sub_le_sub_right ((roStrain_strictMono h).monotone hs) _).trans_lt (sub_lt_sub_left (mul_lt_mul
      (mul_lt_mul_of_pos_left (eStar_strictMono h hlt) h.Kp_pos) hH hH₂ hc₁.le) _)

section stress
variable {m : Mat ℝ} (h : m.Adm) (hKp : 1 < m.Kp) {L : ℝ} (hL : 0 < L)
include h hKp hL

omit h hKp in
theorem stress_ratio_tendsto_inv_Kp : Tendsto (fun s => s / L) (𝓝[>] (L / m.Kp)) (𝓝[>] (1 / m.Kp)) := by
  rw [← div_self hL.ne', div_right_comm]
  exact tendsto_nhdsWithin_of_tendsto_nhds_of_eventually_within _ (continuous_id.div_const L).continuousWithinAt
    (eventually_mem_nhdsWithin.mono fun s hs => div_lt_div_of_pos_right hs hL)

omit h hKp in
theorem stress_ratio_tendsto_one : Tendsto (fun s => s / L) (𝓝[<] L) (𝓝[<] 1) := by
  rw [← div_self hL.ne']
  exact tendsto_nhdsWithin_of_tendsto_nhds_of_eventually_within _ (continuous_id.div_const L).continuousWithinAt
    (eventually_mem_nhdsWithin.mono fun s hs => div_lt_div_of_pos_right hs hL)

theorem sbG_continuousOn_stress : ContinuousOn (fun s => sbG m s L) (Ioo (L / m.Kp) L) := by
  have hH : ContinuousOn (fun s => sbH m.Kp (s / L)) (Ioo (L / m.Kp) L) :=
    (sbH_continuousOn hKp).comp (continuous_id.div_const L).continuousOn
      (fun _ => (stress_ratio_mem_iff hL).mp)
  exact ((roStrain_continuous h).continuousOn.sub (continuousOn_const.mul hH)).congr
    (fun _ => sbG_eq hKp hL)

theorem sbG_strictMonoOn_stress : StrictMonoOn (fun s => sbG m s L) (Ioo (L / m.Kp) L) := fun _ ha _ hb hab =>
  sbG_lt h hKp hL ha hb hab.le le_rfl (Or.inl hab)

theorem sbG_tendsto_atBot_stress : Tendsto (fun s => sbG m s L) (𝓝[>] (L / m.Kp)) atBot := by
  refine (sub_mul_sbH_tendsto_atBot hKp (roStrain_continuous h).continuousWithinAt.tendsto tendsto_const_nhds
    (mul_pos h.Kp_pos (eStar_pos h hL)) (stress_ratio_tendsto_inv_Kp hL)).congr' ?_
  filter_upwards [Ioo_mem_nhdsGT (div_lt_self hL hKp)] with s hs
  rw [sbG_eq hKp hL hs]

theorem sbG_tendsto_stress :
    Tendsto (fun s => sbG m s L) (𝓝[<] L) (𝓝 (roStrain m L - m.Kp * eStar m L)) := by
  refine (sub_mul_sbH_tendsto hKp (roStrain_continuous h).continuousWithinAt.tendsto tendsto_const_nhds
    (stress_ratio_tendsto_one hL)).congr' ?_
  filter_upwards [Ioo_mem_nhdsLT (div_lt_self hL hKp)] with s hs
  rw [sbG_eq hKp hL hs]

theorem sbG_exists_root_stress :
    (∃ s₁ ∈ Ioo (L / m.Kp) L, ∃ s₂ ∈ Ioo (L / m.Kp) L, sbG m s₁ L < 0 ∧ 0 < sbG m s₂ L) ∧
      ∃ s ∈ Ioo (L / m.Kp) L, sbG m s L = 0 :=
  have hab := div_lt_self hL hKp
  exists_root_Ioo (sbG_continuousOn_stress h hKp hL) (Ioo_mem_nhdsGT hab) (Ioo_mem_nhdsLT hab)
    ((sbG_tendsto_atBot_stress h hKp hL).eventually (eventually_lt_atBot 0))
    ((sbG_tendsto_stress h hKp hL).eventually_const_lt (sub_pos.mpr (kp_mul_eStar_lt h hKp hL)))

end stress

section load
variable {m : Mat ℝ} (h : m.Adm) (hKp : 1 < m.Kp) {s : ℝ} (hs : 0 < s)
include h hKp hs

omit h hs in
theorem load_mem_iff {L : ℝ} : L ∈ Ioo s (m.Kp * s) ↔ s ∈ Ioo (L / m.Kp) L := by
  rw [mem_Ioo, mem_Ioo, div_lt_iff₀ (by linarith : 0 < m.Kp), mul_comm s m.Kp]
  exact and_comm

omit h in
theorem sbG_eq_load {L : ℝ} (hL : L ∈ Ioo s (m.Kp * s)) :
    sbG m s L = roStrain m s - m.Kp * eStar m L * sbH m.Kp (s / L) :=
  sbG_eq hKp (hs.trans hL.1) ((load_mem_iff hKp).mp hL)

omit h hKp in
theorem load_ratio_tendsto_one : Tendsto (fun L => s / L) (𝓝[>] s) (𝓝[<] 1) := by
  rw [← div_self hs.ne']
  exact tendsto_nhdsWithin_of_tendsto_nhds_of_eventually_within _
    (continuousAt_const.div continuousAt_id hs.ne').continuousWithinAt
    (eventually_mem_nhdsWithin.mono fun L hL => div_lt_div_of_pos_left hs hs hL)

omit h in
theorem load_ratio_tendsto_inv_Kp : Tendsto (fun L => s / L) (𝓝[<] (m.Kp * s)) (𝓝[>] (1 / m.Kp)) := by
  have hK0 : 0 < m.Kp := by linarith
  rw [← div_self hs.ne', div_div, mul_comm s]
  exact tendsto_nhdsWithin_of_tendsto_nhds_of_eventually_within _
    (continuousAt_const.div continuousAt_id (mul_pos hK0 hs).ne').continuousWithinAt
    (Filter.mem_of_superset (Ioo_mem_nhdsLT (lt_mul_of_one_lt_left hs hKp)) fun L hL =>
      div_lt_div_of_pos_left hs (hs.trans hL.1) hL.2)

theorem sbG_continuousOn_load : ContinuousOn (fun L => sbG m s L) (Ioo s (m.Kp * s)) := by
  have hdiv : ContinuousOn (fun L : ℝ => s / L) (Ioo s (m.Kp * s)) :=
    continuousOn_const.div continuousOn_id (fun L hL => (hs.trans hL.1).ne')
  have hH : ContinuousOn (fun L => sbH m.Kp (s / L)) (Ioo s (m.Kp * s)) :=
    (sbH_continuousOn hKp).comp hdiv (fun L hL => (stress_ratio_mem_iff (hs.trans hL.1)).mp ((load_mem_iff hKp).mp hL))
  exact (continuousOn_const.sub ((continuousOn_const.mul (eStar_continuous h).continuousOn).mul hH)).congr
    (fun L hL => sbG_eq_load hKp hs hL)

theorem sbG_strictAntiOn_load : StrictAntiOn (fun L => sbG m s L) (Ioo s (m.Kp * s)) := fun _ ha _ hb hab =>
  sbG_lt h hKp (hs.trans ha.1) ((load_mem_iff hKp).mp hb) ((load_mem_iff hKp).mp ha) le_rfl hab.le (Or.inr hab)

theorem sbG_tendsto_load :
    Tendsto (fun L => sbG m s L) (𝓝[>] s) (𝓝 (roStrain m s - m.Kp * eStar m s)) := by
  refine (sub_mul_sbH_tendsto hKp tendsto_const_nhds ((eStar_continuous h).continuousWithinAt.tendsto.const_mul m.Kp)
    (load_ratio_tendsto_one hs)).congr' ?_
  filter_upwards [Ioo_mem_nhdsGT (lt_mul_of_one_lt_left hs hKp)] with L hL
  rw [sbG_eq_load hKp hs hL]

theorem sbG_tendsto_atBot_load : Tendsto (fun L => sbG m s L) (𝓝[<] (m.Kp * s)) atBot := by
  refine (sub_mul_sbH_tendsto_atBot hKp (tendsto_const_nhds (x := roStrain m s)) ((eStar_continuous h).continuousWithinAt.tendsto.const_mul m.Kp)
    (mul_pos h.Kp_pos (eStar_pos h (mul_pos h.Kp_pos hs))) (load_ratio_tendsto_inv_Kp hKp hs)).congr' ?_
  filter_upwards [Ioo_mem_nhdsLT (lt_mul_of_one_lt_left hs hKp)] with L hL
  rw [sbG_eq_load hKp hs hL]

theorem sbG_exists_root_load : ∃ L ∈ Ioo s (m.Kp * s), sbG m s L = 0 :=
  have hab := lt_mul_of_one_lt_left hs hKp
  (exists_root_Ioo (sbG_continuousOn_load h hKp hs) (Ioo_mem_nhdsLT hab) (Ioo_mem_nhdsGT hab)
    ((sbG_tendsto_atBot_load h hKp hs).eventually (eventually_lt_atBot 0))
    ((sbG_tendsto_load h hKp hs).eventually_const_lt (sub_pos.mpr (kp_mul_eStar_lt h hKp hs)))).2

end load

end PylifeVerif.Notch
