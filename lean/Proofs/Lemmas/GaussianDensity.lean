/-
Property C15: density and distribution function of Mathlib's standard Gaussian measure.
`∫ₗᵘ normPdf 1 = Φ(u) − Φ(l)`; `Φ' = normPdf 1`, hence `Φ` is continuous.
-/
import Proofs.Lemmas.GaussianOverlap
import Mathlib.MeasureTheory.Integral.IntervalIntegral.FundThmCalculus
namespace PylifeVerif.GaussianOverlap
open MeasureTheory ProbabilityTheory

theorem continuous_normPdf (σ : ℝ) : Continuous (normPdf σ) := by
  unfold normPdf; fun_prop

theorem normPdf_nonneg {σ : ℝ} (hσ : 0 ≤ σ) (x : ℝ) : 0 ≤ normPdf σ x := by
  unfold normPdf; positivity

theorem integral_normPdf_one (l u : ℝ) : ∫ t in l..u, normPdf 1 t = stdNormalCdf u - stdNormalCdf l := by
  -- for `l ≤ u` the integral of the density is the probability of `(l, u]`
  have hle : ∀ {l u : ℝ}, l ≤ u → ∫ t in l..u, normPdf 1 t = stdNormalCdf u - stdNormalCdf l := by
    intro l u h
    have e := intervalIntegral_normPdf_mul one_pos 0 (fun _ => (1 : ℝ)) h
    simp only [sub_zero, mul_one] at e
    rw [e, setIntegral_const, smul_eq_mul, mul_one, ← stdNormalCdf_add_Ioc h, add_sub_cancel_left]
    exact congrArg (fun v => (gaussianReal 0 v).real _) (NNReal.eq (one_pow 2))
  rcases le_total l u with h | h
  · exact hle h
  · rw [intervalIntegral.integral_symm, hle h, neg_sub]

theorem hasDerivAt_stdNormalCdf (x : ℝ) : HasDerivAt stdNormalCdf (normPdf 1 x) x := by
  have heq : stdNormalCdf = fun u => stdNormalCdf 0 + ∫ t in (0:ℝ)..u, normPdf 1 t := by
    funext u; rw [integral_normPdf_one]; ring
  rw [heq]
  have hc := continuous_normPdf 1
  exact (intervalIntegral.integral_hasDerivAt_right (hc.intervalIntegrable _ _)
    (hc.stronglyMeasurableAtFilter _ _) hc.continuousAt).const_add _

theorem stdNormalCdf_continuous : Continuous stdNormalCdf :=
  continuous_iff_continuousAt.2 fun x => (hasDerivAt_stdNormalCdf x).continuousAt

end PylifeVerif.GaussianOverlap
