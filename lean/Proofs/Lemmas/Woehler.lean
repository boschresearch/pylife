/-
`Model/Woehler.lean` over ℝ.  One curve is two `PowerLaw` lines through the knee `(SD, ND)`: `k_1` from the knee
upwards, `k_2` (or no line at all) below it.  `transform` moves the knee by `TS ^ s` in the load and the `k_1` line by
`TN ^ s` in the life (`s = shift`); what the theorems need of it is read in logarithms, where it is linear in `s`.
-/
import Model.Woehler
import Proofs.RealNum
import Mathlib.Tactic.Ring
import Mathlib.Tactic.FieldSimp
import Mathlib.Tactic.NormNum
import Mathlib.Analysis.SpecialFunctions.Log.Basic
import Proofs.Lemmas.PowerLaw

namespace PylifeVerif.Woehler
open Real

attribute [local simp] lit_one lit_two lit_zero lit_ten

/-- Order on possibly infinite lives: `finite a ≤ finite b ↔ a ≤ b`, everything `≤ inf`. -/
def Life.le : Life ℝ → Life ℝ → Prop
  | _, Life.inf => True
  | Life.finite a, Life.finite b => a ≤ b
  | Life.inf, Life.finite _ => False

theorem Life.le_inf (a : Life ℝ) : Life.le a Life.inf := by cases a <;> trivial

/-- The curves the property quantifies over: `k_1 > 1`, `k_2 ≥ k_1` or `inf`, `SD, ND > 0`,
`TN, TS ≥ 1`. -/
structure Valid (w : Curve ℝ) : Prop where
  k1 : 1 < w.k1
  k2 : ∀ k, w.k2 = Life.finite k → w.k1 ≤ k
  SD : 0 < w.SD
  ND : 0 < w.ND
  TN : 1 ≤ w.TN
  TS : 1 ≤ w.TS

theorem Curve.ext' {a b : Curve ℝ} (h1 : a.k1 = b.k1) (h2 : a.k2 = b.k2) (h3 : a.SD = b.SD)
    (h4 : a.ND = b.ND) (h5 : a.TN = b.TN) (h6 : a.TS = b.TS) (h7 : a.pf = b.pf) : a = b := by
  cases a; cases b; simp_all

theorem cyclesAt_above {w : Curve ℝ} {L : ℝ} (h : w.SD ≤ L) :
    cyclesAt w L = Life.finite (w.ND * (L / w.SD) ^ (-w.k1)) := by
  simp [cyclesAt, makeK, not_lt.mpr h]

theorem cyclesAt_below {w : Curve ℝ} {L k : ℝ} (h : L < w.SD) (hk : w.k2 = Life.finite k) :
    cyclesAt w L = Life.finite (w.ND * (L / w.SD) ^ (-k)) := by
  simp [cyclesAt, makeK, h, hk]

theorem cyclesAt_below_inf {w : Curve ℝ} {L : ℝ} (h : L < w.SD) (hk : w.k2 = Life.inf) :
    cyclesAt w L = Life.inf := by
  simp [cyclesAt, makeK, h, hk]

/-- `cycles` reads the transformed curve, whose slopes are the native ones -/
theorem cycles_above {ppf : ℝ → ℝ} {w : Curve ℝ} {p L : ℝ} (h : (transform ppf w p).SD ≤ L) :
    cycles ppf w p L = Life.finite ((transform ppf w p).ND * (L / (transform ppf w p).SD) ^ (-w.k1)) :=
  cyclesAt_above h

theorem cycles_below {ppf : ℝ → ℝ} {w : Curve ℝ} {p L k : ℝ} (h : L < (transform ppf w p).SD)
    (hk : w.k2 = Life.finite k) :
    cycles ppf w p L = Life.finite ((transform ppf w p).ND * (L / (transform ppf w p).SD) ^ (-k)) :=
  cyclesAt_below h hk

/-- the slope that `_make_k` selects for a load -/
noncomputable def slopeAt (w : Curve ℝ) (L : ℝ) : Life ℝ := if L < w.SD then w.k2 else Life.finite w.k1

theorem cyclesAt_eq (w : Curve ℝ) (L : ℝ) :
    cyclesAt w L = match slopeAt w L with
      | Life.inf => Life.inf
      | Life.finite k => Life.finite (w.ND * (L / w.SD) ^ (-k)) := by
  unfold cyclesAt makeK slopeAt
  split <;> simp_all

theorem cyclesAt_finite_iff {w : Curve ℝ} {L N : ℝ} :
    cyclesAt w L = Life.finite N ↔
      ∃ k, slopeAt w L = Life.finite k ∧ N = w.ND * (L / w.SD) ^ (-k) := by
  rw [cyclesAt_eq]
  cases h : slopeAt w L with
  | inf => simp
  | finite k => simp [eq_comm]

theorem neg_one_div (k : ℝ) : -1 / k = (-k)⁻¹ := by rw [neg_div, one_div, inv_neg]

theorem loadAt_above {w : Curve ℝ} {N : ℝ} (h : N ≤ w.ND) :
    loadAt w N = w.SD * (N / w.ND) ^ (-w.k1)⁻¹ := by
  simp [loadAt, makeK, not_lt.mpr h, neg_one_div]

theorem loadAt_below {w : Curve ℝ} {N k : ℝ} (h : w.ND < N) (hk : w.k2 = Life.finite k) :
    loadAt w N = w.SD * (N / w.ND) ^ (-k)⁻¹ := by
  simp [loadAt, makeK, h, hk, neg_one_div]

theorem loadAt_below_inf {w : Curve ℝ} {N : ℝ} (h : w.ND < N) (hk : w.k2 = Life.inf) :
    loadAt w N = w.SD := by
  simp [loadAt, makeK, h, hk]

theorem stdToRange_rangeToStd (c c₂ : ℝ) {T : ℝ} (hT : 0 < T) :
    stdToScatteringRangeWith c₂ (scatteringRangeToStdWith c T) = T ^ (c * c₂) := by
  simp only [stdToScatteringRangeWith, scatteringRangeToStdWith, transc_pow, transc_log10, lit_ten]
  rw [← mul_assoc, mul_comm c₂ c, ten_rpow_mul_log10 hT]

theorem rangeToStd_stdToRange (c c₂ s : ℝ) :
    scatteringRangeToStdWith c (stdToScatteringRangeWith c₂ s) = c * c₂ * s := by
  have hl := log_ten_ne_zero
  simp only [stdToScatteringRangeWith, scatteringRangeToStdWith, transc_pow, transc_log10, lit_ten]
  rw [Real.log_rpow (by norm_num : (0 : ℝ) < 10)]
  field_simp

theorem log_basquin {ND SD L : ℝ} (k : ℝ) (hND : 0 < ND) (hSD : 0 < SD) (hL : 0 < L) :
    Real.log (ND * (L / SD) ^ (-k)) = Real.log ND - k * (Real.log L - Real.log SD) := by
  have hx : 0 < L / SD := div_pos hL hSD
  rw [Real.log_mul hND.ne' (Real.rpow_pos_of_pos hx _).ne', Real.log_rpow hx,
    Real.log_div hL.ne' hSD.ne']
  ring

theorem exp_log_ratio {a b t e : ℝ} (ha : 0 < a) (hb : 0 < b) (ht : 0 < t)
    (h : Real.log a - Real.log b = e * Real.log t) : a / b = t ^ e := by
  rw [Real.rpow_def_of_pos ht, mul_comm, ← h, ← Real.log_div ha.ne' hb.ne',
    Real.exp_log (div_pos ha hb)]

/-- the exponent `s` of `transform`: `SD_p = SD · TS^s`, `ND_p = ND · TN^s · (TS^s)^(-k_1)` -/
noncomputable def shift (ppf : ℝ → ℝ) (w : Curve ℝ) (p : ℝ) : ℝ := (ppf p - ppf w.pf) * cRange

theorem cRange_pos : (0 : ℝ) < cRange := by unfold cRange; norm_num

@[simp] theorem transform_k1 (ppf : ℝ → ℝ) (w : Curve ℝ) (p : ℝ) : (transform ppf w p).k1 = w.k1 := rfl
@[simp] theorem transform_k2 (ppf : ℝ → ℝ) (w : Curve ℝ) (p : ℝ) : (transform ppf w p).k2 = w.k2 := rfl
@[simp] theorem transform_TN (ppf : ℝ → ℝ) (w : Curve ℝ) (p : ℝ) : (transform ppf w p).TN = w.TN := rfl
@[simp] theorem transform_TS (ppf : ℝ → ℝ) (w : Curve ℝ) (p : ℝ) : (transform ppf w p).TS = w.TS := rfl
@[simp] theorem transform_pf (ppf : ℝ → ℝ) (w : Curve ℝ) (p : ℝ) : (transform ppf w p).pf = p := rfl

theorem scatter_pow {T : ℝ} (hT : 0 < T) (z0 z : ℝ) :
    (10.0 : ℝ) ^ ((z0 - z) * scatteringRangeToStd T) = T ^ ((z0 - z) * cRange) := by
  rw [mul_comm _ cRange]
  exact stdToRange_rangeToStd cRange (z0 - z) hT

theorem div_rpow_shift {T : ℝ} (hT : 0 < T) (x z0 z : ℝ) :
    x / T ^ ((z0 - z) * cRange) = x * T ^ ((z - z0) * cRange) := by
  have : (z - z0) * cRange = -((z0 - z) * cRange) := by ring
  rw [this, Real.rpow_neg hT.le, div_eq_mul_inv]

theorem transform_SD (ppf : ℝ → ℝ) (w : Curve ℝ) (p : ℝ) (hTS : 0 < w.TS) :
    (transform ppf w p).SD = w.SD * w.TS ^ shift ppf w p := by
  show w.SD / (10.0 : ℝ) ^ ((ppf w.pf - ppf p) * scatteringRangeToStd w.TS) = _
  rw [scatter_pow hTS, div_rpow_shift hTS]; rfl

theorem transform_SD_pos (ppf : ℝ → ℝ) (w : Curve ℝ) (p : ℝ) (hTS : 0 < w.TS) (hSD : 0 < w.SD) :
    0 < (transform ppf w p).SD := by
  rw [transform_SD ppf w p hTS]; exact mul_pos hSD (Real.rpow_pos_of_pos hTS _)

theorem transform_ND (ppf : ℝ → ℝ) (w : Curve ℝ) (p : ℝ) (hTS : 0 < w.TS) (hTN : 0 < w.TN)
    (hSD : 0 < w.SD) :
    (transform ppf w p).ND = w.ND * w.TN ^ shift ppf w p * (w.TS ^ shift ppf w p) ^ (-w.k1) := by
  have hpos := transform_SD_pos ppf w p hTS hSD
  have hsd := transform_SD ppf w p hTS
  have hND : (transform ppf w p).ND =
      w.ND / (10.0 : ℝ) ^ ((ppf w.pf - ppf p) * scatteringRangeToStd w.TN)
        * ((transform ppf w p).SD / w.SD) ^ (-w.k1) := by
    show (if (transform ppf w p).SD < (0.0 : ℝ) ∨ (0.0 : ℝ) < (transform ppf w p).SD then _ else _) = _
    rw [if_pos (Or.inr (by simpa using hpos))]; rfl
  rw [hND, scatter_pow hTN, div_rpow_shift hTN, hsd]
  have : w.SD * w.TS ^ shift ppf w p / w.SD = w.TS ^ shift ppf w p := by
    field_simp
  rw [this]; rfl

theorem transform_ND_pos (ppf : ℝ → ℝ) (w : Curve ℝ) (p : ℝ) (hTS : 0 < w.TS) (hTN : 0 < w.TN)
    (hSD : 0 < w.SD) (hND : 0 < w.ND) : 0 < (transform ppf w p).ND := by
  rw [transform_ND ppf w p hTS hTN hSD]
  exact mul_pos (mul_pos hND (Real.rpow_pos_of_pos hTN _))
    (Real.rpow_pos_of_pos (Real.rpow_pos_of_pos hTS _) _)

theorem Valid.TS_pos {w : Curve ℝ} (h : Valid w) : 0 < w.TS := lt_of_lt_of_le one_pos h.TS
theorem Valid.TN_pos {w : Curve ℝ} (h : Valid w) : 0 < w.TN := lt_of_lt_of_le one_pos h.TN
theorem Valid.k1_pos {w : Curve ℝ} (h : Valid w) : 0 < w.k1 := lt_trans one_pos h.k1

theorem Valid.with_k2 {w : Curve ℝ} (h : Valid w) {k2 : Life ℝ} (hk : ∀ k, k2 = Life.finite k → w.k1 ≤ k) :
    Valid { w with k2 := k2 } :=
  ⟨h.k1, hk, h.SD, h.ND, h.TN, h.TS⟩

theorem Valid.transform {w : Curve ℝ} (h : Valid w) (ppf : ℝ → ℝ) (p : ℝ) :
    Valid (Woehler.transform ppf w p) where
  k1 := h.k1
  k2 := h.k2
  SD := transform_SD_pos ppf w p h.TS_pos h.SD
  ND := transform_ND_pos ppf w p h.TS_pos h.TN_pos h.SD h.ND
  TN := h.TN
  TS := h.TS

theorem log_transform_SD (ppf : ℝ → ℝ) {w : Curve ℝ} (h : Valid w) (p : ℝ) :
    Real.log (transform ppf w p).SD = Real.log w.SD + shift ppf w p * Real.log w.TS := by
  rw [transform_SD ppf w p h.TS_pos, Real.log_mul h.SD.ne' (Real.rpow_pos_of_pos h.TS_pos _).ne',
    Real.log_rpow h.TS_pos]

theorem log_transform_ND (ppf : ℝ → ℝ) {w : Curve ℝ} (h : Valid w) (p : ℝ) :
    Real.log (transform ppf w p).ND =
      Real.log w.ND + shift ppf w p * Real.log w.TN - w.k1 * (shift ppf w p * Real.log w.TS) := by
  have hTSp := Real.rpow_pos_of_pos h.TS_pos (shift ppf w p)
  rw [transform_ND ppf w p h.TS_pos h.TN_pos h.SD,
    Real.log_mul (mul_pos h.ND (Real.rpow_pos_of_pos h.TN_pos _)).ne' (Real.rpow_pos_of_pos hTSp _).ne',
    Real.log_mul h.ND.ne' (Real.rpow_pos_of_pos h.TN_pos _).ne', Real.log_rpow h.TN_pos,
    Real.log_rpow hTSp, Real.log_rpow h.TS_pos]
  ring

theorem log_basquin_transform (ppf : ℝ → ℝ) {w : Curve ℝ} (h : Valid w) (p k : ℝ) {L : ℝ} (hL : 0 < L) :
    Real.log ((transform ppf w p).ND * (L / (transform ppf w p).SD) ^ (-k)) =
      Real.log w.ND + shift ppf w p * Real.log w.TN - w.k1 * (shift ppf w p * Real.log w.TS)
        - k * (Real.log L - (Real.log w.SD + shift ppf w p * Real.log w.TS)) := by
  rw [log_basquin k (h.transform ppf p).ND (h.transform ppf p).SD hL, log_transform_SD ppf h, log_transform_ND ppf h]

theorem Valid.k2_pos {w : Curve ℝ} (h : Valid w) {k : ℝ} (hk : w.k2 = Life.finite k) : 0 < k :=
  lt_of_lt_of_le h.k1_pos (h.k2 k hk)

theorem above_le_ND {w : Curve ℝ} (h : Valid w) {L : ℝ} (hL : w.SD ≤ L) :
    w.ND * (L / w.SD) ^ (-w.k1) ≤ w.ND :=
  PowerLaw.le_knee h.ND.le h.SD (neg_nonpos.2 h.k1_pos.le) hL

theorem below_gt_ND {w : Curve ℝ} (h : Valid w) {L k : ℝ} (hL0 : 0 < L) (hL : L < w.SD) (hk : 0 < k) :
    w.ND < w.ND * (L / w.SD) ^ (-k) :=
  PowerLaw.gt_knee h.ND h.SD (neg_neg_of_pos hk) hL0 hL

theorem loadAt_cyclesAt {w : Curve ℝ} (h : Valid w) {L N : ℝ} (hL : 0 < L)
    (hc : cyclesAt w L = Life.finite N) : loadAt w N = L := by
  obtain ⟨k, hk, rfl⟩ := cyclesAt_finite_iff.mp hc
  unfold slopeAt at hk
  split_ifs at hk with hlt
  · have hkpos := h.k2_pos hk
    rw [loadAt_below (below_gt_ND h hL hlt hkpos) hk]
    exact PowerLaw.inverse h.ND.ne' h.SD (neg_ne_zero.2 hkpos.ne') hL
  · cases hk
    rw [loadAt_above (above_le_ND h (not_lt.mp hlt))]
    exact PowerLaw.inverse h.ND.ne' h.SD (neg_ne_zero.2 h.k1_pos.ne') hL

theorem cyclesAt_loadAt {w : Curve ℝ} (h : Valid w) {N : ℝ} (hN : 0 < N)
    (hfin : N ≤ w.ND ∨ ∃ k, w.k2 = Life.finite k) : cyclesAt w (loadAt w N) = Life.finite N := by
  rcases le_or_gt N w.ND with hle | hgt
  · have hge := PowerLaw.ge_knee h.SD.le h.ND (inv_nonpos.2 (neg_nonpos.2 h.k1_pos.le)) hN hle
    rw [loadAt_above hle, cyclesAt_above hge, PowerLaw.inverse' h.SD.ne' h.ND (neg_ne_zero.2 h.k1_pos.ne') hN]
  · rcases hfin with hle | ⟨k, hk⟩
    · exact absurd hle (not_le.mpr hgt)
    · have hkpos := h.k2_pos hk
      have hlt := PowerLaw.lt_knee h.SD h.ND (inv_lt_zero.2 (neg_neg_of_pos hkpos)) hgt
      rw [loadAt_below hgt hk, cyclesAt_below hlt hk, PowerLaw.inverse' h.SD.ne' h.ND (neg_ne_zero.2 hkpos.ne') hN]

theorem cyclesAt_knee {w : Curve ℝ} (h : Valid w) : cyclesAt w w.SD = Life.finite w.ND := by
  rw [cyclesAt_above le_rfl, PowerLaw.at_knee _ h.SD.ne']

theorem loadAt_knee {w : Curve ℝ} (h : Valid w) : loadAt w w.ND = w.SD := by
  rw [loadAt_above le_rfl, PowerLaw.at_knee _ h.ND.ne']

theorem knee_iff {w : Curve ℝ} (h : Valid w) {L N : ℝ} (hL : 0 < L)
    (hc : cyclesAt w L = Life.finite N) : w.SD ≤ L ↔ N ≤ w.ND := by
  obtain ⟨k, hk, rfl⟩ := cyclesAt_finite_iff.mp hc
  unfold slopeAt at hk
  split_ifs at hk with hlt
  · exact iff_of_false (not_le.mpr hlt) (not_le.mpr (below_gt_ND h hL hlt (h.k2_pos hk)))
  · cases hk
    exact iff_of_true (not_lt.mp hlt) (above_le_ND h (not_lt.mp hlt))

/-- Comparison of two lives.  Two curves with the same slopes; the second is read at a load that is no higher relative to
its knee, and its `k_1` line lies no lower there.  Then its life is no shorter: on every steeper line through the knees the
gap between the two `k_1` lines only widens, by `(x₁/x₂)^(k - k_1)`. -/
theorem cyclesAt_le_cyclesAt {w₁ w₂ : Curve ℝ} (h₁ : Valid w₁) (h₂ : Valid w₂) (hk1 : w₁.k1 = w₂.k1)
    (hk2 : w₁.k2 = w₂.k2) {L₁ L₂ : ℝ} (hL₂ : 0 < L₂) (hx : L₂ / w₂.SD ≤ L₁ / w₁.SD)
    (hline : w₁.ND * (L₁ / w₁.SD) ^ (-w₁.k1) ≤ w₂.ND * (L₂ / w₂.SD) ^ (-w₁.k1)) :
    Life.le (cyclesAt w₁ L₁) (cyclesAt w₂ L₂) := by
  have hx₂ : 0 < L₂ / w₂.SD := div_pos hL₂ h₂.SD
  have hx₁ : 0 < L₁ / w₁.SD := lt_of_lt_of_le hx₂ hx
  have hk : ∀ k, w₁.k1 ≤ k → w₁.ND * (L₁ / w₁.SD) ^ (-k) ≤ w₂.ND * (L₂ / w₂.SD) ^ (-k) := fun k hk => by
    have e : ∀ x : ℝ, 0 < x → x ^ (-k) = x ^ (-w₁.k1) * x ^ (-(k - w₁.k1)) := fun x hx => by
      rw [← Real.rpow_add hx]; congr 1; ring
    rw [e _ hx₁, e _ hx₂, ← mul_assoc, ← mul_assoc]
    exact mul_le_mul hline (Real.rpow_le_rpow_of_nonpos hx₂ hx (neg_nonpos.2 (sub_nonneg.2 hk)))
      (Real.rpow_nonneg hx₁.le _) (mul_nonneg h₂.ND.le (Real.rpow_nonneg hx₂.le _))
  by_cases hA : w₂.SD ≤ L₂
  · have hA₁ : w₁.SD ≤ L₁ := (one_le_div h₁.SD).1 (((one_le_div h₂.SD).2 hA).trans hx)
    rw [cyclesAt_above hA, cyclesAt_above hA₁, ← hk1]
    exact hline
  · have hlt : L₂ < w₂.SD := not_le.mp hA
    cases hk2' : w₂.k2 with
    | inf => rw [cyclesAt_below_inf hlt hk2']; exact Life.le_inf _
    | finite k =>
      have hkk : w₁.k1 ≤ k := h₁.k2 k (hk2.trans hk2')
      rw [cyclesAt_below hlt hk2']
      by_cases hB : w₁.SD ≤ L₁
      · -- curve 1 still on its `k_1` line, curve 2 already on the steeper one, which lies above its `k_1` line below the knee
        rw [cyclesAt_above hB]
        exact hline.trans (mul_le_mul_of_nonneg_left (Real.rpow_le_rpow_of_exponent_ge hx₂
          ((div_le_one h₂.SD).2 hlt.le) (neg_le_neg hkk)) h₂.ND.le)
      · rw [cyclesAt_below (not_le.mp hB) (hk2.trans hk2')]
        exact hk k hkk

theorem cyclesAt_antitone {w : Curve ℝ} (h : Valid w) {L₁ L₂ : ℝ} (h1 : 0 < L₁) (h12 : L₁ ≤ L₂) :
    Life.le (cyclesAt w L₂) (cyclesAt w L₁) :=
  cyclesAt_le_cyclesAt h h rfl rfl h1 (div_le_div_of_nonneg_right h12 h.SD.le)
    (PowerLaw.antitone h.ND.le h.SD (neg_nonpos.2 h.k1_pos.le) h1 h12)

/-- What the theorems use of `scipy.stats.norm.ppf` (the standard normal quantile function):
strictly increasing on `(0,1)` and odd about `1/2`. -/
structure IsQuantile (ppf : ℝ → ℝ) : Prop where
  strictMono : StrictMonoOn ppf (Set.Ioo 0 1)
  odd : ∀ p ∈ Set.Ioo (0 : ℝ) 1, ppf (1 - p) = -ppf p

theorem shift_mono {ppf : ℝ → ℝ} (hq : IsQuantile ppf) (w : Curve ℝ) {p₁ p₂ : ℝ}
    (hp1 : p₁ ∈ Set.Ioo (0 : ℝ) 1) (hp2 : p₂ ∈ Set.Ioo (0 : ℝ) 1) (h12 : p₁ ≤ p₂) :
    shift ppf w p₁ ≤ shift ppf w p₂ := by
  have hz : ppf p₁ ≤ ppf p₂ := hq.strictMono.monotoneOn hp1 hp2 h12
  unfold shift
  exact mul_le_mul_of_nonneg_right (sub_le_sub_right hz _) cRange_pos.le

theorem transform_SD_mono (ppf : ℝ → ℝ) {w : Curve ℝ} (h : Valid w) {p₁ p₂ : ℝ}
    (hs : shift ppf w p₁ ≤ shift ppf w p₂) : (transform ppf w p₁).SD ≤ (transform ppf w p₂).SD := by
  rw [transform_SD ppf w _ h.TS_pos, transform_SD ppf w _ h.TS_pos]
  exact mul_le_mul_of_nonneg_left (Real.rpow_le_rpow_of_exponent_le h.TS hs) h.SD.le

theorem log_k1_line_transform (ppf : ℝ → ℝ) {w : Curve ℝ} (h : Valid w) (p : ℝ) {L : ℝ} (hL : 0 < L) :
    Real.log ((transform ppf w p).ND * (L / (transform ppf w p).SD) ^ (-w.k1)) =
      Real.log (w.ND * (L / w.SD) ^ (-w.k1)) + shift ppf w p * Real.log w.TN := by
  rw [log_basquin_transform ppf h _ _ hL, log_basquin _ h.ND h.SD hL]
  ring

theorem cyclesAt_transform_mono (ppf : ℝ → ℝ) {w : Curve ℝ} (h : Valid w) {p₁ p₂ L : ℝ}
    (hs : shift ppf w p₁ ≤ shift ppf w p₂) (hL : 0 < L) :
    Life.le (cyclesAt (transform ppf w p₁) L) (cyclesAt (transform ppf w p₂) L) := by
  have v1 := h.transform ppf p₁
  have v2 := h.transform ppf p₂
  refine cyclesAt_le_cyclesAt v1 v2 rfl rfl hL
    (div_le_div_of_nonneg_left hL.le v1.SD (transform_SD_mono ppf h hs)) ?_
  apply (Real.log_le_log_iff (PowerLaw.pos v1.ND v1.SD hL _) (PowerLaw.pos v2.ND v2.SD hL _)).mp
  dsimp only [transform_k1]
  rw [log_k1_line_transform ppf h _ hL, log_k1_line_transform ppf h _ hL]
  exact add_le_add_right (mul_le_mul_of_nonneg_right hs (Real.log_nonneg h.TN)) _

end PylifeVerif.Woehler
