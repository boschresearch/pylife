/-
C18 (Wöhler analysis): the maximum-likelihood pipelines `maxLikeInf` / `maxLikeFull` of `Model/WoehlerAnalysis.lean`
over ℝ, for an ARBITRARY optimiser `opt`.

The objective handed to the optimiser for the transformed data set (loads scaled, cycles scaled, rows permuted) is THE SAME
FUNCTION as for the original data set (`maxLikeInfObjective_*`, `maxLikeFullObjective_*`, proved by `funext`), hence `opt`
returns the same point whatever `opt` is; the equivariance of the reported curve follows from the post-processing.
"Never worse than the start" holds under the assumed contract `NeverWorseThan` / `NeverWorseThanFrom` of `fmin`
(`Proofs/C18.lean` calls them `NeverWorseThanStart` / `NeverWorseThanItsStart`).

`maxLikeFull` takes a TWO-argument optimiser `opt f x₀` (objective, start vector); the start vector `fullStart wc` (ones, zero
where the elementary start value is zero) is itself invariant, and the optimiser's vector is multiplied by `relScale` of the
elementary start values.  The lemmas of this pipeline are about ANY start curve `wc` beside the curve with `SD` resp. `ND`
scaled; the elementary curve, which changes in just this way, is put in at the last step.

Two statements here are about the zones alone, not the likelihood: `zones_partition_runout_topped` (empty finite zone: every
test lies below the guessed transition) and its witness `runoutTopped_spec`.
-/
import Proofs.Lemmas.WoehlerProbit

namespace PylifeVerif.WoehlerMaxLike
open PylifeVerif.WoehlerAnalysis

theorem maxLikeInf_eq (Q Φ : ℝ → ℝ) (opt : (ℝ × ℝ → Option ℝ) → ℝ × ℝ) (d0 : List (Test ℝ)) :
    maxLikeInf Q Φ opt d0 = WoehlerElementary.kneeCurve Q (irrelevantRunoutsDropped d0)
      ((opt (maxLikeInfObjective Φ (irrelevantRunoutsDropped d0))).1 * transition (irrelevantRunoutsDropped d0))
      ((opt (maxLikeInfObjective Φ (irrelevantRunoutsDropped d0))).2 * 1.2) := rfl

theorem maxLikeInfObjective_scaleLoad (Φ : ℝ → ℝ) {c : ℝ} (hc : 0 < c) (d : List (Test ℝ)) :
    maxLikeInfObjective Φ (scaleLoad c d) = maxLikeInfObjective Φ d := by
  funext p
  unfold maxLikeInfObjective
  rw [WoehlerZones.transition_scaleLoad hc, mul_left_comm p.1 c]
  exact WoehlerZones.likInfinite_scaleLoad Φ hc _ _

theorem maxLikeInfObjective_scaleCycles (Φ : ℝ → ℝ) (c : ℝ) (d : List (Test ℝ)) :
    maxLikeInfObjective Φ (scaleCycles c d) = maxLikeInfObjective Φ d := by
  funext p
  unfold maxLikeInfObjective
  rw [WoehlerZones.transition_scaleCycles, WoehlerZones.likInfinite_scaleCycles]

theorem maxLikeInfObjective_perm (Φ : ℝ → ℝ) {d₁ d₂ : List (Test ℝ)} (h : d₁.Perm d₂) :
    maxLikeInfObjective Φ d₁ = maxLikeInfObjective Φ d₂ := by
  funext p
  unfold maxLikeInfObjective
  rw [WoehlerZones.transition_perm h]
  exact WoehlerZones.likInfinite_perm Φ h _ _

theorem maxLikeInf_load_scale (Q Φ : ℝ → ℝ) (opt : (ℝ × ℝ → Option ℝ) → ℝ × ℝ) {c : ℝ} (hc : 0 < c)
    (d : List (Test ℝ)) (hpos : ∀ t ∈ d, 0 < t.load) :
    (maxLikeInf Q Φ opt (scaleLoad c d)).SD = c * (maxLikeInf Q Φ opt d).SD ∧
    (maxLikeInf Q Φ opt (scaleLoad c d)).TS = (maxLikeInf Q Φ opt d).TS ∧
    (maxLikeInf Q Φ opt (scaleLoad c d)).k1 = (maxLikeInf Q Φ opt d).k1 ∧
    (maxLikeInf Q Φ opt (scaleLoad c d)).TN = (maxLikeInf Q Φ opt d).TN ∧
    ((maxLikeInf Q Φ opt d).SD ≠ 0 → (maxLikeInf Q Φ opt (scaleLoad c d)).ND = (maxLikeInf Q Φ opt d).ND) := by
  rw [maxLikeInf_eq, maxLikeInf_eq, WoehlerZones.irrelevantRunoutsDropped_scaleLoad hc,
    maxLikeInfObjective_scaleLoad Φ hc, WoehlerZones.transition_scaleLoad hc, mul_left_comm _ c,
    WoehlerElementary.kneeCurve_scaleLoad Q hc _ (WoehlerZones.forall_mem_irrelevantRunoutsDropped hpos)]
  exact ⟨rfl, rfl, rfl, rfl, fun h => WoehlerElementary.transitionCycles_scaleLoad hc.ne' h _ _⟩

theorem maxLikeInf_cycle_scale (Q Φ : ℝ → ℝ) (opt : (ℝ × ℝ → Option ℝ) → ℝ × ℝ) {c : ℝ} (hc : 0 < c)
    (d : List (Test ℝ)) (hpos : ∀ t ∈ d, 0 < t.cycles) (hload : ∀ t ∈ d, 0 < t.load)
    (hne : (finiteZone (irrelevantRunoutsDropped d)).filter (·.fracture) ≠ []) :
    (maxLikeInf Q Φ opt (scaleCycles c d)).k1 = (maxLikeInf Q Φ opt d).k1 ∧
    (maxLikeInf Q Φ opt (scaleCycles c d)).ND = c * (maxLikeInf Q Φ opt d).ND ∧
    (maxLikeInf Q Φ opt (scaleCycles c d)).SD = (maxLikeInf Q Φ opt d).SD ∧
    (maxLikeInf Q Φ opt (scaleCycles c d)).TN = (maxLikeInf Q Φ opt d).TN ∧
    (maxLikeInf Q Φ opt (scaleCycles c d)).TS = (maxLikeInf Q Φ opt d).TS := by
  rw [maxLikeInf_eq, maxLikeInf_eq, WoehlerZones.irrelevantRunoutsDropped_scaleCycles,
    maxLikeInfObjective_scaleCycles, WoehlerZones.transition_scaleCycles,
    WoehlerElementary.kneeCurve_scaleCycles Q hc _ (WoehlerZones.forall_mem_irrelevantRunoutsDropped hpos)
      (WoehlerZones.forall_mem_irrelevantRunoutsDropped hload) hne]
  exact ⟨rfl, rfl, rfl, rfl, rfl⟩

theorem maxLikeInf_cycle_scale_SD_TS (Q Φ : ℝ → ℝ) (opt : (ℝ × ℝ → Option ℝ) → ℝ × ℝ) (c : ℝ) (d : List (Test ℝ)) :
    (maxLikeInf Q Φ opt (scaleCycles c d)).SD = (maxLikeInf Q Φ opt d).SD ∧
    (maxLikeInf Q Φ opt (scaleCycles c d)).TS = (maxLikeInf Q Φ opt d).TS := by
  rw [maxLikeInf_eq, maxLikeInf_eq, WoehlerZones.irrelevantRunoutsDropped_scaleCycles,
    maxLikeInfObjective_scaleCycles, WoehlerZones.transition_scaleCycles]
  exact ⟨rfl, rfl⟩

theorem maxLikeInf_k1 (Q Φ : ℝ → ℝ) (opt : (ℝ × ℝ → Option ℝ) → ℝ × ℝ) (d : List (Test ℝ)) :
    (maxLikeInf Q Φ opt d).k1 = (elementary Q d).k1 := rfl

section
variable {c : ℝ} {g : Test ℝ → Test ℝ} (hg : WoehlerZones.LoadScaling c g)
include hg

theorem isMixedLoad_map (hc : 0 < c) (d : List (Test ℝ)) (L : ℝ) :
    isMixedLoad (d.map g) (c * L) = isMixedLoad d L := by
  unfold isMixedLoad
  rw [WoehlerZones.fractures_map hg, WoehlerZones.runouts_map hg]
  simp only [List.any_map, Function.comp_def, hg.load, WoehlerBasics.eqα_scale hc]

theorem fewMixedLevels_map (hc : 0 < c) (d : List (Test ℝ)) : fewMixedLevels (d.map g) = fewMixedLevels d := by
  unfold fewMixedLevels
  simp only [List.all_map, Function.comp_def, hg.load, isMixedLoad_map hg hc, WoehlerBasics.eqα_scale hc]

theorem runouts_isEmpty_map (d : List (Test ℝ)) : (runouts (d.map g)).isEmpty = (runouts d).isEmpty := by
  rw [WoehlerZones.runouts_map hg, List.isEmpty_map]

end

theorem isMixedLoad_perm {d₁ d₂ : List (Test ℝ)} (h : d₁.Perm d₂) (L : ℝ) :
    isMixedLoad d₁ L = isMixedLoad d₂ L := by
  unfold isMixedLoad
  rw [(WoehlerZones.fractures_perm h).any_eq, (WoehlerZones.runouts_perm h).any_eq]

/-- two different mixed load levels: `len(mixed_loads) ≥ 2` -/
theorem fewMixedLevels_eq_false {d : List (Test ℝ)} {t u : Test ℝ} (ht : t ∈ d) (hu : u ∈ d)
    (h1 : isMixedLoad d t.load = true) (h2 : isMixedLoad d u.load = true) (hne : t.load ≠ u.load) :
    fewMixedLevels d = false := by
  rw [Bool.eq_false_iff]
  intro h
  have := List.all_eq_true.1 (List.all_eq_true.1 h t ht) u hu
  rw [h1, h2, Bool.and_self, Bool.not_true, Bool.false_or, WoehlerBasics.eqα_iff] at this
  exact hne this

theorem fewMixedLevels_perm {d₁ d₂ : List (Test ℝ)} (h : d₁.Perm d₂) : fewMixedLevels d₁ = fewMixedLevels d₂ := by
  unfold fewMixedLevels
  simp only [isMixedLoad_perm h]
  rw [h.all_eq]
  congr 1
  funext t
  rw [h.all_eq]

theorem zones_partition_runout_topped (d : List (Test ℝ)) (hr : runouts d ≠ []) (hf : finiteZone d = [])
    (h2 : ∃ t ∈ d, ∃ u ∈ d, t.load ≠ u.load) :
    infiniteZone d = d ∧ ∀ t ∈ d, t.load < transition d := by
  constructor
  · have hp := WoehlerZones.zones_perm d
    rw [hf, List.nil_append] at hp
    rw [WoehlerZones.infiniteZone_eq, if_neg hr] at hp ⊢
    exact List.filter_eq_self.2 fun t ht => (List.mem_filter.1 (hp.mem_iff.2 ht)).2
  · rw [WoehlerZones.transition_eq, if_neg hr, if_pos hf]
    obtain ⟨t, ht, u, hu, htu⟩ := h2
    intro s hs
    exact (WoehlerZones.le_maxL (List.mem_map_of_mem hs)).trans_lt
      (WoehlerZones.maxL_lt_guessL (List.mem_map_of_mem ht) (List.mem_map_of_mem hu) htu)

theorem likTotal_none_of_SD (Φ : ℝ → ℝ) (d : List (Test ℝ)) (cv : Curve ℝ) (h : ¬ 0 < cv.SD) :
    likTotal Φ d cv = none := by
  simp only [likTotal, likFinite, lit_zero, if_neg h]

theorem abs_scale {c : ℝ} (hc : 0 < c) (a b : ℝ) : |a * (c * b)| = c * |a * b| := by
  rw [show a * (c * b) = c * (a * b) by ring, abs_mul, abs_of_pos hc]

theorem relScale_eq (s : ℝ) : relScale s = if s = 0 then 1 else s := by
  unfold relScale
  by_cases h : s = 0
  · rw [if_pos h, if_pos ((WoehlerBasics.eqα_iff _ _).2 (by rw [h, lit_zero])), lit_one]
  · rw [if_neg h, if_neg]
    rw [WoehlerBasics.eqα_iff, lit_zero]; exact h

theorem relScale_of_ne {s : ℝ} (h : s ≠ 0) : relScale s = s := by rw [relScale_eq, if_neg h]

theorem relScale_zero : relScale (0 : ℝ) = 1 := by rw [relScale_eq, if_pos rfl]

theorem relScale_ne_zero (s : ℝ) : relScale s ≠ 0 := by
  rw [relScale_eq]
  split_ifs with h
  · exact one_ne_zero
  · exact h

theorem relScale_scale {c : ℝ} (hc : c ≠ 0) {s : ℝ} (hs : s ≠ 0) : relScale (c * s) = c * relScale s := by
  rw [relScale_of_ne (mul_ne_zero hc hs), relScale_of_ne hs]

/-- a component of the start vector does not see a scaling of the start value (also for a zero start value) -/
theorem div_relScale_scale {c : ℝ} (hc : c ≠ 0) (s : ℝ) : (c * s) / relScale (c * s) = s / relScale s := by
  by_cases hs : s = 0
  · subst hs; simp
  · rw [relScale_scale hc hs, mul_div_mul_left _ _ hc]

theorem div_relScale_of_ne {s : ℝ} (h : s ≠ 0) : s / relScale s = 1 := by rw [relScale_of_ne h, div_self h]

theorem div_mul_relScale (s : ℝ) : s / relScale s * relScale s = s := div_mul_cancel₀ _ (relScale_ne_zero s)

theorem transitionCycles_pos (s i tr : ℝ) : 0 < transitionCycles s i tr := by
  unfold transitionCycles
  simp only [transc_pow]
  exact Real.rpow_pos_of_pos (by norm_num) _

theorem elementaryCore_ND_pos (Q : ℝ → ℝ) (d : List (Test ℝ)) : 0 < (elementaryCore Q d).ND :=
  transitionCycles_pos _ _ _

/-- load scaling of the curve built from the optimiser's vector: `SD` scales, `ND` follows the new start value `N'`
(which need not be that of `wc` when there is no run-out), the rest is unchanged -/
theorem fullParams_scaleLoad {c : ℝ} (hc : 0 < c) (d : List (Test ℝ)) (wc rel : Curve ℝ) (N' : ℝ)
    (hS0 : runouts d ≠ [] → wc.SD ≠ 0) :
    fullParams (scaleLoad c d) { wc with SD := c * wc.SD, ND := N' } rel = { fullParams d wc rel with
      SD := c * (fullParams d wc rel).SD, ND := Transc.abs (rel.ND * relScale N') } := by
  unfold fullParams
  simp only [scaleLoad, runouts_isEmpty_map (.ofLoad c), fewMixedLevels_map (.ofLoad c) hc,
    transc_abs, Curve.mk.injEq, true_and, and_true, List.isEmpty_iff]
  split_ifs with he
  · simp [lit_zero]
  · rw [relScale_scale hc.ne' (hS0 he)]
    exact abs_scale hc _ _

theorem fullParams_scaleCycles {c : ℝ} (hc : 0 < c) (d : List (Test ℝ)) (wc rel : Curve ℝ) (hN0 : wc.ND ≠ 0) :
    fullParams (scaleCycles c d) { wc with ND := c * wc.ND } rel =
      { fullParams d wc rel with ND := c * (fullParams d wc rel).ND } := by
  unfold fullParams
  simp only [scaleCycles, runouts_isEmpty_map (.ofCycles c), fewMixedLevels_map (.ofCycles c) one_pos,
    relScale_scale hc.ne' hN0, transc_abs, Curve.mk.injEq, true_and, and_true]
  exact abs_scale hc _ _

theorem fullParams_perm {d₁ d₂ : List (Test ℝ)} (h : d₁.Perm d₂) (wc rel : Curve ℝ) :
    fullParams d₁ wc rel = fullParams d₂ wc rel := by
  unfold fullParams
  simp only [(WoehlerZones.runouts_perm h).isEmpty_eq, fewMixedLevels_perm h]

theorem maxLikeFullObjective_no_runouts (Φ : ℝ → ℝ) (d : List (Test ℝ)) (wc rel : Curve ℝ) (h : runouts d = []) :
    maxLikeFullObjective Φ d wc rel = none := by
  unfold maxLikeFullObjective
  have hSD : ¬ 0 < (fullParams d wc rel).SD := by
    simp [fullParams, h, lit_zero]
  simp only [likTotal_none_of_SD Φ d _ hSD, ite_self]

theorem elementaryCore_SD_ne_zero (Q : ℝ → ℝ) (d : List (Test ℝ)) (hr : runouts d ≠ []) (hpos : ∀ t ∈ d, 0 < t.load) :
    (elementaryCore Q d).SD ≠ 0 :=
  (WoehlerZones.transition_pos d hr hpos).ne'

/-- the objective for a start curve whose `SD` is scaled with the loads.  Its `ND` may be anything when there is no run-out:
then both objectives are the constant `-inf` -/
theorem maxLikeFullObjective_scaleLoad (Φ : ℝ → ℝ) {c : ℝ} (hc : 0 < c) (d : List (Test ℝ)) (wc : Curve ℝ) (N' : ℝ)
    (h : runouts d ≠ [] → wc.SD ≠ 0 ∧ N' = wc.ND) :
    maxLikeFullObjective Φ (scaleLoad c d) { wc with SD := c * wc.SD, ND := N' } = maxLikeFullObjective Φ d wc := by
  funext rel
  by_cases hr : runouts d = []
  · rw [maxLikeFullObjective_no_runouts Φ d _ _ hr,
      maxLikeFullObjective_no_runouts Φ _ _ _ (by rw [scaleLoad, WoehlerZones.runouts_map (.ofLoad c), hr]; rfl)]
  · obtain ⟨hSD, rfl⟩ := h hr
    have hfp : fullParams (scaleLoad c d) { wc with SD := c * wc.SD, ND := wc.ND } rel =
        { fullParams d wc rel with SD := c * (fullParams d wc rel).SD } :=
      fullParams_scaleLoad hc d wc rel _ fun _ => hSD
    unfold maxLikeFullObjective
    simp only [hfp]
    rw [WoehlerZones.likTotal_scaleLoad Φ hc d]

theorem maxLikeFullObjective_scaleCycles (Φ : ℝ → ℝ) {c : ℝ} (hc : 0 < c) (d : List (Test ℝ)) (wc : Curve ℝ)
    (hN0 : wc.ND ≠ 0) (hd : ∀ t ∈ d, 0 < t.load ∧ 0 < t.cycles) :
    maxLikeFullObjective Φ (scaleCycles c d) { wc with ND := c * wc.ND } = maxLikeFullObjective Φ d wc := by
  funext rel
  unfold maxLikeFullObjective
  simp only [fullParams_scaleCycles hc d wc rel hN0, lit_zero]
  by_cases hN : 0 < (fullParams d wc rel).ND
  · rw [if_pos hN, if_pos (mul_pos hc hN)]
    exact WoehlerZones.likTotal_scaleCycles Φ hc d _ hN hd
  · rw [if_neg hN, if_neg (fun h => hN (pos_of_mul_pos_right h hc.le))]

theorem maxLikeFullObjective_perm (Φ : ℝ → ℝ) {d₁ d₂ : List (Test ℝ)} (h : d₁.Perm d₂) (wc : Curve ℝ) :
    maxLikeFullObjective Φ d₁ wc = maxLikeFullObjective Φ d₂ wc := by
  funext rel
  unfold maxLikeFullObjective
  simp only [fullParams_perm h, WoehlerZones.likTotal_perm Φ h]

theorem fullStart_scaleLoad {c : ℝ} (hc : c ≠ 0) (wc : Curve ℝ) {N' : ℝ} (hN : wc.ND ≠ 0) (hN' : N' ≠ 0) :
    fullStart { wc with SD := c * wc.SD, ND := N' } = fullStart wc := by
  unfold fullStart
  dsimp only
  rw [div_relScale_scale hc, div_relScale_of_ne hN, div_relScale_of_ne hN']

theorem fullStart_scaleCycles {c : ℝ} (hc : c ≠ 0) (wc : Curve ℝ) :
    fullStart { wc with ND := c * wc.ND } = fullStart wc := by
  unfold fullStart
  rw [div_relScale_scale hc]

theorem maxLikeFull_eq (Q Φ : ℝ → ℝ) (opt : (Curve ℝ → Option ℝ) → Curve ℝ → Curve ℝ) (d : List (Test ℝ)) :
    maxLikeFull Q Φ opt d = fullParams (irrelevantRunoutsDropped d) (elementaryCore Q (irrelevantRunoutsDropped d))
      (opt (maxLikeFullObjective Φ (irrelevantRunoutsDropped d) (elementaryCore Q (irrelevantRunoutsDropped d)))
        (fullStart (elementaryCore Q (irrelevantRunoutsDropped d)))) := rfl

theorem maxLikeFull_load_scale (Q Φ : ℝ → ℝ) (opt : (Curve ℝ → Option ℝ) → Curve ℝ → Curve ℝ) {c : ℝ} (hc : 0 < c)
    (d : List (Test ℝ)) (hpos : ∀ t ∈ d, 0 < t.load) :
    (maxLikeFull Q Φ opt (scaleLoad c d)).SD = c * (maxLikeFull Q Φ opt d).SD ∧
    (maxLikeFull Q Φ opt (scaleLoad c d)).TS = (maxLikeFull Q Φ opt d).TS ∧
    (maxLikeFull Q Φ opt (scaleLoad c d)).k1 = (maxLikeFull Q Φ opt d).k1 ∧
    (maxLikeFull Q Φ opt (scaleLoad c d)).TN = (maxLikeFull Q Φ opt d).TN ∧
    (runouts d ≠ [] → (maxLikeFull Q Φ opt (scaleLoad c d)).ND = (maxLikeFull Q Φ opt d).ND) := by
  have hpos' : ∀ t ∈ irrelevantRunoutsDropped d, 0 < t.load := WoehlerZones.forall_mem_irrelevantRunoutsDropped hpos
  have hSD := fun hr => elementaryCore_SD_ne_zero Q (irrelevantRunoutsDropped d) hr hpos'
  -- without run-outs the elementary `ND` is read at the fixed load 0.1 and moves with the line; it stays a power of ten,
  -- so its component of the start vector is 1 either way, and the objective is the constant `-inf`
  rw [maxLikeFull_eq, maxLikeFull_eq, WoehlerZones.irrelevantRunoutsDropped_scaleLoad hc,
    WoehlerElementary.elementaryCore_load_scale Q hc _ hpos', maxLikeFullObjective_scaleLoad Φ hc,
    fullStart_scaleLoad hc.ne' _ (elementaryCore_ND_pos Q _).ne' (transitionCycles_pos _ _ _).ne',
    fullParams_scaleLoad hc _ _ _ _ hSD]
  · refine ⟨rfl, rfl, rfl, rfl, fun hr => ?_⟩
    rw [WoehlerElementary.transitionCycles_scaleLoad hc.ne'
      (hSD (WoehlerZones.runouts_irrelevantRunoutsDropped_ne_nil d hr))]
    rfl
  · exact fun hr => ⟨hSD hr, WoehlerElementary.transitionCycles_scaleLoad hc.ne' (hSD hr) _ _⟩

theorem maxLikeFull_cycle_scale (Q Φ : ℝ → ℝ) (opt : (Curve ℝ → Option ℝ) → Curve ℝ → Curve ℝ) {c : ℝ} (hc : 0 < c)
    (d : List (Test ℝ)) (hpos : ∀ t ∈ d, 0 < t.cycles) (hload : ∀ t ∈ d, 0 < t.load)
    (hne : (finiteZone (irrelevantRunoutsDropped d)).filter (·.fracture) ≠ []) :
    (maxLikeFull Q Φ opt (scaleCycles c d)).k1 = (maxLikeFull Q Φ opt d).k1 ∧
    (maxLikeFull Q Φ opt (scaleCycles c d)).ND = c * (maxLikeFull Q Φ opt d).ND ∧
    (maxLikeFull Q Φ opt (scaleCycles c d)).SD = (maxLikeFull Q Φ opt d).SD ∧
    (maxLikeFull Q Φ opt (scaleCycles c d)).TN = (maxLikeFull Q Φ opt d).TN ∧
    (maxLikeFull Q Φ opt (scaleCycles c d)).TS = (maxLikeFull Q Φ opt d).TS := by
  have hd : ∀ t ∈ irrelevantRunoutsDropped d, 0 < t.load ∧ 0 < t.cycles :=
    WoehlerZones.forall_mem_irrelevantRunoutsDropped fun t ht => ⟨hload t ht, hpos t ht⟩
  have hN := (elementaryCore_ND_pos Q (irrelevantRunoutsDropped d)).ne'
  rw [maxLikeFull_eq, maxLikeFull_eq, WoehlerZones.irrelevantRunoutsDropped_scaleCycles,
    WoehlerElementary.elementaryCore_cycle_scale Q hc _ (fun t ht => (hd t ht).2) (fun t ht => (hd t ht).1) hne,
    maxLikeFullObjective_scaleCycles Φ hc _ _ hN hd, fullStart_scaleCycles hc.ne', fullParams_scaleCycles hc _ _ _ hN]
  exact ⟨rfl, rfl, rfl, rfl, rfl⟩

/-- order on log-likelihood values with `none` = −∞ (the code's `-np.inf`) -/
def LeLik : Option ℝ → Option ℝ → Prop
  | none, _ => True
  | some _, none => False
  | some a, some b => a ≤ b

/-- The contract ASSUMED of `scipy.optimize.fmin` (Nelder–Mead): the returned point is never worse than the start `x₀`
(the start is a vertex of the initial simplex and the best vertex is kept).  `opt f` maximises `f`. -/
def NeverWorseThan {X : Type} (x₀ : X) (opt : (X → Option ℝ) → X) : Prop :=
  ∀ f : X → Option ℝ, LeLik (f x₀) (f (opt f))

/-- The same contract for an optimiser that is handed its start point (`maxLikeFull`). -/
def NeverWorseThanFrom {X : Type} (opt : (X → Option ℝ) → X → X) : Prop :=
  ∀ (f : X → Option ℝ) (x₀ : X), LeLik (f x₀) (f (opt f x₀))

/-- start curve = elementary curve when nothing is fixed and the elementary curve has non-negative entries (a zero entry
has start component 0 and scale 1) -/
theorem fullParams_fullStart (d : List (Test ℝ)) (wc : Curve ℝ) (hr : runouts d ≠ []) (hm : fewMixedLevels d = false)
    (h : 0 ≤ wc.k1 ∧ 0 ≤ wc.ND ∧ 0 ≤ wc.SD ∧ 0 ≤ wc.TN ∧ 0 ≤ wc.TS) : fullParams d wc (fullStart wc) = wc := by
  obtain ⟨h1, h2, h3, h4, h5⟩ := h
  have he : (runouts d).isEmpty = false := by
    rw [Bool.eq_false_iff, Ne, List.isEmpty_iff]; exact hr
  cases wc
  simp only [fullParams, fullStart, he, hm, transc_abs, div_mul_relScale, Bool.false_eq_true, if_false, Curve.mk.injEq]
  exact ⟨abs_of_nonneg h1, abs_of_nonneg h2, abs_of_nonneg h3, abs_of_nonneg h4, abs_of_nonneg h5⟩

theorem maxLikeInf_not_worse (Q Φ : ℝ → ℝ) (opt : (ℝ × ℝ → Option ℝ) → ℝ × ℝ) (h : NeverWorseThan ((1 : ℝ), (1 : ℝ)) opt)
    (d : List (Test ℝ)) :
    LeLik (likInfinite Φ (irrelevantRunoutsDropped d) (transition (irrelevantRunoutsDropped d)) 1.2)
      (likInfinite Φ (irrelevantRunoutsDropped d) (maxLikeInf Q Φ opt d).SD (maxLikeInf Q Φ opt d).TS) := by
  have := h (maxLikeInfObjective Φ (irrelevantRunoutsDropped d))
  simp only [maxLikeInfObjective, one_mul] at this
  exact this

/-- the objective at `r` is the likelihood of the curve built from `r`, or `-inf` -/
theorem leLik_fullParams {Φ : ℝ → ℝ} {d : List (Test ℝ)} {wc r : Curve ℝ} {s : Option ℝ}
    (h : LeLik s (maxLikeFullObjective Φ d wc r)) : LeLik s (likTotal Φ d (fullParams d wc r)) := by
  unfold maxLikeFullObjective at h
  dsimp only at h
  split_ifs at h
  · exact h
  · cases s with
    | none => trivial
    | some a => exact absurd h (by simp [LeLik])

theorem maxLikeFull_not_worse (Q Φ : ℝ → ℝ) (opt : (Curve ℝ → Option ℝ) → Curve ℝ → Curve ℝ) (h : NeverWorseThanFrom opt)
    (d : List (Test ℝ)) :
    LeLik (maxLikeFullObjective Φ (irrelevantRunoutsDropped d) (elementaryCore Q (irrelevantRunoutsDropped d))
        (fullStart (elementaryCore Q (irrelevantRunoutsDropped d))))
      (likTotal Φ (irrelevantRunoutsDropped d) (maxLikeFull Q Φ opt d)) :=
  leLik_fullParams (h _ _)

theorem maxLikeFullObjective_fullStart (Φ : ℝ → ℝ) (d : List (Test ℝ)) (wc : Curve ℝ) (hr : runouts d ≠ [])
    (hm : fewMixedLevels d = false) (hw : 0 ≤ wc.k1 ∧ 0 < wc.ND ∧ 0 ≤ wc.SD ∧ 0 ≤ wc.TN ∧ 0 ≤ wc.TS) :
    maxLikeFullObjective Φ d wc (fullStart wc) = likTotal Φ d wc := by
  unfold maxLikeFullObjective
  dsimp only
  rw [fullParams_fullStart d wc hr hm ⟨hw.1, hw.2.1.le, hw.2.2⟩, lit_zero, if_pos hw.2.1]

theorem maxLikeFull_not_worse_than_elementary (Q Φ : ℝ → ℝ) (opt : (Curve ℝ → Option ℝ) → Curve ℝ → Curve ℝ)
    (h : NeverWorseThanFrom opt) (d : List (Test ℝ)) (hr : runouts (irrelevantRunoutsDropped d) ≠ []) (hm : fewMixedLevels (irrelevantRunoutsDropped d) = false)
    (hw : 0 ≤ (elementary Q d).k1 ∧ 0 < (elementary Q d).ND ∧ 0 ≤ (elementary Q d).SD ∧ 0 ≤ (elementary Q d).TN ∧ 0 ≤ (elementary Q d).TS) :
    LeLik (likTotal Φ (irrelevantRunoutsDropped d) (elementary Q d)) (likTotal Φ (irrelevantRunoutsDropped d) (maxLikeFull Q Φ opt d)) := by
  have h0 := maxLikeFull_not_worse Q Φ opt h d
  rw [maxLikeFullObjective_fullStart Φ _ (elementaryCore Q (irrelevantRunoutsDropped d)) hr hm hw] at h0
  exact h0

theorem neverWorse_start {X : Type} (x₀ : X) :
    NeverWorseThan x₀ (fun _ => x₀) ∧ NeverWorseThanFrom (fun (_ : X → Option ℝ) (x₀ : X) => x₀) := by
  refine ⟨fun f => ?_, fun f x₀ => ?_⟩ <;>
  · cases f x₀ with
    | none => trivial
    | some a => exact le_refl a

example {X : Type} (x₀ : X) : NeverWorseThan x₀ (fun _ => x₀) ∧ NeverWorseThanFrom (fun (_ : X → Option ℝ) (x₀ : X) => x₀) :=
  neverWorse_start x₀

/-- two mixed levels below a fractured level -/
def exampleData : List (Test ℝ) := [⟨1, 10, true⟩, ⟨1, 100, false⟩, ⟨2, 10, true⟩, ⟨2, 100, false⟩, ⟨3, 5, true⟩]

theorem exampleData_spec : irrelevantRunoutsDropped exampleData = exampleData ∧ runouts exampleData ≠ [] ∧
    fewMixedLevels exampleData = false ∧ (finiteZone exampleData).filter (·.fracture) ≠ [] ∧
    (∀ t ∈ exampleData, 0 < t.load ∧ 0 < t.cycles) := by
  have hfr : fractures exampleData = [⟨1, 10, true⟩, ⟨2, 10, true⟩, ⟨3, 5, true⟩] := rfl
  have hro : runouts exampleData = [⟨1, 100, false⟩, ⟨2, 100, false⟩] := rfl
  have hr : runouts exampleData ≠ [] := by rw [hro]; exact List.cons_ne_nil _ _
  have hm : maxRunoutLoad exampleData = 2 := by
    rw [WoehlerZones.maxRunoutLoad_eq, hro]
    norm_num [WoehlerZones.maxL, maxOf]
  refine ⟨?_, hr, ?_, ?_, ?_⟩
  · refine (WoehlerZones.irrelevantRunoutsDropped_spec _).2 fun hd => hd.1 ?_
    simp [WoehlerZones.pureLoads, hfr, hro, WoehlerBasics.eqα_iff]
  · refine fewMixedLevels_eq_false (t := ⟨1, 10, true⟩) (u := ⟨2, 10, true⟩) List.mem_cons_self
      (by simp only [exampleData, List.mem_cons, true_or, or_true]) ?_ ?_ (by norm_num)
    · rw [isMixedLoad, hfr, hro]; norm_num [WoehlerBasics.eqα_iff]
    · rw [isMixedLoad, hfr, hro]; norm_num [WoehlerBasics.eqα_iff]
  · refine List.ne_nil_of_mem (a := ⟨3, 5, true⟩) (List.mem_filter.2 ⟨?_, rfl⟩)
    refine (WoehlerZones.mem_finiteZone_of_runouts hr).2
      ⟨by simp only [exampleData, List.mem_cons, true_or, or_true], ?_⟩
    rw [hm]; norm_num
  · simp only [exampleData, List.forall_mem_cons, List.not_mem_nil, false_imp_iff, implies_true, and_true]
    norm_num

/-- run-out-topped staircase data with two load levels: hypotheses of `zones_partition_runout_topped` -/
theorem runoutTopped_spec : let d : List (Test ℝ) := [⟨1, 100, false⟩, ⟨2, 10, true⟩, ⟨2, 100, false⟩]
    runouts d ≠ [] ∧ finiteZone d = [] ∧ ∃ t ∈ d, ∃ u ∈ d, t.load ≠ u.load := by
  intro d
  refine ⟨by simp [d, runouts], ?_, ⟨1, 100, false⟩, by simp [d], ⟨2, 10, true⟩, by simp [d], by norm_num⟩
  norm_num [d, finiteZone, runouts, fractures, maxRunoutLoad, maxOf]

example : let d : List (Test ℝ) := [⟨1, 100, false⟩, ⟨2, 10, true⟩, ⟨2, 100, false⟩]
    runouts d ≠ [] ∧ finiteZone d = [] ∧ ∃ t ∈ d, ∃ u ∈ d, t.load ≠ u.load :=
  runoutTopped_spec

end PylifeVerif.WoehlerMaxLike
