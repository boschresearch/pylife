/-
The turning points by position.  The scan `findTurns` reports exactly the positions that pass the
local test `isRevLocal` (predecessor differs, the next sample that differs lies on the same side as
the predecessor): `findTurns s = revList 1 s = Spec.reversals s` (`C02.findTurns_eq_reversals`).  A
state of the scan is a predecessor that was never there (`findTurnsAux_eq`, the one induction over the
scan); which samples are turning points is read off `revList`.

Namespaces: `C02` for `isRevLocal`, `revList` and the statements against `Spec.reversals`, which C02 is
about; `Rainflow` for the facts on `revList` and `findTurns` that `Turns.lean` builds on.
-/
import Proofs.Lemmas.Common

namespace PylifeVerif.C02
open PylifeVerif.Rainflow

/-- List-level form of `Spec.isReversal` for the sample `v` with predecessor `p` and the samples
`post` behind it. -/
def isRevLocal (p v : Int) (post : List Int) : Bool :=
  if p = v then false else
  match post.find? (· ≠ v) with
  | none => false
  | some n => (p < v ∧ n < v) ∨ (p > v ∧ n > v)

/-- Declarative reversals of `p :: rest`, where `i` is the index of the head of `rest`. -/
def revList : Nat → List Int → List Pt
  | i, p :: v :: post =>
    (if isRevLocal p v post then [(i, v)] else []) ++ revList (i+1) (v :: post)
  | _, _ => []

theorem isRevLocal_self (v : Int) (S : List Int) : isRevLocal v v S = false := if_pos rfl

theorem isRevLocal_nil (p v : Int) : isRevLocal p v [] = false := by
  unfold isRevLocal; split <;> rfl

theorem isRevLocal_cons_self (p v : Int) (S : List Int) : isRevLocal p v (v :: S) = isRevLocal p v S := by
  unfold isRevLocal
  rw [List.find?_cons_of_neg (by simp)]

theorem isRevLocal_cons_ne {p v x : Int} (hx : x ≠ v) (S : List Int) :
    isRevLocal p v (x :: S) = decide ((p < v ∧ x < v) ∨ (v < p ∧ v < x)) := by
  unfold isRevLocal
  rw [List.find?_cons_of_pos (by simpa using hx)]
  by_cases h : p = v
  · subst h; simp
  · rw [if_neg h]

/-- **The scan is the local test.**  A scan that stands at `prev` with direction `sgn (prev - u)` goes on as if
the sample `u` had preceded `prev` (`u = prev`: no direction yet), the candidate standing for `prev`. -/
theorem findTurnsAux_eq (xs : List Int) : ∀ (u : Int) (cand : Pt) (i : Nat) (prev : Int),
    findTurnsAux (sgn (prev - u)) cand i prev xs =
      (if isRevLocal u prev xs then [cand] else []) ++ revList i (prev :: xs) := by
  induction xs with
  | nil => intro u cand i prev; simp [findTurnsAux, isRevLocal_nil, revList]
  | cons x xs ih =>
    intro u cand i prev
    unfold findTurnsAux
    simp only []
    by_cases hx : x = prev
    · subst hx
      rw [if_pos (sgn_self x), ih, isRevLocal_cons_self, revList, isRevLocal_self]
      rfl
    · have h0 : sgn (x - prev) ≠ 0 := by rw [Ne, sgn_eq_zero_iff]; omega
      -- the direction reverses at `prev` iff `x` lies on the side of `u`
      have hr : (sgn (prev - u) ≠ 0 ∧ sgn (x - prev) ≠ sgn (prev - u)) ↔
          ((u < prev ∧ x < prev) ∨ (prev < u ∧ prev < x)) := by
        rcases sgn_sub_cases x prev with h' | h' | h'
        · exact absurd h'.1 h0
        all_goals rcases sgn_sub_cases prev u with h | h | h <;> rw [h.1, h'.1] <;> omega
      rw [if_neg h0, ih prev, revList, isRevLocal_cons_ne hx]
      simp only [hr, decide_eq_true_eq]
      split <;> rfl

theorem findTurns_eq_revList (s : List Int) : findTurns s = revList 1 s := by
  cases s with
  | nil => rfl
  | cons x xs =>
    have := findTurnsAux_eq xs x (0, x) 1 x
    rwa [Int.sub_self, isRevLocal_self] at this

theorem isReversal_append (pre : List Int) (p v : Int) (post : List Int) :
    Spec.isReversal (pre ++ p :: v :: post).toArray (pre.length + 1) = isRevLocal p v post := by
  have hd : (pre ++ p :: v :: post).drop (pre.length + 1 + 1) = post := by
    have : pre ++ p :: v :: post = (pre ++ [p, v]) ++ post := by simp
    rw [this, List.drop_left']; simp
  unfold Spec.isReversal isRevLocal
  cases post with
  | nil => simp
  | cons q post =>
    simp only [hd]
    have h1 : ¬ (pre.length + 1 = 0 ∨ pre.length + 1 + 1 ≥ (pre ++ p :: v :: q :: post).toArray.size) := by
      simp; omega
    rw [if_neg h1]
    have hv : (pre ++ p :: v :: q :: post).toArray[pre.length + 1]! = v := by
      simp
    have hp : (pre ++ p :: v :: q :: post).toArray[pre.length + 1 - 1]! = p := by
      simp
    simp only [hv, hp]
    by_cases hpv : p = v
    · simp only [if_pos hpv]
    · simp only [if_neg hpv]
      cases (q :: post).find? (· ≠ v) <;> rfl

theorem getElem!_append (pre : List Int) (v : Int) (post : List Int) :
    (pre ++ v :: post).toArray[pre.length]! = v := by
  simp

theorem reversals_range' (rest : List Int) : ∀ (pre : List Int) (p : Int),
    ((List.range' (pre.length + 1) rest.length).filter
        (Spec.isReversal (pre ++ p :: rest).toArray)).map
      (fun i => (i, (pre ++ p :: rest).toArray[i]!)) = revList (pre.length + 1) (p :: rest) := by
  induction rest with
  | nil => intro pre p; simp [revList]
  | cons v post ih =>
    intro pre p
    have ih' := ih (pre ++ [p]) v
    simp only [List.length_append, List.length_cons, List.length_nil, List.append_assoc,
      List.cons_append, List.nil_append, Nat.zero_add] at ih'
    simp only [List.length_cons, List.range'_succ, List.filter_cons, isReversal_append, revList]
    rw [← ih']
    split <;> simp

theorem reversals_eq_revList (s : List Int) : Spec.reversals s = revList 1 s := by
  cases s with
  | nil => simp [Spec.reversals, revList]
  | cons x xs =>
    have h := reversals_range' xs [] x
    simp only [List.length_nil, Nat.zero_add, List.nil_append] at h
    rw [← h]
    unfold Spec.reversals
    simp only [List.length_cons, List.range_eq_range', List.range'_succ, List.filter_cons]
    have : Spec.isReversal (x :: xs).toArray 0 = false := by simp [Spec.isReversal]
    simp [this]

theorem reversals_index_valid (s : List Int) : ∀ p ∈ Spec.reversals s, s[p.1]? = some p.2 := by
  intro p hp
  simp only [Spec.reversals, List.mem_map, List.mem_filter, List.mem_range] at hp
  obtain ⟨i, ⟨hi, _⟩, rfl⟩ := hp
  simp [List.getElem?_eq_getElem hi]

end PylifeVerif.C02

namespace PylifeVerif.Rainflow
open C02 (revList isRevLocal)

theorem isRevLocal_iff {p v : Int} {post : List Int} :
    isRevLocal p v post = true ↔
      ∃ n, post.find? (· ≠ v) = some n ∧ ((p < v ∧ n < v) ∨ (v < p ∧ v < n)) := by
  unfold isRevLocal
  by_cases h : p = v
  · subst h; simp
  · rw [if_neg h]
    cases post.find? (· ≠ v) <;> simp

theorem mem_revList_iff {q : Pt} : ∀ (i : Nat) (l : List Int),
    q ∈ revList i l ↔ ∃ pre p post, l = pre ++ p :: q.2 :: post ∧ q.1 = i + pre.length ∧
      isRevLocal p q.2 post = true
  | i, p :: v :: post => by
    rw [revList, List.mem_append, mem_revList_iff (i + 1) (v :: post)]
    constructor
    · rintro (h | ⟨pre, p', post', e, hi, hr⟩)
      · split at h
        · rename_i hr
          rw [List.mem_singleton.mp h]; exact ⟨[], p, post, rfl, rfl, hr⟩
        · simp at h
      · exact ⟨p :: pre, p', post', by rw [e]; rfl, by rw [hi, List.length_cons]; omega, hr⟩
    · rintro ⟨pre, p', post', e, hi, hr⟩
      cases pre with
      | nil =>
        simp only [List.nil_append, List.cons.injEq] at e
        obtain ⟨rfl, hv, rfl⟩ := e
        left
        rw [if_pos (hv ▸ hr)]
        exact List.mem_singleton.mpr (Prod.ext hi hv.symm)
      | cons a pre =>
        right
        rw [List.cons_append, List.cons.injEq] at e
        exact ⟨pre, p', post', e.2, by rw [hi, List.length_cons]; omega, hr⟩
  | _, [] => by simp [revList]
  | _, [_] => by
    simp only [revList, List.not_mem_nil, false_iff]
    rintro ⟨pre, p, post, e, _⟩
    have := congrArg List.length e
    simp at this
    omega

theorem revList_idx (i : Nat) (l : List Int) (q : Pt) (hq : q ∈ revList i l) :
    i ≤ q.1 ∧ q.1 + 2 < i + l.length := by
  obtain ⟨pre, p, post, rfl, hi, hr⟩ := (mem_revList_iff i l).mp hq
  cases post with
  | nil => simp [isRevLocal] at hr
  | cons y post => simp only [List.length_append, List.length_cons]; omega

theorem mem_findTurns_iff {q : Pt} (l : List Int) :
    q ∈ findTurns l ↔ ∃ pre p post, l = pre ++ p :: q.2 :: post ∧ q.1 = pre.length + 1 ∧
      isRevLocal p q.2 post = true := by
  rw [C02.findTurns_eq_revList, mem_revList_iff]
  simp only [Nat.add_comm 1]

theorem findTurns_at_iff' (P : List Int) (p v : Int) (S : List Int) :
    (∃ q ∈ findTurns (P ++ p :: v :: S), q.1 = P.length + 1) ↔ isRevLocal p v S = true := by
  constructor
  · rintro ⟨q, hq, hk⟩
    obtain ⟨pre, p', post, e, hi, hr⟩ := (mem_findTurns_iff _).mp hq
    have hl : pre.length = P.length := by omega
    obtain ⟨rfl, e2⟩ := List.append_inj e.symm hl
    simp only [List.cons.injEq] at e2
    obtain ⟨rfl, rfl, rfl⟩ := e2
    exact hr
  · intro hr
    exact ⟨(P.length + 1, v), (mem_findTurns_iff _).mpr ⟨P, p, S, rfl, rfl, hr⟩, rfl⟩

theorem find?_ne_skip (v : Int) (X Y : List Int) :
    (X ++ v :: Y).find? (· ≠ v) = (X ++ Y).find? (· ≠ v) := by
  simp [List.find?_append]

theorem isRevLocal_append {p v : Int} {post : List Int} (R : List Int)
    (h : isRevLocal p v post = true) : isRevLocal p v (post ++ R) = true := by
  obtain ⟨n, hn, hs⟩ := isRevLocal_iff.mp h
  exact isRevLocal_iff.mpr ⟨n, by rw [List.find?_append, hn]; rfl, hs⟩

theorem findTurns_infix (P X R : List Int) (q : Pt) (hq : q ∈ findTurns X) :
    ∃ q' ∈ findTurns (P ++ X ++ R), q'.1 = q.1 + P.length := by
  obtain ⟨pre, p, post, rfl, hi, hr⟩ := (mem_findTurns_iff X).mp hq
  exact ⟨(q.1 + P.length, q.2), (mem_findTurns_iff _).mpr ⟨P ++ pre, p, post ++ R, by simp,
    by simp only [List.length_append]; omega, isRevLocal_append R hr⟩, rfl⟩

theorem findTurns_at_iff (P : List Int) (hP : P ≠ []) (v : Int) (S : List Int) :
    (∃ q ∈ findTurns (P ++ v :: S), q.1 = P.length) ↔ isRevLocal (P.getLast hP) v S = true := by
  have e : P.dropLast ++ P.getLast hP :: v :: S = P ++ v :: S := by
    rw [show P.getLast hP :: v :: S = [P.getLast hP] ++ v :: S from rfl, ← List.append_assoc,
      List.dropLast_concat_getLast hP]
  have := findTurns_at_iff' P.dropLast (P.getLast hP) v S
  rwa [e, List.length_dropLast, Nat.sub_add_cancel (List.length_pos_iff.mpr hP)] at this

theorem findTurns_idx (l : List Int) (q : Pt) (hq : q ∈ findTurns l) : 0 < q.1 ∧ q.1 + 1 < l.length := by
  rw [C02.findTurns_eq_revList] at hq
  have := revList_idx 1 l q hq
  omega

theorem revList_sorted : ∀ (i : Nat) (l : List Int),
    (revList i l).Pairwise (fun a b => a.1 < b.1)
  | i, p :: v :: post => by
    rw [revList, List.pairwise_append]
    refine ⟨by split <;> simp, revList_sorted (i + 1) (v :: post), fun a ha b hb => ?_⟩
    have := (revList_idx _ _ b hb).1
    split at ha
    · rw [List.mem_singleton.mp ha]
      exact this
    · simp at ha
  | _, [] => List.Pairwise.nil
  | _, [_] => List.Pairwise.nil

theorem findTurns_sorted (l : List Int) : (findTurns l).Pairwise (fun a b => a.1 < b.1) := by
  rw [C02.findTurns_eq_revList]
  exact revList_sorted 1 l

theorem pairwise_le_getLast (l : List Nat) (hl : l.Pairwise (· < ·)) (t : Nat)
    (ht : l.getLast? = some t) : ∀ k ∈ l, k ≤ t := by
  obtain ⟨ys, rfl⟩ := List.getLast?_eq_some_iff.mp ht
  intro k hk
  rcases List.mem_append.mp hk with h | h
  · exact Nat.le_of_lt ((List.pairwise_append.mp hl).2.2 k h t List.mem_cons_self)
  · exact Nat.le_of_eq (List.mem_singleton.mp h)

theorem findTurns_getElem? (l : List Int) (q : Pt) (hq : q ∈ findTurns l) : l[q.1]? = some q.2 := by
  obtain ⟨pre, p, post, rfl, hi, _⟩ := (mem_findTurns_iff l).mp hq
  rw [hi, List.getElem?_append_right (Nat.le_add_right _ _), Nat.add_sub_cancel_left]
  rfl

end PylifeVerif.Rainflow
