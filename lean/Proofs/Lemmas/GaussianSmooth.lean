/-
Property C15, `pf_arbitrary_load` with a SAMPLED LOG-NORMAL DENSITY: the integrand `pdf_L · cdf_S` is twice continuously
differentiable (`contDiff_gaussian_integrand`), which is all `trapezoid_nonuniform_tendsto` asks of it: the trapezoid sum on
ANY increasing sample points converges to the integral over the sampled range as the largest step tends to zero
(`C15.pf_arbitrary_gaussian_converges`; here only an `example` on a uniform refinement of `[0, 1]`).
-/
import Proofs.Lemmas.GaussianDensity
import Proofs.Lemmas.TrapezoidNonuniform
import Mathlib.Analysis.SpecialFunctions.ExpDeriv
import Mathlib.Analysis.Calculus.ContDiff.Basic

namespace PylifeVerif.GaussianOverlap

open PylifeVerif.FailureProb PylifeVerif.TrapezoidLemmas

theorem contDiff_normPdf (σ : ℝ) {m : WithTop ℕ∞} : ContDiff ℝ m (normPdf σ) := by
  unfold normPdf
  exact contDiff_const.mul (Real.contDiff_exp.comp (((contDiff_id.pow 2).neg).div_const _))

theorem deriv_stdNormalCdf : deriv stdNormalCdf = normPdf 1 :=
  funext fun x => (hasDerivAt_stdNormalCdf x).deriv

theorem contDiff_stdNormalCdf : ContDiff ℝ 2 stdNormalCdf := by
  rw [show (2 : WithTop ℕ∞) = 1 + 1 from rfl, contDiff_succ_iff_deriv]
  refine ⟨fun x => (hasDerivAt_stdNormalCdf x).differentiableAt, ?_, ?_⟩
  · intro h; exact absurd h (by decide)
  · rw [deriv_stdNormalCdf]; exact contDiff_normPdf 1

/-- the integrand of `pf_arbitrary_load` for the sampled normal density `norm.pdf(x, loc = l50, scale = ls)` and the
strength distribution function `norm.cdf(x, loc = s50, scale = ss)` (all in log10 units) -/
theorem contDiff_gaussian_integrand (l50 ls s50 ss : ℝ) :
    ContDiff ℝ 2 (fun x => normPdf ls (x - l50) * stdNormalCdf ((x - s50) / ss)) := by
  refine ContDiff.mul ?_ ?_
  · exact (contDiff_normPdf ls).comp (contDiff_id.sub contDiff_const)
  · exact contDiff_stdNormalCdf.comp ((contDiff_id.sub contDiff_const).div_const _)

/-- hence `pf_arbitrary_load` with the sampled density converges on every refinement sequence
(`trapezoid_nonuniform_tendsto`); here the uniform refinement of `[0, 1]` (`N + 1` steps of length `1/(N+1)`) -/
example (sm ss lm ls : ℝ) :
    Filter.Tendsto
      (fun N : ℕ => pfArbitraryLoad stdNormalCdf sm ss
        ((List.range ((N + 1) + 1)).map fun k : ℕ =>
          ((k : ℝ) / ((N : ℝ) + 1), normPdf ls ((k : ℝ) / ((N : ℝ) + 1) - Transc.log10 lm))))
      Filter.atTop
      (nhds (∫ y in (0 : ℝ)..1,
        normPdf ls (y - Transc.log10 lm) * normCdf stdNormalCdf y (Transc.log10 sm) ss)) := by
  have hpos : ∀ N : ℕ, (0 : ℝ) < (N : ℝ) + 1 := fun N => by positivity
  simp only [pfArbitraryLoad_map stdNormalCdf (fun y => normPdf ls (y - Transc.log10 lm)) sm ss]
  refine trapezoid_nonuniform_tendsto _ (contDiff_gaussian_integrand (Transc.log10 lm) ls (Transc.log10 sm) ss) 0 1
    (fun N k => (k : ℝ) / ((N : ℝ) + 1)) (fun N => N + 1) (fun N => 1 / ((N : ℝ) + 1))
    ?_ ?_ ?_ ?_ ?_
  · intro N; simp
  · intro N; push_cast; exact div_self (hpos N).ne'
  · intro N k _; push_cast
    exact div_le_div_of_nonneg_right (by linarith) (hpos N).le
  · intro N k _; push_cast
    rw [← sub_div]; apply le_of_eq; congr 1; ring
  · exact tendsto_one_div_add_atTop_nhds_zero_nat

end PylifeVerif.GaussianOverlap
