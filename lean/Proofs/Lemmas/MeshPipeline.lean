/-
`sortedUnique` (= `np.unique`: membership, strict order, length; `MeshG3D` and `MeshSurface` use these as well) and the
`Gradient.gradient_of` pipeline of `Model/Mesh.lean` (`gradientLsq`: sorted node ids, node table, neighbour look-up
through the id → position map, least squares), which on a linear field is `lstsq3` of each node's own system
(`gradientLsq_eq_lstsq3`); the rank hypothesis of that system from the geometry of a tetrahedron the node is a corner of.
-/
import Proofs.Lemmas.Mesh
import Mathlib.Data.List.Basic
import Mathlib.Data.List.Nodup

namespace PylifeVerif.Mesh

theorem mem_insertSorted (x y : Int) (l : List Int) : y ∈ insertSorted x l ↔ y = x ∨ y ∈ l := by
  induction l with
  | nil => simp [insertSorted]
  | cons a l ih =>
    unfold insertSorted
    split_ifs with h1 h2
    · exact List.mem_cons
    · rw [show x = a by simpa using h2]
      exact ⟨Or.inr, fun h => h.elim (fun h => h ▸ List.mem_cons_self) id⟩
    · rw [List.mem_cons, ih, List.mem_cons, or_left_comm]

theorem mem_foldl_insertSorted (l acc : List Int) (y : Int) :
    y ∈ l.foldl (fun acc x => insertSorted x acc) acc ↔ y ∈ acc ∨ y ∈ l := by
  induction l generalizing acc with
  | nil => simp
  | cons a l ih => simp [ih, mem_insertSorted]; tauto

theorem mem_sortedUnique (l : List Int) (y : Int) : y ∈ sortedUnique l ↔ y ∈ l := by
  simp [sortedUnique, mem_foldl_insertSorted]

theorem insertSorted_pairwise (x : Int) (l : List Int) (h : l.Pairwise (· < ·)) :
    (insertSorted x l).Pairwise (· < ·) := by
  induction l with
  | nil => simp [insertSorted]
  | cons a l ih =>
    unfold insertSorted
    split_ifs with h1 h2
    · refine List.pairwise_cons.2 ⟨?_, h⟩
      intro y hy
      rcases List.mem_cons.1 hy with rfl | hy
      · exact h1
      · exact lt_trans h1 ((List.pairwise_cons.1 h).1 y hy)
    · exact h
    · obtain ⟨ha, hl⟩ := List.pairwise_cons.1 h
      refine List.pairwise_cons.2 ⟨?_, ih hl⟩
      intro y hy
      rcases (mem_insertSorted x y l).1 hy with rfl | hy
      · have : ¬ y = a := by simpa using h2
        omega
      · exact ha y hy

theorem foldl_insertSorted_pairwise (l acc : List Int) (h : acc.Pairwise (· < ·)) :
    (l.foldl (fun acc x => insertSorted x acc) acc).Pairwise (· < ·) := by
  induction l generalizing acc with
  | nil => simpa using h
  | cons a l ih => exact ih _ (insertSorted_pairwise a acc h)

theorem sortedUnique_pairwise (l : List Int) : (sortedUnique l).Pairwise (· < ·) :=
  foldl_insertSorted_pairwise l [] List.Pairwise.nil

theorem sortedUnique_nodup (l : List Int) : (sortedUnique l).Nodup :=
  (sortedUnique_pairwise l).imp (fun h => ne_of_lt h)

/-- `np.unique` depends only on which values occur: two strictly ascending lists with the same members are equal. -/
theorem sortedUnique_congr (l m : List Int) (h : ∀ x, x ∈ l ↔ x ∈ m) : sortedUnique l = sortedUnique m :=
  ((List.perm_ext_iff_of_nodup (sortedUnique_nodup l) (sortedUnique_nodup m)).2 fun x => by
    rw [mem_sortedUnique, mem_sortedUnique, h]).eq_of_pairwise (fun _ _ _ _ h1 h2 => absurd h1 (by omega))
    (sortedUnique_pairwise l) (sortedUnique_pairwise m)

theorem sortedUnique_length_eq_of_nodup (l m : List Int) (hm : m.Nodup) (h : ∀ x, x ∈ l ↔ x ∈ m) :
    (sortedUnique l).length = m.length := by
  apply List.Perm.length_eq
  rw [List.perm_ext_iff_of_nodup (sortedUnique_nodup l) hm]
  intro x
  rw [mem_sortedUnique, h]

/-- Position of node `id`: the coordinates of its first row (`groups.first()`). -/
def nodePos (rows : List (MRow ℝ)) (id : Int) : V3 ℝ :=
  (((rows.filter (·.node == id)).head?).map (·.p)).getD default

/-- The rows `x_j − x_i` of the least-squares system of node `id`. -/
def nbrDiffs (rows : List (MRow ℝ)) (id : Int) : List (V3 ℝ) :=
  (neighbors rows id).map fun nb => (nodePos rows nb).sub (nodePos rows id)

/-- One position per node id - the hypothesis `hcoord` of the least-squares theorems - holds when no node id repeats. -/
theorem coords_consistent_of_nodup (rows : List (MRow ℝ)) (h : (rows.map (·.node)).Nodup) :
    ∀ r ∈ rows, ∀ r' ∈ rows, r.node = r'.node → r.p = r'.p :=
  fun _ hr _ hr' hn => congrArg MRow.p (List.inj_on_of_nodup_map h hr hr' hn)

theorem nodePos_eq_of_mem (rows : List (MRow ℝ))
    (hcoord : ∀ r ∈ rows, ∀ r' ∈ rows, r.node = r'.node → r.p = r'.p) (r : MRow ℝ) (hr : r ∈ rows) :
    nodePos rows r.node = r.p := by
  set rs := rows.filter (·.node == r.node) with hrs
  have hr' : r ∈ rs := by simp [hrs, hr]
  obtain ⟨h, t, hht⟩ := List.exists_cons_of_ne_nil (List.ne_nil_of_mem hr')
  have hpos : nodePos rows r.node = h.p := by simp [nodePos, ← hrs, hht]
  have hh : h ∈ rows ∧ h.node = r.node := by
    have : h ∈ rs := by simp [hht]
    simpa [hrs] using this
  rw [hpos]
  exact hcoord h hh.1 r hr hh.2

/-- For a field that is linear in the node position the table entry of a node that occurs in the mesh is
`(position, g·position + c)`: the mean over the node's rows is the common value. -/
theorem nodeEntry_linear (rows : List (MRow ℝ)) (g : V3 ℝ) (c : ℝ)
    (hcoord : ∀ r ∈ rows, ∀ r' ∈ rows, r.node = r'.node → r.p = r'.p)
    (hlin : ∀ r ∈ rows, r.v = g.dot r.p + c)
    (id : Int) (hid : id ∈ rows.map (·.node)) :
    sumMap (·.v) (rows.filter (·.node == id)) / (((rows.filter (·.node == id)).length : Nat) : ℝ)
      = g.dot (nodePos rows id) + c := by
  obtain ⟨r0, hr0, rfl⟩ := List.mem_map.1 hid
  have hall : ∀ r ∈ rows.filter (·.node == r0.node), r.v = g.dot (nodePos rows r0.node) + c := by
    intro r hr
    obtain ⟨hr, hn⟩ := List.mem_filter.1 hr
    rw [hlin r hr, nodePos_eq_of_mem rows hcoord r0 hr0, hcoord r hr r0 hr0 (by simpa using hn)]
  have hlen : (((rows.filter (·.node == r0.node)).length : Nat) : ℝ) ≠ 0 :=
    Nat.cast_ne_zero.2 (List.length_pos_of_mem (List.mem_filter.2 ⟨hr0, by simp⟩)).ne'
  rw [sumMap_eq_sum, List.sum_eq_card_nsmul _ _ (List.forall_mem_map.2 hall), List.length_map, nsmul_eq_mul,
    mul_div_cancel_left₀ _ hlen]

theorem indexOf_spec (ids : List Int) (nb : Int) (h : nb ∈ ids) :
    ∃ hlt : indexOf ids nb < ids.length, ids[indexOf ids nb] = nb := by
  have hex : ∃ x ∈ ids, (x == nb) = true := ⟨nb, h, by simp⟩
  have hlt : indexOf ids nb < ids.length := List.findIdx_lt_length_of_exists hex
  refine ⟨hlt, ?_⟩
  unfold indexOf at hlt ⊢
  have h2 := List.findIdx_getElem (w := hlt)
  simpa using h2

theorem nodeData_getD (rows : List (MRow ℝ)) (ids : List Int) (cnt : Nat → ℝ) (zero : V3 ℝ × ℝ) (i : Nat)
    (hi : i < ids.length) :
    (nodeData rows ids cnt).toArray.getD i zero =
      (nodePos rows ids[i], sumMap (·.v) (rows.filter (·.node == ids[i])) / cnt (rows.filter (·.node == ids[i])).length) := by
  simp [nodeData, nodePos, Array.getD, hi]

theorem mem_neighbors_nodes (rows : List (MRow ℝ)) (id nb : Int) (h : nb ∈ neighbors rows id) :
    nb ∈ rows.map (·.node) := by
  simp only [neighbors, List.mem_filter, mem_sortedUnique, List.mem_map] at h
  obtain ⟨⟨r, hr, rfl⟩, _⟩ := h
  exact List.mem_map.2 ⟨r, hr.1, rfl⟩

/-- The pipeline reduced to the solver, for every node numbering: on a linear field each output row `(id, gradient)`
of `Gradient.gradient_of` is `lstsq3` of that node's system `A = nbrDiffs rows id` with right-hand side `A g`. -/
theorem gradientLsq_eq_lstsq3 (rtol : ℝ) (rows : List (MRow ℝ)) (g : V3 ℝ) (c : ℝ)
    (hcoord : ∀ r ∈ rows, ∀ r' ∈ rows, r.node = r'.node → r.p = r'.p)
    (hlin : ∀ r ∈ rows, r.v = g.dot r.p + c)
    (id : Int) (gr : V3 ℝ) (hmem : (id, gr) ∈ gradientLsq rtol (fun n => (n : ℝ)) rows) :
    gr = lstsq3 rtol ((nbrDiffs rows id).map fun a => (a, a.dot g)) := by
  simp only [gradientLsq, List.mem_map] at hmem
  obtain ⟨⟨id', pos⟩, hz, heq⟩ := hmem
  simp only [Prod.mk.injEq] at heq
  obtain ⟨rfl, hgr⟩ := heq
  obtain ⟨hpos, hidpos⟩ : ∃ h : pos < (sortedUnique (rows.map (·.node))).length,
      (sortedUnique (rows.map (·.node)))[pos] = id' := by
    obtain ⟨h1, h2⟩ := List.mem_zipIdx' hz
    exact ⟨h1, h2.symm⟩
  have hid : id' ∈ rows.map (·.node) := by
    rw [← mem_sortedUnique, ← hidpos]; exact List.getElem_mem _
  rw [← hgr]
  congr 1
  simp only [nbrDiffs, List.map_map]
  apply List.map_congr_left
  intro nb hnb
  have hnbmem : nb ∈ sortedUnique (rows.map (·.node)) := (mem_sortedUnique _ _).2 (mem_neighbors_nodes rows id' nb hnb)
  obtain ⟨hlt, hget⟩ := indexOf_spec _ nb hnbmem
  simp only [Function.comp]
  rw [nodeData_getD _ _ _ _ _ hlt, nodeData_getD _ _ _ _ _ hpos, hget, hidpos]
  simp only
  rw [nodeEntry_linear rows g c hcoord hlin nb (mem_neighbors_nodes rows id' nb hnb),
    nodeEntry_linear rows g c hcoord hlin id' hid]
  simp only [V3.sub, V3.dot, Prod.mk.injEq, true_and]
  ring

theorem mem_neighbors_of_elem (rows : List (MRow ℝ)) (r0 r1 : MRow ℝ) (h0 : r0 ∈ rows) (h1 : r1 ∈ rows)
    (he : r1.elem = r0.elem) (hne : r1.node ≠ r0.node) : r1.node ∈ neighbors rows r0.node := by
  simp only [neighbors, List.mem_filter, mem_sortedUnique, List.mem_map]
  refine ⟨⟨r1, ⟨h1, ?_⟩, rfl⟩, by simpa using hne⟩
  simp only [List.contains_eq_mem, List.mem_map, List.mem_filter, decide_eq_true_eq]
  exact ⟨r0, ⟨h0, by simp⟩, he.symm⟩

/-- **The rank hypothesis of the least-squares operator from the geometry**: if node `id` is a corner of a
tetrahedral element (rows `r0` (the node itself), `r1, r2, r3` of one element id, the three others at different node
ids) whose edges at that corner have a non-zero triple product, the least-squares system `nbrDiffs rows id` of the
node has full column rank. -/
theorem nbrDiffs_full_rank_of_tet (rows : List (MRow ℝ))
    (hcoord : ∀ r ∈ rows, ∀ r' ∈ rows, r.node = r'.node → r.p = r'.p)
    (r0 r1 r2 r3 : MRow ℝ) (h0 : r0 ∈ rows) (h1 : r1 ∈ rows) (h2 : r2 ∈ rows) (h3 : r3 ∈ rows)
    (he1 : r1.elem = r0.elem) (he2 : r2.elem = r0.elem) (he3 : r3.elem = r0.elem)
    (hn1 : r1.node ≠ r0.node) (hn2 : r2.node ≠ r0.node) (hn3 : r3.node ≠ r0.node)
    (ht : triple (r1.p.sub r0.p) (r2.p.sub r0.p) (r3.p.sub r0.p) ≠ 0) :
    ∀ v : V3 ℝ, (∀ a ∈ nbrDiffs rows r0.node, a.dot v = 0) → v = ⟨0, 0, 0⟩ := by
  intro v hv
  have hmem : ∀ r ∈ rows, r.elem = r0.elem → r.node ≠ r0.node → (r.p.sub r0.p) ∈ nbrDiffs rows r0.node := by
    intro r hr he hn
    simp only [nbrDiffs, List.mem_map]
    refine ⟨r.node, mem_neighbors_of_elem rows r0 r h0 hr he hn, ?_⟩
    rw [nodePos_eq_of_mem rows hcoord r hr, nodePos_eq_of_mem rows hcoord r0 h0]
  exact eq_zero_of_dot_eq_zero _ _ _ v ht (hv _ (hmem r1 h1 he1 hn1)) (hv _ (hmem r2 h2 he2 hn2))
    (hv _ (hmem r3 h3 he3 hn3))

/-- Non-vacuity: node 7 of a one-tetrahedron mesh (ids 7, 20, 3, 11). -/
theorem tet1_full_rank : ∀ v : V3 ℝ, (∀ a ∈ nbrDiffs ([⟨7, 1, ⟨0, 0, 0⟩, 1⟩, ⟨20, 1, ⟨1, 0, 0⟩, 3⟩, ⟨3, 1, ⟨0, 1, 0⟩, 4⟩,
    ⟨11, 1, ⟨0, 0, 1⟩, 0⟩] : List (MRow ℝ)) 7, a.dot v = 0) → v = ⟨0, 0, 0⟩ :=
  nbrDiffs_full_rank_of_tet _ (coords_consistent_of_nodup _ (by decide)) ⟨7, 1, ⟨0, 0, 0⟩, 1⟩ ⟨20, 1, ⟨1, 0, 0⟩, 3⟩
    ⟨3, 1, ⟨0, 1, 0⟩, 4⟩ ⟨11, 1, ⟨0, 0, 1⟩, 0⟩ (by simp) (by simp) (by simp) (by simp) rfl rfl rfl (by decide) (by decide)
    (by decide) (by norm_num [triple, V3.dot, V3.cross, V3.sub])

example : ∀ v : V3 ℝ, (∀ a ∈ nbrDiffs ([⟨7, 1, ⟨0, 0, 0⟩, 1⟩, ⟨20, 1, ⟨1, 0, 0⟩, 3⟩, ⟨3, 1, ⟨0, 1, 0⟩, 4⟩,
    ⟨11, 1, ⟨0, 0, 1⟩, 0⟩] : List (MRow ℝ)) 7, a.dot v = 0) → v = ⟨0, 0, 0⟩ := by
  exact tet1_full_rank

end PylifeVerif.Mesh
