/-
Helper lemmas for the FKM (Clormann–Seeger HCM) detector model: C02 (equality with the reference
HCM rule, partition of the turning points) and C03 (sign flip).
The closing loop of the model and that of the reference both carry out the `closings` of
`HCMVerdict.lean` and then Memory 3 (`fkmLoop_eq`, `hcmLoop_eq`); what the loops keep, permute and do
under a sign flip are facts about `closings`.
-/
import Proofs.Lemmas.Turns
import Proofs.Lemmas.HCMVerdict

namespace PylifeVerif.Rainflow.Fkm
open PylifeVerif.Rainflow PylifeVerif.HCM

/-- `ZigD up a l`: the sequence `a :: l` strictly alternates, the first step going up iff `up`. -/
def ZigD : Bool → Int → List Int → Prop
  | _, _, [] => True
  | up, a, b :: rest => (if up then a < b else b < a) ∧ ZigD (!up) b rest

/-- A list of integers strictly alternates (zig-zag). -/
def Alternating : List Int → Prop
  | [] => True
  | k :: rest => ZigD true k rest ∨ ZigD false k rest

instance instDecidableZigD : ∀ up a l, Decidable (ZigD up a l)
  | _, _, [] => isTrue trivial
  | up, a, b :: rest =>
    have := instDecidableZigD (!up) b rest
    by unfold ZigD; exact inferInstance

instance : ∀ l, Decidable (Alternating l)
  | [] => isTrue trivial
  | k :: rest => by unfold Alternating; exact inferInstance

theorem zigD_cons {up : Bool} {a b : Int} {rest : List Int} :
    ZigD up a (b :: rest) ↔ dlt up a b ∧ ZigD (!up) b rest := Iff.rfl

theorem ZigD.of_dle {up : Bool} {a a' : Int} {l : List Int} (h : dle up a a') (hz : ZigD up a' l) :
    ZigD up a l := by
  cases l with
  | nil => trivial
  | cons b l => exact ⟨dle_dlt_trans h (zigD_cons.1 hz).1, (zigD_cons.1 hz).2⟩

theorem natAbs_le_of_dle {up : Bool} {c i j : Int} (hci : dle up c i) (hij : dlt up i j)
    (h : j.natAbs ≤ i.natAbs) : i.natAbs ≤ c.natAbs := by
  cases up <;> simp only [dle, dlt, if_true, Bool.false_eq_true, if_false] at * <;> omega

theorem dlt_of_noclose {up : Bool} {c j i : Int} (hcj : dlt up c j) (hij : dlt up i j)
    (h : absDiff c j < absDiff j i) : dlt up i c := by
  cases up <;> simp only [dlt, absDiff, if_true, Bool.false_eq_true, if_false] at * <;> omega

theorem natAbs_le_of_between {up : Bool} {c j i : Int} (hic : dlt up i c) (hcj : dlt up c j) :
    c.natAbs ≤ i.natAbs ∨ c.natAbs ≤ j.natAbs := by
  cases up <;> simp only [dlt, if_true, Bool.false_eq_true, if_false] at * <;> omega

/-- The residual at position `ir - 1` counted from the bottom (if present) carries the running
maximum. -/
def PrimMax (res : List Int) (ir maxTurn : Nat) : Prop :=
  ∀ M, res.reverse[ir - 1]? = some M → M.natAbs = maxTurn

theorem primMax_suffix {pre left : List Int} {ir m : Nat} (h : PrimMax (pre ++ left) ir m) :
    PrimMax left ir m := by
  intro M hM
  apply h M
  rw [List.reverse_append, List.getElem?_append_left (List.getElem?_eq_some_iff.1 hM).1]
  exact hM

theorem primMax_top {j : Int} {t : List Int} {ir m : Nat}
    (h : PrimMax (j :: t) ir m) (hlen : t.length + 1 = ir) : j.natAbs = m := by
  apply h j
  subst hlen
  simp

theorem primMax_second {j i : Int} {rest : List Int} {ir m : Nat}
    (h : PrimMax (j :: i :: rest) ir m) (hlen : rest.length + 1 = ir) : i.natAbs = m := by
  apply h i
  subst hlen
  simp

/-- pushing a new maximum on the primary path -/
theorem primMax_cons_top {cur : Int} {res : List Int} {ir m : Nat} (hir : ir = res.length + 1)
    (hm : m ≤ cur.natAbs) : PrimMax (cur :: res) ir (max cur.natAbs m) := by
  intro M hM
  subst hir
  simp at hM
  omega

/-- pushing a turn that does not exceed the maximum, above the primary path -/
theorem primMax_cons_below {cur : Int} {res : List Int} {ir m : Nat} (hir : 1 ≤ ir)
    (hlen : ir ≤ res.length) (h : PrimMax res ir m) (hm : cur.natAbs ≤ m) :
    PrimMax (cur :: res) ir (max cur.natAbs m) := by
  intro M hM
  rw [List.reverse_cons, List.getElem?_append_left (by simp; omega)] at hM
  have := h M hM
  omega

/-- `ir` after the loop (Memory 3) -/
def irAfter (cur : Int) (ir m : Nat) (left : List Int) : Nat :=
  if left.length = ir ∧ cur.natAbs > m then ir + 1 else ir

/-- the fuel that is left after a closing suffices for the residuals that are left -/
theorem fuel_pop {n fuel : Nat} (h : (n + 2) / 2 < fuel + 1) : n / 2 < fuel := by
  rw [Nat.add_div_right n (by decide)] at h
  exact Nat.lt_of_succ_lt_succ h

/-- a loop that stops at once, where nothing closes -/
theorem loop_stop {cur : Int} {ir m : Nat} {res : List Int} (acc : List (Int × Int)) {ir' : Nat}
    (hc : closings id cur ir res = ([], res)) (h : irAfter cur ir m res = ir') :
    (res, ir', acc) = ((closings id cur ir res).2, irAfter cur ir m (closings id cur ir res).2,
      acc ++ (closings id cur ir res).1) := by
  subst h
  rw [hc, List.append_nil]

theorem closings_short (x : Int) (ir : Nat) {res : List Int}
    (h : ∀ (j i : Int) (rest : List Int), res = j :: i :: rest → False) :
    closings id x ir res = ([], res) :=
  match res, h with
  | [], _ => rfl
  | [_], _ => rfl
  | j :: i :: rest, h => (h j i rest rfl).elim

theorem fkmLoop_eq (cur : Int) (m : Nat) (fuel : Nat) (res : List Int) (ir : Nat)
    (acc : List (Int × Int)) (hf : res.length / 2 < fuel) :
    fkmLoop cur m fuel res ir acc =
      ((closings id cur ir res).2, irAfter cur ir m (closings id cur ir res).2,
        acc ++ (closings id cur ir res).1) := by
  fun_induction fkmLoop cur m fuel res ir acc with
  | case1 res ir acc => exact absurd hf (Nat.not_lt_zero _)
  | case2 fuel res ir acc iz h1 =>
    exact loop_stop acc (closings_of_le id cur ir res (Nat.le_of_lt h1))
      (if_neg fun h => Nat.ne_of_lt h1 h.1)
  | case3 fuel ir acc j i rest hclose iz h1 h3 ih =>
    rw [closings_cons_cons, if_pos ⟨h3, Nat.not_lt.2 hclose⟩,
      ih (fuel_pop hf), List.append_assoc]
    rfl
  | case4 fuel ir acc j i rest hclose iz h1 h3 =>
    exact loop_stop acc (by rw [closings_cons_cons, if_neg fun h => hclose (Nat.not_lt.1 h.2)])
      (if_neg fun h => Nat.ne_of_gt h3 h.1)
  | case5 fuel res ir acc iz h1 h3 hshape =>
    exact loop_stop acc (closings_short cur ir hshape) (if_neg fun h => Nat.ne_of_gt h3 h.1)
  | case6 fuel res ir acc iz h1 h3 hgt =>
    exact loop_stop acc (closings_of_le id cur ir res (Nat.le_of_not_lt h3))
      (if_pos ⟨Nat.le_antisymm (Nat.le_of_not_lt h3) (Nat.le_of_not_lt h1), hgt⟩)
  | case7 fuel res ir acc iz h1 h3 hgt =>
    exact loop_stop acc (closings_of_le id cur ir res (Nat.le_of_not_lt h3)) (if_neg fun h => hgt h.2)

/-- The reference loop compares with the top residual where the model compares with `m`: the same,
as long as the residual at position `ir - 1` from the bottom carries `m` (`PrimMax`). -/
theorem hcmLoop_eq (k : Int) (m : Nat) (fuel : Nat) (res : List Int) (ir : Nat)
    (acc : List (Int × Int)) (hf : res.length / 2 < fuel) (hir : 1 ≤ ir) (h2 : PrimMax res ir m) :
    Spec.hcmLoop k fuel res ir acc =
      ((closings id k ir res).2, irAfter k ir m (closings id k ir res).2,
        acc ++ (closings id k ir res).1) := by
  fun_induction Spec.hcmLoop k fuel res ir acc with
  | case1 res ir acc => exact absurd hf (Nat.not_lt_zero _)
  | case2 fuel ir acc j i rest hclose iz h3 ih =>
    rw [closings_cons_cons, if_pos ⟨h3, Nat.not_lt.2 hclose⟩,
      ih (fuel_pop hf) hir (primMax_suffix (pre := [j, i]) h2), List.append_assoc]
    rfl
  | case3 fuel ir acc j i rest hclose iz h3 =>
    exact loop_stop acc (by rw [closings_cons_cons, if_neg fun h => hclose (Nat.not_lt.1 h.2)])
      (if_neg fun h => Nat.ne_of_gt h3 h.1)
  | case4 fuel res ir acc iz h3 hshape =>
    exact loop_stop acc (closings_short k ir hshape) (if_neg fun h => Nat.ne_of_gt h3 h.1)
  | case5 fuel acc j t hgt iz h3 =>
    exact loop_stop acc (closings_of_le id k iz (j :: t) (Nat.le_refl _))
      (if_pos ⟨rfl, primMax_top h2 rfl ▸ hgt⟩)
  | case6 fuel acc j t hgt iz h3 =>
    exact loop_stop acc (closings_of_le id k iz (j :: t) (Nat.le_refl _))
      (if_neg fun h => hgt (primMax_top h2 rfl ▸ h.2))
  | case7 fuel acc iz h3 => exact absurd hir (Nat.not_succ_le_zero 0)
  | case8 fuel res ir acc iz h3 hne =>
    exact loop_stop acc (closings_of_le id k ir res (Nat.le_of_not_lt h3)) (if_neg fun h => hne h.1)

/-- What the closings of a turn `cur` that continues the zig-zag of the residuals leave: the zig-zag
survives; if they reach below the primary path, `cur` is a new maximum; if they stop above it, `cur`
is none. -/
theorem closings_post (cur : Int) (d : Bool) (ir m : Nat) (hir : 1 ≤ ir) : ∀ res : List Int,
    ZigD d cur res → (∀ r ∈ res, r.natAbs ≤ m) → PrimMax res ir m → (res.length < ir → m ≤ cur.natAbs) →
    ZigD d cur (closings id cur ir res).2 ∧
    ((closings id cur ir res).2.length < ir → m ≤ cur.natAbs) ∧
    (ir < (closings id cur ir res).2.length → cur.natAbs ≤ m)
  | [], hz, _, _, hlt => ⟨hz, hlt, nofun⟩
  | [_], hz, _, _, hlt => ⟨hz, hlt, fun h => absurd h (Nat.not_lt.2 hir)⟩
  | j :: i :: rest, hz, hb, h2, hlt => by
    rw [closings_cons_cons]
    obtain ⟨hcj, hji, hi⟩ := hz
    have hij : dlt d i j := (dlt_not d j i).1 hji
    have hj := hb j (List.mem_cons_self ..)
    have hi' := hb i (List.mem_cons_of_mem _ (List.mem_cons_self ..))
    split
    · next hc =>
      -- the closed pair lies beyond `cur`: `cur ≤ i < j` in direction `d`
      have hci : dle d cur i := dle_of_close hij hcj (Nat.not_lt.1 hc.2)
      rw [Bool.not_not] at hi
      exact closings_post cur d ir m hir rest (ZigD.of_dle hci hi)
        (fun r hr => hb r (List.mem_cons_of_mem _ (List.mem_cons_of_mem _ hr)))
        (primMax_suffix (pre := [j, i]) h2)
        fun hl => by
          -- `i` was the primary-path residual: it carries the maximum, and `cur` lies beyond it
          have hi := primMax_second h2 (by omega)
          have := natAbs_le_of_dle hci hij (by omega)
          omega
    · next hc =>
      refine ⟨⟨hcj, hji, hi⟩, hlt, fun hl => ?_⟩
      have hclose : absDiff cur j < absDiff j i := Classical.not_not.1 fun hn => hc ⟨hl, hn⟩
      rcases natAbs_le_of_between (dlt_of_noclose hcj hij hclose) hcj with h | h
      · exact Nat.le_trans h hi'
      · exact Nat.le_trans h hj

theorem fkmTurn_eq (st : FkmState) (cur : Int) :
    fkmTurn st cur =
      { st with
        res := cur :: (closings id cur st.ir st.res).2,
        ir := irAfter cur st.ir st.maxTurn (closings id cur st.ir st.res).2,
        maxTurn := max cur.natAbs st.maxTurn,
        cycles := st.cycles ++ (closings id cur st.ir st.res).1 } := by
  unfold fkmTurn
  rw [fkmLoop_eq _ _ _ _ _ _ (Nat.lt_add_of_pos_right (by decide)), List.nil_append]

/-- the reference state that a model state stands for -/
def toHcm (st : FkmState) : Spec.HcmState := { res := st.res, ir := st.ir, cycles := st.cycles }

theorem hcmTurn_toHcm (st : FkmState) (cur : Int) (hir : 1 ≤ st.ir)
    (prim : PrimMax st.res st.ir st.maxTurn) :
    Spec.hcmTurn (toHcm st) cur = toHcm (fkmTurn st cur) := by
  rw [fkmTurn_eq]
  unfold Spec.hcmTurn toHcm
  dsimp only
  rw [hcmLoop_eq cur st.maxTurn _ _ _ _ (Nat.lt_add_of_pos_right (by decide)) hir prim, List.nil_append]

/-- Invariant of the model state with respect to the turning points still to come. -/
structure Inv (st : FkmState) (turns : List Int) : Prop where
  hir : 1 ≤ st.ir
  hlen : st.ir ≤ st.res.length + 1
  hb : ∀ r ∈ st.res, r.natAbs ≤ st.maxTurn
  prim : PrimMax st.res st.ir st.maxTurn
  first : st.res.length < st.ir → st.maxTurn = 0
  zig : match turns with
    | [] => True
    | k :: rest => ∃ d, ZigD d k rest ∧ ZigD d k st.res

theorem inv_init (t : TurnState) (turns : List Int) (h : Alternating turns) :
    Inv { ts := t } turns := by
  refine ⟨Nat.le_refl _, by simp, by simp, ?_, fun _ => rfl, ?_⟩
  · intro M hM; simp at hM
  · cases turns with
    | nil => trivial
    | cons k rest =>
      rcases h with h | h
      · exact ⟨true, h, trivial⟩
      · exact ⟨false, h, trivial⟩

theorem inv_step (st : FkmState) (cur : Int) (rest : List Int) (h : Inv st (cur :: rest)) :
    Inv (fkmTurn st cur) rest := by
  obtain ⟨hir, hlen, hb, prim, first, d, hzt, hzr⟩ := h
  obtain ⟨p1, p3, p4⟩ := closings_post cur d st.ir st.maxTurn hir st.res hzr hb prim
    (fun hl => by have := first hl; omega)
  have p2 := closings_len id cur st.ir st.res hlen
  obtain ⟨pre, hp⟩ := closings_suffix id cur st.ir st.res
  have prim' := primMax_suffix (hp ▸ prim)
  have hb' := fun r hr => hb r (hp ▸ List.mem_append_right pre hr)
  rw [fkmTurn_eq]
  generalize (closings id cur st.ir st.res).2 = left at *
  have hia : st.ir ≤ irAfter cur st.ir st.maxTurn left ∧ irAfter cur st.ir st.maxTurn left ≤ left.length + 1 := by
    unfold irAfter; split <;> omega
  refine ⟨Nat.le_trans hir hia.1, Nat.le_succ_of_le hia.2, ?_, ?_, fun hl => absurd hl (Nat.not_lt.2 hia.2), ?_⟩
  · intro r hr
    rcases List.mem_cons.1 hr with rfl | hr
    · exact Nat.le_max_left _ _
    · exact Nat.le_trans (hb' r hr) (Nat.le_max_right _ _)
  · -- where `cur` lands: on the primary path as a new maximum, or above it as none
    show PrimMax (cur :: left) (irAfter cur st.ir st.maxTurn left) (max cur.natAbs st.maxTurn)
    unfold irAfter
    split
    · next h => exact primMax_cons_top (by omega) (by omega)
    · next h =>
      by_cases hl : left.length < st.ir
      · exact primMax_cons_top (by omega) (p3 hl)
      · exact primMax_cons_below hir (by omega) prim' (by
          by_cases he : left.length = st.ir
          · exact Nat.le_of_not_lt fun hg => h ⟨he, hg⟩
          · exact p4 (by omega))
  · cases rest with
    | nil => trivial
    | cons k2 rest2 =>
      obtain ⟨h1, h2⟩ := zigD_cons.1 hzt
      exact ⟨!d, h2, zigD_cons.2 ⟨(dlt_not d _ _).2 h1, by rwa [Bool.not_not]⟩⟩

theorem hcmFold_toHcm (turns : List Int) (st : FkmState) (hi : Inv st turns) :
    turns.foldl Spec.hcmTurn (toHcm st) = toHcm (turns.foldl fkmTurn st) := by
  induction turns generalizing st with
  | nil => rfl
  | cons k rest ih =>
    rw [List.foldl_cons, List.foldl_cons, hcmTurn_toHcm st k hi.hir hi.prim]
    exact ih _ (inv_step st k rest hi)

/-- The model loop, run over an alternating list of turning-point values from the initial state,
agrees with the reference HCM rule. -/
theorem fkmFold_eq_hcm (t : TurnState) (turns : List Int) (h : Alternating turns) :
    (turns.foldl fkmTurn { ts := t }).res = (Spec.hcm turns).res ∧
    (turns.foldl fkmTurn { ts := t }).ir = (Spec.hcm turns).ir ∧
    (turns.foldl fkmTurn { ts := t }).cycles = (Spec.hcm turns).cycles := by
  rw [show Spec.hcm turns = _ from hcmFold_toHcm turns { ts := t } (inv_init t turns h)]
  exact ⟨rfl, rfl, rfl⟩

theorem zigD_iff_alt : ∀ (l : List Int) (up : Bool) (a : Int), ZigD up a l ↔ C04.Alt up (a :: l)
  | [], _, _ => Iff.rfl
  | b :: l, up, _ => and_congr Iff.rfl (zigD_iff_alt l (!up) b)

theorem alternating_of_zig : ∀ l : List Int, C04.Zig l → Alternating l
  | [], _ => trivial
  | k :: rest, ⟨up, h⟩ => by
    have := (zigD_iff_alt rest up k).2 h
    cases up <;> [exact Or.inr this; exact Or.inl this]

theorem findTurns_alternating (s : List Int) : Alternating ((findTurns s).map (·.2)) := by
  cases s with
  | nil => trivial
  | cons x xs =>
    obtain ⟨up, h⟩ := findTurns_zig x xs
    exact alternating_of_zig _ ⟨_, C04.alt_tl up x _ h⟩

/-- The two points of a closed cycle. -/
abbrev pair : Int × Int → List Int := fun c => [c.1, c.2]

theorem closings_perm (x : Int) (ir : Nat) : ∀ l : List Int,
    ((closings id x ir l).1.flatMap pair ++ (closings id x ir l).2).Perm l
  | [] => .refl _
  | [_] => .refl _
  | j :: i :: rest => by
    rw [closings_cons_cons]
    split
    · exact (((closings_perm x ir rest).cons j).cons i).trans (.swap j i rest)
    · exact .refl _

theorem fkmTurn_perm (st : FkmState) (cur : Int) :
    (((fkmTurn st cur).cycles.flatMap pair) ++ (fkmTurn st cur).res).Perm
      ((st.cycles.flatMap pair ++ st.res) ++ [cur]) := by
  rw [fkmTurn_eq]
  simp only
  rw [List.flatMap_append, List.append_assoc, List.append_assoc]
  refine List.Perm.append_left _ ?_
  refine List.perm_middle.trans ?_
  refine (List.Perm.cons cur (closings_perm cur st.ir st.res)).trans ?_
  exact (List.perm_append_singleton cur st.res).symm

theorem fkmFold_perm (turns : List Int) (st : FkmState) :
    (((turns.foldl fkmTurn st).cycles.flatMap pair) ++ (turns.foldl fkmTurn st).res).Perm
      ((st.cycles.flatMap pair ++ st.res) ++ turns) := by
  induction turns generalizing st with
  | nil => simp
  | cons k rest ih =>
    simp only [List.foldl_cons]
    refine (ih (fkmTurn st k)).trans ?_
    refine ((fkmTurn_perm st k).append_right rest).trans ?_
    simp

abbrev negPair : Int × Int → Int × Int := fun c => (-c.1, -c.2)

/-- sign flip of what `fkmTurn` works on (`ts` is carried along) -/
def negSt (st : FkmState) : FkmState :=
  { st with res := st.res.map (- ·), cycles := st.cycles.map negPair }

theorem absDiff_neg_neg (x y : Int) : absDiff (-x) (-y) = absDiff x y := by
  unfold absDiff; omega

theorem closings_neg (x : Int) (ir : Nat) (l : List Int) :
    closings id (-x) ir (l.map (- ·)) =
      ((closings id x ir l).1.map negPair, (closings id x ir l).2.map (- ·)) :=
  closings_map id x ir (- ·) id (-x) l fun p1 _ p0 _ => by
    show absDiff x p1 < absDiff p1 p0 ↔ absDiff (-x) (-p1) < absDiff (-p1) (-p0)
    rw [absDiff_neg_neg, absDiff_neg_neg]

theorem fkmTurn_neg (st : FkmState) (cur : Int) :
    fkmTurn (negSt st) (-cur) = negSt (fkmTurn st cur) := by
  rw [fkmTurn_eq, fkmTurn_eq]
  simp only [negSt, closings_neg, irAfter, List.length_map, Int.natAbs_neg, List.map_cons, List.map_append]

theorem fkmFold_neg (turns : List Int) (st : FkmState) :
    (turns.map (- ·)).foldl fkmTurn (negSt st) = negSt (turns.foldl fkmTurn st) := by
  rw [List.foldl_map]
  exact List.foldl_hom negSt fun st cur => fkmTurn_neg st cur

end PylifeVerif.Rainflow.Fkm
