/-
The load-only HCM machine (`aLoop` / `aStep` / `aRun`: residual loads, `ir`, largest absolute load; emitted
`(min, max)` ranges of all recorded hystereses; `aLoop` is the verdict of `HCMVerdict.lean` on bare loads).
A turning point beyond the largest load so far closes everything above position `ir` and ends up exactly
there (`aLoop_ir`: `iz = ir`); in that state, and as long as nothing larger comes, the machine is the rooted
machine `mStep` above the turning point (`aRun_sat`), so it is behind the first turning point of largest
absolute value (`aRun_rooted`).  Hence `abs_main`: the ranges emitted in pass 2 are the four-point count
of one closed window.
-/
import Proofs.Lemmas.HCMPass2
import Proofs.Lemmas.HCMVerdict

namespace PylifeVerif.C04
open PylifeVerif.Rainflow PylifeVerif.HCM PylifeVerif.HCM.Spec

/-- The `while True` loop of `_hcm_process_sample` on loads only (stack top first): the emitted ranges
(Memory 3: `(-|j|, |j|)`), the stack and the new `ir` of the verdict on bare loads. -/
def aLoop (x : Int) (ir lmax : Nat) (stk : List Int) : List (Int × Int) × List Int × Nat :=
  (ranges (verdict id x ir lmax stk), (verdict id x ir lmax stk).rest, (verdict id x ir lmax stk).ir ir)

structure AState where
  stk : List Int
  ir : Nat
  lmax : Nat

def aInit : AState := ⟨[], 1, 0⟩

def aStep (σ : AState) (x : Int) : List (Int × Int) × AState :=
  let r := aLoop x σ.ir σ.lmax σ.stk
  (r.1, ⟨x :: r.2.1, r.2.2, max σ.lmax x.natAbs⟩)

def aRun : AState → List Int → List (Int × Int) × AState
  | σ, [] => ([], σ)
  | σ, x :: xs =>
    let r := aStep σ x
    let r' := aRun r.2 xs
    (r.1 ++ r'.1, r'.2)

theorem aRun_append (xs ys : List Int) : ∀ σ : AState,
    aRun σ (xs ++ ys) = ((aRun σ xs).1 ++ (aRun (aRun σ xs).2 ys).1, (aRun (aRun σ xs).2 ys).2) := by
  induction xs with
  | nil => intro σ; simp [aRun]
  | cons x xs ih => intro σ; simp [aRun, ih]

theorem aLoop_of_le (x : Int) (ir lmax : Nat) (stk : List Int) (hx : x.natAbs ≤ lmax) :
    aLoop x ir lmax stk = ((closings id x ir stk).1.map fun q => (min q.1 q.2, max q.1 q.2),
      (closings id x ir stk).2, ir) := by
  have hn : ¬ x.natAbs > lmax := by omega
  simp only [aLoop, verdict, ranges, Verdict.ir]
  cases (closings id x ir stk).2 with
  | nil => simp [outcome]
  | cons top tl =>
    simp only [outcome, hn, and_false, if_false]
    split_ifs <;> simp

theorem aLoop_sat (M : Int) (A : List Int) (x : Int) (B : List Int) (hx : x.natAbs ≤ M.natAbs) :
    (aLoop x (B.length + 1) M.natAbs (A ++ M :: B)).1 = (mStep M A x).1 ∧
    (aLoop x (B.length + 1) M.natAbs (A ++ M :: B)).2.2 = B.length + 1 ∧
    ((mStep M A x).2 = [] → (aLoop x (B.length + 1) M.natAbs (A ++ M :: B)).2.1 = B) ∧
    ((mStep M A x).2 ≠ [] →
      x :: (aLoop x (B.length + 1) M.natAbs (A ++ M :: B)).2.1 = (mStep M A x).2 ++ M :: B) := by
  rw [aLoop_of_le _ _ _ _ hx]
  fun_induction mStep M A x with
  | case1 x =>
    rw [List.nil_append, closings_of_le id x (B.length + 1) (M :: B) (by simp)]
    simp
  | case2 j x h =>
    rw [List.cons_append, List.nil_append, closings_cons_cons, if_neg (fun hc => hc.2 h)]
    simp
  | case3 j x h =>
    rw [List.cons_append, List.nil_append, closings_cons_cons, if_pos ⟨by omega, h⟩,
      closings_of_le id x (B.length + 1) B (Nat.le_succ _)]
    simp
  | case4 j i rest x h =>
    rw [List.cons_append, List.cons_append, closings_cons_cons, if_neg (fun hc => hc.2 h)]
    simp
  | case5 j i rest x h r ih =>
    rw [List.cons_append, List.cons_append, closings_cons_cons,
      if_pos ⟨by simp only [List.length_append, List.length_cons]; omega, h⟩]
    obtain ⟨i1, i2, i3, i4⟩ := ih hx
    exact ⟨congrArg ((min i j, max i j) :: ·) i1, i2, i3, i4⟩

theorem aStep_sat (M : Int) (A : List Int) (x : Int) (B : List Int)
    (hz : Zig (M :: (A.reverse ++ [x]))) (hD : Dec (A ++ [M]))
    (hb : ∀ a ∈ A, a.natAbs ≤ M.natAbs) (hx : x.natAbs ≤ M.natAbs) :
    aStep ⟨A ++ M :: B, B.length + 1, M.natAbs⟩ x =
      ((mStep M A x).1, ⟨(mStep M A x).2 ++ M :: B, B.length + 1, M.natAbs⟩) := by
  obtain ⟨i1, i2, i3, i4⟩ := aLoop_sat M A x B hx
  unfold aStep
  simp only [i1, i2, Nat.max_eq_left hx]
  congr 2
  by_cases h : (mStep M A x).2 = []
  · rw [i3 h, h, (mStep_nil_iff M A x hz hD hb hx).1 h]; rfl
  · exact i4 h

/-- In the saturated phase the load-only machine is the rooted machine above the base. -/
theorem aRun_sat (M : Int) (B : List Int) (xs : List Int) :
    ∀ (H : List Int) (Es : List (Int × Int)) (A : List Int),
    K M H Es A → Zig (H ++ xs) → (∀ x ∈ xs, x.natAbs ≤ M.natAbs) →
    aRun ⟨A ++ M :: B, B.length + 1, M.natAbs⟩ xs =
      ((mRun M A xs).1, ⟨(mRun M A xs).2 ++ M :: B, B.length + 1, M.natAbs⟩) := by
  induction xs with
  | nil => intro H Es A _ _ _; rfl
  | cons x xs ih =>
    intro H Es A hK hz hx
    have hz1 : Zig (H ++ [x]) := zig_infix [] (H ++ [x]) xs (by simpa using hz)
    have hs := aStep_sat M A x B (K_zig x hK hz1) hK.1 hK.2.1 (hx x (by simp))
    have := ih (H ++ [x]) (Es ++ (mStep M A x).1) (mStep M A x).2
      (K_step M H Es A x hK hz1 (hx x (by simp))) (by simpa using hz)
      (fun y hy => hx y (by simp [hy]))
    simp only [aRun, mRun, hs, this]

theorem zig_pop (rest : List Int) (i j x : Int) (rem : List Int)
    (hz : Zig ((j :: i :: rest).reverse ++ x :: rem)) (hc : ¬ absDiff x j < absDiff j i) :
    Zig (rest.reverse ++ x :: rem) := by
  cases rest with
  | nil =>
    obtain ⟨up, hA⟩ := hz
    exact alt_suffix [i, j] (x :: rem) up (by simpa using hA)
  | cons h r =>
    obtain ⟨up, hA⟩ := hz
    refine ⟨up, ?_⟩
    have := alt_pop r.reverse up h i j x rem (by simpa using hA) (by omega)
    simpa using this

theorem closings_zig (x : Int) (ir : Nat) (rem : List Int) : ∀ stk : List Int,
    Zig (stk.reverse ++ x :: rem) → Zig ((closings id x ir stk).2.reverse ++ x :: rem)
  | [], h => h
  | [_], h => h
  | j :: i :: rest, h => by
    rw [closings_cons_cons]
    split
    · next hc => exact closings_zig x ir rem rest (zig_pop rest i j x rem h hc.2)
    · exact h

theorem closings_stop (x : Int) (ir : Nat) : ∀ (stk : List Int) (p1 p0 : Int) (tl : List Int),
    (closings id x ir stk).2 = p1 :: p0 :: tl → ir < tl.length + 2 → absDiff x p1 < absDiff p1 p0
  | [], _, _, _, h, _ => by cases h
  | [_], _, _, _, h, _ => by cases h
  | j :: i :: rest, p1, p0, tl, h, hl => by
    rw [closings_cons_cons] at h
    split at h
    · exact closings_stop x ir rest p1 p0 tl h hl
    · next hc =>
      cases h
      exact Classical.not_not.1 fun hn => hc ⟨hl, hn⟩

theorem le_of_not_overshoot {i j x : Int} {lmax : Nat} (hp : (i < j ∧ x < j) ∨ (j < i ∧ j < x))
    (hi : i.natAbs ≤ lmax) (hj : j.natAbs ≤ lmax) (hc : absDiff x j < absDiff j i) :
    x.natAbs ≤ lmax := by
  unfold absDiff at hc
  omega

/-- `ir` never exceeds the number of residuals by more than one, and a turning point beyond the
largest load so far closes everything above position `ir` and is pushed exactly there (`iz = ir`):
nothing on the stack can stop it, since all residuals are bounded by the largest load. -/
theorem aLoop_ir (x : Int) (ir lmax : Nat) (stk : List Int) (h1 : 1 ≤ ir) (h2 : ir ≤ stk.length + 1)
    (hz : Zig (stk.reverse ++ [x])) (hb : ∀ y ∈ stk, y.natAbs ≤ lmax) :
    1 ≤ (aLoop x ir lmax stk).2.2 ∧
    (aLoop x ir lmax stk).2.2 ≤ (aLoop x ir lmax stk).2.1.length + 2 ∧
    (x.natAbs > lmax → (aLoop x ir lmax stk).2.2 = (aLoop x ir lmax stk).2.1.length + 1) := by
  have hl := closings_len id x ir stk h2
  have hs := closings_stop x ir stk
  have hzR := closings_zig x ir [] stk hz
  have hbR := (closings_forall id x ir (fun y => y.natAbs ≤ lmax) stk hb).2
  simp only [aLoop, verdict, Verdict.ir]
  clear h2 hz hb
  generalize (closings id x ir stk).2 = R at *
  rcases R with _ | ⟨p1, _ | ⟨p0, tl⟩⟩
  · simp only [outcome, List.length_nil] at hl ⊢
    exact ⟨h1, by omega, fun _ => by omega⟩
  · simp only [outcome, List.length_cons, List.length_nil] at hl ⊢
    split_ifs <;> dsimp only <;> exact ⟨by omega, by omega, fun _ => by omega⟩
  · simp only [outcome, List.length_cons] at hl ⊢
    split_ifs with c1 c2 <;> dsimp only
    · exact ⟨h1, by omega, fun _ => by omega⟩
    · exact ⟨by omega, by omega, fun _ => by omega⟩
    · refine ⟨h1, by omega, fun hx => ?_⟩
      -- more than `ir` residuals are left, so `x` does not overshoot the top range
      have := le_of_not_overshoot (zig_peak tl.reverse p0 p1 x [] (by simpa using hzR))
        (hbR p0 (by simp)) (hbR p1 (by simp)) (hs p1 p0 tl rfl (by omega))
      omega

/-- invariant of the load-only machine before the turning points `rem` are fed -/
def AInv (σ : AState) (rem : List Int) : Prop :=
  1 ≤ σ.ir ∧ σ.ir ≤ σ.stk.length + 1 ∧ Zig (σ.stk.reverse ++ rem) ∧ ∀ y ∈ σ.stk, y.natAbs ≤ σ.lmax

theorem AInv_step (σ : AState) (x : Int) (rem : List Int) (h : AInv σ (x :: rem)) :
    AInv (aStep σ x).2 rem ∧
      (x.natAbs > σ.lmax → (aStep σ x).2.ir = (aStep σ x).2.stk.length) := by
  obtain ⟨h1, h2, hz, hb⟩ := h
  have hz1 : Zig (σ.stk.reverse ++ [x]) := zig_infix [] (σ.stk.reverse ++ [x]) rem (by simpa using hz)
  obtain ⟨g1, g2, g4⟩ := aLoop_ir x σ.ir σ.lmax σ.stk h1 h2 hz1 hb
  have gz := closings_zig x σ.ir rem σ.stk hz
  obtain ⟨P, hP⟩ := closings_suffix id x σ.ir σ.stk
  refine ⟨⟨g1, g2, by simpa [aStep, aLoop, verdict] using gz, ?_⟩, g4⟩
  intro y hy
  show y.natAbs ≤ max σ.lmax x.natAbs
  rcases List.mem_cons.1 hy with rfl | hy
  · omega
  · have := hb y (by rw [hP]; exact List.mem_append_right _ hy)
    omega

theorem aRun_inv (xs : List Int) : ∀ (σ : AState) (rem : List Int), AInv σ (xs ++ rem) →
    AInv (aRun σ xs).2 rem := by
  induction xs with
  | nil => intro σ rem h; simpa [aRun] using h
  | cons x xs ih =>
    intro σ rem h
    simp only [aRun]
    exact ih _ rem (AInv_step σ x (xs ++ rem) (by simpa using h)).1

theorem aRun_lmax_lt (L : Nat) (xs : List Int) : ∀ (σ : AState), σ.lmax < L →
    (∀ x ∈ xs, x.natAbs < L) → (aRun σ xs).2.lmax < L := by
  induction xs with
  | nil => intro σ h _; simpa [aRun] using h
  | cons x xs ih =>
    intro σ h hx
    simp only [aRun]
    apply ih
    · have := hx x (by simp)
      show max σ.lmax x.natAbs < L
      omega
    · exact fun y hy => hx y (by simp [hy])

theorem aInv_init (rem : List Int) (hz : Zig rem) : AInv aInit rem :=
  ⟨Nat.le_refl _, Nat.le_refl _, hz, fun _ hy => nomatch hy⟩

theorem aRun_first_max (q0 : List Int) (M : Int) (rem : List Int) (hM : M ≠ 0)
    (hz : Zig (q0 ++ M :: rem)) (hq : ∀ x ∈ q0, x.natAbs < M.natAbs) :
    ∃ B, (aRun aInit (q0 ++ [M])).2 = ⟨M :: B, B.length + 1, M.natAbs⟩ := by
  have hI := aRun_inv q0 aInit (M :: rem) (aInv_init _ hz)
  have hl := aRun_lmax_lt M.natAbs q0 aInit (by simp [aInit]; omega) hq
  obtain ⟨_, h2⟩ := AInv_step _ M rem hI
  rw [aRun_append]
  simp only [aRun]
  refine ⟨(aLoop M (aRun aInit q0).2.ir (aRun aInit q0).2.lmax (aRun aInit q0).2.stk).2.1, ?_⟩
  have h3 := h2 hl
  unfold aStep at h3 ⊢
  dsimp only at h3 ⊢
  simp only [List.length_cons] at h3
  rw [h3, Nat.max_eq_right (by omega)]

/-- Behind the first turning point `M` of largest absolute value the load-only machine
emits what the rooted machine above `M` emits: in the rest `r0` of pass 1 and all through pass 2. -/
theorem aRun_rooted (q0 r0 F2 : List Int) (M : Int) (hM : M ≠ 0) (hq0 : ∀ x ∈ q0, x.natAbs < M.natAbs)
    (hz : Zig (q0 ++ M :: (r0 ++ F2))) (hb : ∀ x ∈ r0 ++ F2, x.natAbs ≤ M.natAbs) :
    (aRun (aRun aInit (q0 ++ M :: r0)).2 F2).1 = (mRun M (mRun M [] r0).2 F2).1 := by
  obtain ⟨B, hB⟩ := aRun_first_max q0 M (r0 ++ F2) hM hz hq0
  have hz0 : Zig (([M] ++ r0) ++ F2) := zig_infix q0 _ [] (by simpa using hz)
  have hzr0 : Zig ([M] ++ r0) := zig_infix [] _ F2 (by simpa using hz0)
  have hbr0 : ∀ x ∈ r0, x.natAbs ≤ M.natAbs := fun x hx => hb x (List.mem_append_left _ hx)
  obtain ⟨k1, _⟩ := K_run M r0 [M] [] [] (K_base M) hzr0 hbr0
  have e : q0 ++ M :: r0 = (q0 ++ [M]) ++ r0 := by simp
  have h1 := aRun_sat M B r0 [M] [] [] (K_base M) hzr0 hbr0
  rw [List.nil_append] at h1
  rw [e, aRun_append, hB, h1, aRun_sat M B F2 _ _ _ k1 hz0 fun x hx => hb x (List.mem_append_right _ hx)]

theorem split_tail (q0 r0 q1 r : List Int) (M : Int) (h : q0 ++ M :: r0 = q1 ++ M :: r)
    (hq0 : ∀ x ∈ q0, x.natAbs < M.natAbs) : r0 = r ∨ ∃ u, r0 = u ++ M :: r := by
  rcases List.append_eq_append_iff.1 h with ⟨a, ha1, ha2⟩ | ⟨c, hc1, hc2⟩
  · cases a with
    | nil => left; simpa using ha2
    | cons a0 u =>
      right
      simp only [List.cons_append, List.cons.injEq] at ha2
      exact ⟨u, ha2.2⟩
  · cases c with
    | nil => left; simpa using hc2.symm
    | cons c0 cs =>
      exfalso
      simp only [List.cons_append, List.cons.injEq] at hc2
      have := hq0 M (by rw [hc1, ← hc2.1]; simp)
      omega

/-- Let `M` be the first turning point of largest absolute value of
pass 1, and let both passes end with the same turning points `r` behind an occurrence of `M`.
Then the ranges emitted in pass 2 are the four-point count of the closed window `M r q2 M`. -/
theorem abs_main (F1 F2 q0 r0 q1 q2 r : List Int) (M : Int)
    (h0 : F1 = q0 ++ M :: r0) (hq0 : ∀ x ∈ q0, x.natAbs < M.natAbs)
    (h1 : F1 = q1 ++ M :: r) (h2 : F2 = q2 ++ M :: r)
    (hz : Zig (F1 ++ F2)) (hb : ∀ x ∈ F1 ++ F2, x.natAbs ≤ M.natAbs) (hM : M ≠ 0) :
    (aRun (aRun aInit F1).2 F2).1.Perm (outOf (M :: (r ++ q2 ++ [M]))) := by
  have hbF2 : ∀ x ∈ F2, x.natAbs ≤ M.natAbs := fun x hx => hb x (List.mem_append_right _ hx)
  have hroot := aRun_rooted q0 r0 F2 M hM hq0 (by rw [h0] at hz; simpa using hz)
    fun x hx => hb x (by rw [h0]; rcases List.mem_append.1 hx with h | h <;> simp [h])
  -- the stack above the base after pass 1 is that of the common tail `r`
  have hA1 : (mRun M [] r0).2 = (mRun M [] r).2 := by
    rcases split_tail q0 r0 q1 r M (by rw [← h0, ← h1]) hq0 with e | ⟨u, e⟩
    · rw [e]
    · rw [e]
      refine mRun_reset M u r (zig_infix q0 _ (r ++ F2) ?_)
        fun y hy => hb y (by rw [h0, e]; simp [hy])
      rw [h0, e] at hz
      simpa using hz
  rw [h0, hroot, hA1, h2]
  refine window_shift M r q2 (zig_infix q1 _ [] ?_)
    fun y hy => hbF2 y (by rw [h2]; rcases List.mem_append.1 hy with h | h <;> simp [h])
  rw [h1, h2] at hz
  simpa using hz

end PylifeVerif.C04
