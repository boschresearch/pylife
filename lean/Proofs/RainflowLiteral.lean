/-
Kernel-checked literal instances `C02.literal_*`:
the PUBLISHED worked example fig. 3.3-30 of E. Haibach, "Betriebsfestigkeit" (the signal, the seven
closed cycles with their positions, the residual and the from/to matrix of the figure, as transcribed
in /repo/tests/stress/rainflow/test_fourpoint.py `TestFourPointHaibach`, test_threepoint.py
`TestThreePointHaibach`, test_compat.py `test_rainflow_haibach_example`) against the four-point model,
the literal four-point model, the three-point model and the declarative `Spec.fourPoint`;
and the repository's own literal test vectors (not published): the "lecture" example, and the FKM
"memory 1 inner" / "memory 1-2-3" signals of test_fkm.py against `fkmRun` and `Spec.hcm`.
-/
import Proofs.Lemmas.FourPointChunks
import Model.Rainflow.Literal

namespace PylifeVerif
open Rainflow

namespace C02

/-- the signal of fig. 3.3-30 of E. Haibach, "Betriebsfestigkeit" -/
def haibach : List Int := [2, 5, 3, 6, 2, 3, 1, 6, 1, 4, 2, 3, 1, 4, 2, 5, 3, 4, 2]

/-- the seven closed cycles of the figure in order of closing: (index, value) of `from` and `to` -/
def haibachCycles : List Cycle :=
  [((1, 5), (2, 3)), ((4, 2), (5, 3)), ((6, 1), (7, 6)), ((10, 2), (11, 3)), ((8, 1), (9, 4)),
   ((13, 4), (14, 2)), ((16, 3), (17, 4))]

/-- the residual `R` points of the figure -/
def haibachResidual : List Pt := [(0, 2), (3, 6), (12, 1), (15, 5), (18, 2)]

/-- four-point model, one chunk -/
theorem literal_haibach_fourPoint :
    (fpRun [haibach]).cycles = haibachCycles ∧
      (fpRun [haibach]).residuals = [2, 6, 1, 5, 2] ∧
      (fpRun [haibach]).residualIndex = [0, 3, 12, 15, 18] ∧
      residualPts (fpRun [haibach]) = haibachResidual := by decide +kernel

/-- four-point model, cut into chunks at every position at once is covered by chunk independence; here
one literal chunking that cuts inside cycles and at turning points -/
theorem literal_haibach_fourPoint_chunked :
    (fpRun [haibach.take 3, (haibach.drop 3).take 5, (haibach.drop 8).take 1, haibach.drop 9]).cycles =
        haibachCycles ∧
      (fpRun [haibach.take 3, (haibach.drop 3).take 5, (haibach.drop 8).take 1, haibach.drop 9]).residuals =
        [2, 6, 1, 5, 2] := by decide +kernel

/-- literal `process` / `fourpoint_loop` -/
theorem literal_haibach_fourPointLit :
    (fpRunLit [haibach]).cycles = haibachCycles ∧
      (fpRunLit [haibach]).residuals = [2, 6, 1, 5, 2] ∧
      (fpRunLit [haibach]).residualIndexProp = [0, 3, 12, 15, 18] := by decide +kernel

/-- three-point model: the same cycles in the same order -/
theorem literal_haibach_threePoint :
    (tpRun [haibach]).cycles = haibachCycles ∧
      (tpRun [haibach]).residuals = [2, 6, 1, 5, 2] ∧
      (tpRun [haibach]).residualIndex = [0, 3, 12, 15, 18] := by decide +kernel

/-- the declarative four-point rule on the declarative turning points -/
theorem literal_haibach_spec :
    Spec.fourPoint (Spec.turningPoints haibach) = (haibachCycles, haibachResidual) := by decide +kernel

/-- the from/to matrix printed next to the figure: (1→6) 1, (1→4) 1, (2→3) 2, (3→4) 1, (4→2) 1, (5→3) 1 -/
theorem literal_haibach_matrix :
    ((fpRun [haibach]).cycles.map fun c => (c.1.2, c.2.2)).Perm
      [(1, 6), (1, 4), (2, 3), (2, 3), (3, 4), (4, 2), (5, 3)] := by decide +kernel

/-- repository test vector `TestFourPointLecture` / `TestThreePointLecture` (not published) -/
def lecture : List Int := [1, 7, 4, 3, 4, 2, 5, 3, 6, 1, 2]

theorem literal_lecture :
    (fpRun [lecture]).cycles = [((3, 3), (4, 4)), ((6, 5), (7, 3)), ((5, 2), (8, 6))] ∧
      (tpRun [lecture]).cycles = [((3, 3), (4, 4)), ((6, 5), (7, 3)), ((5, 2), (8, 6))] ∧
      (fpRunLit [lecture]).cycles = [((3, 3), (4, 4)), ((6, 5), (7, 3)), ((5, 2), (8, 6))] ∧
      (fpRun [lecture]).residuals = [1, 7, 1, 2] ∧
      (fpRun [lecture]).residualIndex = [0, 1, 9, 10] := by decide +kernel

/-- repository test vector `TestFKMMemory1Inner` (test_fkm.py; not published) -/
def fkmMemory1 : List Int := [0, 100, 0, 80, 20, 60, 40, 100, 0, 80, 20, 60, 40, 45]

theorem literal_fkm_memory1_inner :
    (fkmRun [fkmMemory1]).cycles = [(60, 40), (80, 20), (100, 0)] ∧
      (fkmRun [fkmMemory1]).res.reverse = [100, 0, 80, 20, 60, 40] ∧
      (Spec.hcm ((Spec.reversals fkmMemory1).map (·.2))).cycles = [(60, 40), (80, 20), (100, 0)] ∧
      (Spec.hcm ((Spec.reversals fkmMemory1).map (·.2))).res.reverse = [100, 0, 80, 20, 60, 40] := by
  decide +kernel

/-- repository test vector `TestFKMMemory1_2_3` (test_fkm.py; not published), all values times 10
(the test has the last sample `-1.8`; scaling by a positive factor is exact for every comparison made) -/
def fkmMemory123 : List Int :=
  [0, 10, -10, 10, -20, -10, -20, 20, 0, 20, -20, 10, -10, 10, -20, -10, -20, 20, 0, 20, -20, -18]

theorem literal_fkm_memory_1_2_3 :
    (fkmRun [fkmMemory123]).cycles =
        [(10, -10), (-20, -10), (20, 0), (-20, 20), (10, -10), (-20, 10), (-20, -10), (20, 0), (-20, 20)] ∧
      (fkmRun [fkmMemory123]).res.reverse = [10, -20] ∧
      (Spec.hcm ((Spec.reversals fkmMemory123).map (·.2))).cycles = (fkmRun [fkmMemory123]).cycles ∧
      (Spec.hcm ((Spec.reversals fkmMemory123).map (·.2))).res = (fkmRun [fkmMemory123]).res := by
  decide +kernel

end C02
end PylifeVerif

section AxiomCheck
open PylifeVerif
#print axioms C02.literal_haibach_fourPoint
#print axioms C02.literal_haibach_fourPoint_chunked
#print axioms C02.literal_haibach_fourPointLit
#print axioms C02.literal_haibach_threePoint
#print axioms C02.literal_haibach_spec
#print axioms C02.literal_haibach_matrix
#print axioms C02.literal_lecture
#print axioms C02.literal_fkm_memory1_inner
#print axioms C02.literal_fkm_memory_1_2_3
end AxiomCheck
