/-
Tactics shared by the bridge modules `Proofs/Bridge<Cxx>.lean` (generated definition = hand model, over ℝ).

The bridge proofs are written so that a HARMLESS refactoring of the python source (re-ordered summands / factors,
renamed or additional locals, a literal spelled differently, `a > b` instead of `b < a`) keeps them provable, while a
changed coefficient, comparison or branch makes them fail:
  * definitions are unfolded, `norm_num` brings every literal to one spelling;
  * `split_ifs` splits the branches of BOTH sides together; a branch whose conditions contradict each other is closed by
    `linarith`, every other branch must be an identity of commutative rings (`ring_nf`), possibly under the same
    function symbol (`congr`).

Every bridge module imports, beside each `Generated.<Name>`, the module `Generated.<Name>Status` and uses nothing of it: the
translator writes a `…Status` module that fails to build when it could not translate a whitelisted function (the generated
file is then stale), and the import makes that a failure of the bridge.
-/
import Proofs.RealNum
import Mathlib.Tactic.NormNum
import Mathlib.Tactic.Ring
import Mathlib.Tactic.Linarith
import Mathlib.Tactic.SplitIfs

namespace PylifeVerif.Bridge

/-- closes one branch of a piecewise definition after `split_ifs`: same expression up to literal spelling and
commutative-ring re-arrangement, or contradictory branch conditions -/
macro "bridge_leaf" : tactic => `(tactic| first
  | rfl
  | (exfalso; linarith)
  | (apply le_antisymm <;> linarith)
  | (norm_num; done)
  | (ring_nf; done)
  | (norm_num; ring_nf; done)
  | (congr 1; ring_nf; done)
  | (congr 2; ring_nf; done)
  | (norm_num; congr 1; ring_nf; done)
  | (norm_num; congr 2; ring_nf; done))

/-- after unfolding: normalise literals, split the branches of both sides together, close every branch -/
macro "bridge" : tactic => `(tactic| ((try norm_num) <;> first | (split_ifs <;> bridge_leaf) | bridge_leaf))

end PylifeVerif.Bridge
