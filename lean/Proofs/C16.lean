/-
C16 — closed-form material laws are invertible and differentiate consistently.

Every theorem below is about the definitions in `Generated/MaterialLaws.lean`, which
/verif/translate/translate.py regenerates from the CURRENT source of
  src/pylife/materiallaws/{rambgood.py, hookeslaw.py, true_stress_strain.py}
on every `./check C16` (instantiated at `α := ℝ` through `Proofs.RealNum`).  Editing a coefficient in the
Python source changes the generated definition and these proofs stop compiling.  The proofs reach the generated
definitions only through the interface lemmas of `Proofs/Lemmas/MaterialLawsGen.lean` (`gen_bridge`: unfold everything
generated, normalise spellings, close as an identity of fields), so a harmless respelling of the source keeps them valid.
`Generated.MaterialLawsStatus` fails to build when the translator could not translate a whitelisted
function (a broken proof obligation).

Parameter range of the property: E > 0, K > 0, 0 < n < 1, -1 < ν < 1/2.

`RambergOsgood.stress` / `delta_stress` are a Newton iteration (scipy) in the source.  The theorems are about
the EXACT inverse: existence and uniqueness (`ro_stress_exists_unique`), the total function `roStress` with both
round trips and its uniqueness (`ro_stress_strain_inverse`: whatever exact root a solver returns IS `roStress ε`).  `delta_stress`
is translated with the solver as a function parameter `stress_fn`; `masing_inverse` holds for every exact
inverse `stress_fn`.  Convergence of the Newton iteration is runtime behaviour, measured by the harness.
-/
import Proofs.Lemmas.MaterialLawsGen
import Generated.MaterialLawsStatus

namespace PylifeVerif.C16
open PylifeVerif.Generated PylifeVerif.C16L

/-! The material of the examples: E = 206000, K' = 1184, n' = 0.187, ν = 0.3. -/

theorem exE : (0 : ℝ) < 206000 := by norm_num
theorem exK : (0 : ℝ) < 1184 := by norm_num
theorem exn : (0 : ℝ) < 0.187 ∧ (0.187 : ℝ) < 1 := by norm_num
theorem exnu : (-1 : ℝ) < 0.3 ∧ (0.3 : ℝ) < 1 / 2 := by norm_num

/-! ## Ramberg-Osgood.  Parameter range: E > 0, K > 0, 0 < n < 1. -/

theorem ro_strain_odd (E K n σ : ℝ) :
    RambergOsgood.strain E K n (-σ) = -RambergOsgood.strain E K n σ := by
  rw [ro_strain_eq_curve]; exact curve_neg_arg _ _ _ _

example : RambergOsgood.strain (206000:ℝ) 1184 0.187 (-400) = -RambergOsgood.strain 206000 1184 0.187 400 :=
  ro_strain_odd _ _ _ _

theorem ro_strain_strictMono {E K n : ℝ} (hE : 0 < E) (hK : 0 < K) (hn0 : 0 < n) (hn1 : n < 1) :
    StrictMono (RambergOsgood.strain E K n) := by
  rw [ro_strain_eq_curve]; exact curve_strictMono hE hK (one_lt_one_div hn0 hn1)

example : StrictMono (RambergOsgood.strain (206000:ℝ) 1184 0.187) :=
  ro_strain_strictMono exE exK exn.1 exn.2

/-- strain is continuous and a bijection ℝ → ℝ: for every strain there is exactly one stress -/
theorem ro_strain_bijective {E K n : ℝ} (hE : 0 < E) (hK : 0 < K) (hn0 : 0 < n) (hn1 : n < 1) :
    Continuous (RambergOsgood.strain E K n) ∧ Function.Bijective (RambergOsgood.strain E K n) := by
  rw [ro_strain_eq_curve]
  exact ⟨curve_continuous hK (one_lt_one_div hn0 hn1), curve_bijective hE hK (one_lt_one_div hn0 hn1)⟩

example : Function.Bijective (RambergOsgood.strain (206000:ℝ) 1184 0.187) :=
  (ro_strain_bijective exE exK exn.1 exn.2).2

theorem ro_stress_exists_unique {E K n : ℝ} (hE : 0 < E) (hK : 0 < K) (hn0 : 0 < n) (hn1 : n < 1) (ε : ℝ) :
    ∃! σ, RambergOsgood.strain E K n σ = ε :=
  (ro_strain_bijective hE hK hn0 hn1).2.existsUnique ε

example : ∃! σ, RambergOsgood.strain (206000:ℝ) 1184 0.187 σ = 0.1378 :=
  ro_stress_exists_unique exE exK exn.1 exn.2 _

/-- The exact inverse of `strain` (what `RambergOsgood.stress` approximates by Newton's method). -/
noncomputable def roStress (E K n : ℝ) : ℝ → ℝ := Function.invFun (RambergOsgood.strain E K n)

theorem roStress_eq_curveInv (E K n : ℝ) : roStress E K n = curveInv E K (1 / n) := by
  unfold roStress curveInv; rw [ro_strain_eq_curve]

/-- `strain(stress(e)) = e` and `stress(strain(s)) = s` for the exact inverse; it is odd, strictly
increasing and continuous; and every exact root of `strain σ = ε` equals it (so a converged solver can only
return this value). -/
theorem ro_stress_strain_inverse {E K n : ℝ} (hE : 0 < E) (hK : 0 < K) (hn0 : 0 < n) (hn1 : n < 1) :
    (∀ ε, RambergOsgood.strain E K n (roStress E K n ε) = ε) ∧
    (∀ σ, roStress E K n (RambergOsgood.strain E K n σ) = σ) ∧
    (∀ σ ε, RambergOsgood.strain E K n σ = ε → σ = roStress E K n ε) ∧
    (∀ ε, roStress E K n (-ε) = -roStress E K n ε) ∧
    StrictMono (roStress E K n) ∧ Continuous (roStress E K n) := by
  have hp := one_lt_one_div hn0 hn1
  rw [roStress_eq_curveInv, ro_strain_eq_curve]
  exact ⟨curve_curveInv hE hK hp, curveInv_curve hE hK hp, fun σ ε h => curveInv_unique hE hK hp h,
    curveInv_neg_arg hE hK hp, curveInv_strictMono hE hK hp, curveInv_continuous hE hK hp⟩

example : RambergOsgood.strain (206000:ℝ) 1184 0.187 (roStress 206000 1184 0.187 0.1378) = 0.1378 :=
  (ro_stress_strain_inverse exE exK exn.1 exn.2).1 _

/-- The tangential compliance is the derivative of the strain at EVERY stress: σ ≠ 0 and σ = 0
(where it equals 1/E because 1/n > 1). -/
theorem ro_hasDerivAt_compliance {E K n : ℝ} (hK : 0 < K) (hn0 : 0 < n) (hn1 : n < 1) (σ : ℝ) :
    HasDerivAt (RambergOsgood.strain E K n) (RambergOsgood.tangential_compliance E K n σ) σ := by
  rw [ro_strain_eq_curve, ro_compliance_eq_compl]
  exact curve_hasDerivAt hK (one_lt_one_div hn0 hn1) σ

theorem ro_compliance_at_zero {E K n : ℝ} (hK : 0 < K) (hn0 : 0 < n) (hn1 : n < 1) :
    RambergOsgood.tangential_compliance E K n 0 = 1 / E := by
  rw [ro_compliance_eq_compl]; exact compl_zero (one_lt_one_div hn0 hn1)

example : HasDerivAt (RambergOsgood.strain (206000:ℝ) 1184 0.187)
    (RambergOsgood.tangential_compliance 206000 1184 0.187 (-400)) (-400) :=
  ro_hasDerivAt_compliance exK exn.1 exn.2 _
example : HasDerivAt (RambergOsgood.strain (206000:ℝ) 1184 0.187) (1 / 206000) 0 := by
  have := ro_hasDerivAt_compliance (E := (206000:ℝ)) (K := 1184) (n := 0.187) exK exn.1 exn.2 0
  rwa [ro_compliance_at_zero exK exn.1 exn.2] at this

/-- The tangential modulus is the reciprocal of the (positive) compliance. -/
theorem ro_modulus_is_reciprocal {E K n : ℝ} (hE : 0 < E) (hK : 0 < K) (hn0 : 0 < n) (σ : ℝ) :
    0 < RambergOsgood.tangential_compliance E K n σ ∧
    RambergOsgood.tangential_modulus E K n σ = (RambergOsgood.tangential_compliance E K n σ)⁻¹ ∧
    RambergOsgood.tangential_modulus E K n σ * RambergOsgood.tangential_compliance E K n σ = 1 := by
  have hpos : 0 < RambergOsgood.tangential_compliance E K n σ := by
    rw [ro_compliance_eq_compl]; exact compl_pos hE hK (by positivity)
  have hm := ro_modulus_eq E K n σ
  exact ⟨hpos, hm, by rw [hm, inv_mul_cancel₀ hpos.ne']⟩

/-- The tangential modulus is the derivative of the exact inverse (stress w.r.t. strain) at the corresponding point. -/
theorem ro_modulus_is_derivative_of_stress {E K n : ℝ} (hE : 0 < E) (hK : 0 < K) (hn0 : 0 < n) (hn1 : n < 1)
    (ε : ℝ) :
    HasDerivAt (roStress E K n) (RambergOsgood.tangential_modulus E K n (roStress E K n ε)) ε := by
  rw [ro_modulus_eq, ro_compliance_eq_compl, roStress_eq_curveInv]
  exact curveInv_hasDerivAt hE hK (one_lt_one_div hn0 hn1) ε

example : RambergOsgood.tangential_modulus (206000:ℝ) 1184 0.187 300
    * RambergOsgood.tangential_compliance 206000 1184 0.187 300 = 1 :=
  (ro_modulus_is_reciprocal exE exK exn.1 _).2.2
example : HasDerivAt (roStress (206000:ℝ) 1184 0.187)
    (RambergOsgood.tangential_modulus 206000 1184 0.187 (roStress 206000 1184 0.187 0.01)) 0.01 :=
  ro_modulus_is_derivative_of_stress exE exK exn.1 exn.2 _

theorem masing_delta_is_doubled (E K n Δσ : ℝ) :
    RambergOsgood.delta_strain E K n Δσ = 2 * RambergOsgood.strain E K n (Δσ / 2) :=
  ro_delta_strain_eq E K n Δσ

example : RambergOsgood.delta_strain (206000:ℝ) 1184 0.187 800 = 2 * RambergOsgood.strain 206000 1184 0.187 (800 / 2) :=
  masing_delta_is_doubled _ _ _ _

/-- Masing: `delta_stress` (translated with the solver as parameter `stress_fn`) and `delta_strain` are
mutual inverses for EVERY exact inverse `stress_fn` of `strain`; and `delta_stress` is the doubled inverse. -/
theorem masing_inverse {E K n : ℝ} (hE : 0 < E) (hK : 0 < K) (hn0 : 0 < n) (hn1 : n < 1)
    (stress_fn : ℝ → ℝ) (hinv : ∀ ε, RambergOsgood.strain E K n (stress_fn ε) = ε) :
    (∀ Δε, RambergOsgood.delta_strain E K n (RambergOsgood.delta_stress E K n stress_fn Δε) = Δε) ∧
    (∀ Δσ, RambergOsgood.delta_stress E K n stress_fn (RambergOsgood.delta_strain E K n Δσ) = Δσ) ∧
    (∀ Δε, RambergOsgood.delta_stress E K n stress_fn Δε = 2 * roStress E K n (Δε / 2)) := by
  have hinj := (ro_strain_bijective hE hK hn0 hn1).2.1
  have hleft : ∀ σ, stress_fn (RambergOsgood.strain E K n σ) = σ := fun σ => hinj (hinv _)
  refine ⟨fun Δε => ?_, fun Δσ => ?_, fun Δε => ?_⟩
  · rw [masing_delta_is_doubled, ro_delta_stress_eq, mul_div_cancel_left₀ _ (two_ne_zero), hinv]; ring
  · rw [masing_delta_is_doubled, ro_delta_stress_eq, mul_div_cancel_left₀ _ (two_ne_zero), hleft]; ring
  · rw [ro_delta_stress_eq, (ro_stress_strain_inverse hE hK hn0 hn1).2.2.1 _ _ (hinv (Δε / 2))]

example : RambergOsgood.delta_strain (206000:ℝ) 1184 0.187
    (RambergOsgood.delta_stress 206000 1184 0.187 (roStress 206000 1184 0.187) 0.02) = 0.02 :=
  (masing_inverse exE exK exn.1 exn.2 _
    (ro_stress_strain_inverse exE exK exn.1 exn.2).1).1 _

/-- The lower hysteresis branch meets the curve at the reversal point (stress = max_stress), which the code
accepts (it raises exactly for stress > max_stress); the branch ends on the mirrored curve at -max_stress. -/
theorem lower_hysteresis_meets_curve (E K n σmax : ℝ) :
    RambergOsgood.lower_hysteresis E K n σmax σmax = RambergOsgood.strain E K n σmax ∧
    RambergOsgood.lower_hysteresis E K n (-σmax) σmax = -RambergOsgood.strain E K n σmax ∧
    (∀ σ, RambergOsgood.lower_hysteresis_raises E K n σ σmax = false ↔ σ ≤ σmax) := by
  refine ⟨?_, ?_, fun σ => ro_lower_hysteresis_guard E K n σ σmax⟩
  · rw [ro_lower_hysteresis_eq, masing_delta_is_doubled, ro_strain_eq_curve]
    simp
  · rw [ro_lower_hysteresis_eq, masing_delta_is_doubled, ro_strain_eq_curve]
    rw [show (σmax - -σmax) / 2 = σmax by ring]; ring

example : RambergOsgood.lower_hysteresis (206000:ℝ) 1184 0.187 400 400 = RambergOsgood.strain 206000 1184 0.187 400 :=
  (lower_hysteresis_meets_curve _ _ _ _).1
example : RambergOsgood.lower_hysteresis_raises (206000:ℝ) 1184 0.187 400 400 = false :=
  ((lower_hysteresis_meets_curve _ _ _ _).2.2 400).mpr le_rfl

/-! ## Hooke's law.  Parameter range: E > 0, -1 < ν < 1/2 (open interval: at ν = -1 the shear modulus and
at ν = 1/2 the bulk modulus divide by zero; the constructor accepts the closed interval).

The 1D and 3D theorems rewrite the generated functions into the textbook model (`Model/MaterialLaws.lean`) with the interface lemmas
and compute there.  The two plane round trips rest on ONE round trip, that of the plane-stress formulas with the elastic constants as
variables (`planeStressOf_planeStrainOf`), taken at `E, ν` for plane stress and at `E' = E/(1−ν²)`, `ν' = ν/(1−ν)` for plane strain.
A plane law is the 3D law with the out-of-plane component put to zero: that half of each comparison with the 3D law is read off the
textbook model (`hres`); the other half (the 3D law at the out-of-plane value the plane law reports) follows by inverting both laws:
from `g3 ∘ f3 = id` and `f3 ∘ ι = κ ∘ f2`, `g3 (κ (f2 x)) = ι x`. -/

open PylifeVerif.MaterialLaws in
theorem hooke1d_stress_strain_id {E : ℝ} (hE : 0 < E) (x : ℝ) :
    HookesLaw1d.stress E (HookesLaw1d.strain E x) = x ∧ HookesLaw1d.strain E (HookesLaw1d.stress E x) = x := by
  have := hE.ne'
  simp only [hooke1d_stress_eq, hooke1d_strain_eq, hooke1dStress, hooke1dStrain]
  constructor <;> field_simp

example : HookesLaw1d.stress (206000:ℝ) (HookesLaw1d.strain 206000 350) = 350 :=
  (hooke1d_stress_strain_id exE _).1

/-- the constructor guard of the three classes: it raises exactly outside -1 ≤ ν ≤ 1/2 -/
theorem hooke_init_guard (E nu : ℝ) :
    (HookesLaw3d.init_raises E nu = false ↔ (-1 ≤ nu ∧ nu ≤ 1 / 2)) ∧
    (HookesLaw2dPlaneStress.init_raises E nu = false ↔ (-1 ≤ nu ∧ nu ≤ 1 / 2)) ∧
    (HookesLaw2dPlaneStrain.init_raises E nu = false ↔ (-1 ≤ nu ∧ nu ≤ 1 / 2)) :=
  hooke_init_guard_iff E nu

example : HookesLaw3d.init_raises (206000:ℝ) 0.3 = false :=
  (hooke_init_guard _ _).1.mpr (by norm_num)

open PylifeVerif.MaterialLaws in
theorem hooke_moduli (E nu : ℝ) :
    HookesLaw3d.attr_G E nu = E / (2 * (1 + nu)) ∧ HookesLaw3d.attr_K E nu = E / (3 * (1 - 2 * nu)) ∧
    HookesLaw2dPlaneStress.attr_G E nu = E / (2 * (1 + nu)) ∧ HookesLaw2dPlaneStress.attr_K E nu = E / (3 * (1 - 2 * nu)) ∧
    HookesLaw2dPlaneStrain.attr_G E nu = E / (2 * (1 + nu)) ∧ HookesLaw2dPlaneStrain.attr_K E nu = E / (3 * (1 - 2 * nu)) := by
  obtain ⟨g1, g2, g3⟩ := hooke_G_eq E nu
  obtain ⟨k1, k2, k3⟩ := hooke_K_eq E nu
  simp only [g1, g2, g3, k1, k2, k3, shearModulus, bulkModulus, lit_one, lit_two, lit_three, and_self]

example : HookesLaw3d.attr_G (206000:ℝ) 0.3 = 206000 / (2 * (1 + 0.3)) := (hooke_moduli _ _).1

/-- closes the components of a Hooke identity in the textbook model -/
macro "hooke_textbook" : tactic => `(tactic|
  ((repeat' apply And.intro) <;> first | trivial | (field_simp; first | done | ring1)))

open PylifeVerif.MaterialLaws in
theorem hooke3d_stress_strain_id {E nu : ℝ} (hE : 0 < E) (h1 : -1 < nu) (h2 : nu < 1 / 2)
    (a b c d e f : ℝ) :
    (let ε := HookesLaw3d.strain E nu a b c d e f
     HookesLaw3d.stress E nu ε.1 ε.2.1 ε.2.2.1 ε.2.2.2.1 ε.2.2.2.2.1 ε.2.2.2.2.2 = (a, b, c, d, e, f)) ∧
    (let σ := HookesLaw3d.stress E nu a b c d e f
     HookesLaw3d.strain E nu σ.1 σ.2.1 σ.2.2.1 σ.2.2.2.1 σ.2.2.2.2.1 σ.2.2.2.2.2 = (a, b, c, d, e, f)) := by
  have s := hookeSide hE h1 h2
  simp only [hooke3d_strain_eq s, hooke3d_stress_eq s, hooke3dStrain, hooke3dStress, lit_one, lit_two, Prod.mk.injEq]
  cases s
  hooke_textbook

example : (let ε := HookesLaw3d.strain (206000:ℝ) 0.3 100 (-50) 20 10 0 5
     HookesLaw3d.stress 206000 0.3 ε.1 ε.2.1 ε.2.2.1 ε.2.2.2.1 ε.2.2.2.2.1 ε.2.2.2.2.2 = (100, -50, 20, 10, 0, 5)) :=
  (hooke3d_stress_strain_id exE exnu.1 exnu.2 _ _ _ _ _ _).1

open PylifeVerif.MaterialLaws in
/-- 3D: mean stress = bulk modulus × volumetric strain; a pure shear state written in rotated axes
(s11 = τ, s22 = -τ) strains with the SAME shear modulus (isotropy: G = E/(2(1+ν)) is consistent). -/
theorem hooke3d_moduli_consistent {E nu : ℝ} (hE : 0 < E) (h1 : -1 < nu) (h2 : nu < 1 / 2)
    (a b c d e f τ : ℝ) :
    (let σ := HookesLaw3d.stress E nu a b c d e f
     (σ.1 + σ.2.1 + σ.2.2.1) / 3 = HookesLaw3d.attr_K E nu * (a + b + c)) ∧
    (let ε := HookesLaw3d.strain E nu τ (-τ) 0 0 0 0
     ε.1 - ε.2.1 = τ / HookesLaw3d.attr_G E nu) := by
  have s := hookeSide hE h1 h2
  simp only [hooke3d_strain_eq s, hooke3d_stress_eq s, (hooke_G_eq E nu).1, (hooke_K_eq E nu).1, hooke3dStrain,
    hooke3dStress, shearModulus, bulkModulus, lit_one, lit_two, lit_three]
  cases s
  hooke_textbook

example : (let σ := HookesLaw3d.stress (206000:ℝ) 0.3 1 2 3 0 0 0
     (σ.1 + σ.2.1 + σ.2.2.1) / 3 = HookesLaw3d.attr_K 206000 0.3 * (1 + 2 + 3)) :=
  (hooke3d_moduli_consistent exE exnu.1 exnu.2 _ _ _ 0 0 0 0).1

open PylifeVerif.MaterialLaws in
/-- plane stress: stress(strain(s)) = s; strain(stress(e)) = e with the out-of-plane strain
e33 = -ν/(1-ν)·(e11+e22) -/
theorem hooke_plane_stress_stress_strain_id {E nu : ℝ} (hE : 0 < E) (h1 : -1 < nu) (h2 : nu < 1 / 2)
    (a b c : ℝ) :
    (let ε := HookesLaw2dPlaneStress.strain E nu a b c
     HookesLaw2dPlaneStress.stress E nu ε.1 ε.2.1 ε.2.2.2 = (a, b, c)) ∧
    (let σ := HookesLaw2dPlaneStress.stress E nu a b c
     HookesLaw2dPlaneStress.strain E nu σ.1 σ.2.1 σ.2.2 = (a, b, -nu / (1 - nu) * (a + b), c)) := by
  have s := hookeSide hE h1 h2
  -- the in-plane components: the round trip of the plane-stress formulas at `E, ν`
  obtain ⟨h, h'⟩ := planeStressOf_planeStrainOf s.hE s.hp s.hm s.hG a b c
  simp only [planeStress_strain_eq s, planeStress_stress_eq s, planeStressStrain_eq_of, planeStressStress_eq_of] at h h' ⊢
  refine ⟨h, ?_⟩
  rw [h']
  -- left: `e33 = −ν/E·(s11 + s22)` with `s11 + s22 = E/(1−ν)·(e11 + e22)`
  simp only [planeStressOf, Prod.mk.injEq, true_and, and_true]
  cases s
  field_simp
  ring

example : (let ε := HookesLaw2dPlaneStress.strain (206000:ℝ) 0.3 100 (-50) 10
     HookesLaw2dPlaneStress.stress 206000 0.3 ε.1 ε.2.1 ε.2.2.2 = (100, -50, 10)) :=
  (hooke_plane_stress_stress_strain_id exE exnu.1 exnu.2 _ _ _).1

open PylifeVerif.MaterialLaws in
/-- plane strain: stress(strain(s)) = s (in-plane components; s33 = ν(s11+s22)) and strain(stress(e)) = e -/
theorem hooke_plane_strain_stress_strain_id {E nu : ℝ} (hE : 0 < E) (h1 : -1 < nu) (h2 : nu < 1 / 2)
    (a b c : ℝ) :
    (let ε := HookesLaw2dPlaneStrain.strain E nu a b c
     HookesLaw2dPlaneStrain.stress E nu ε.1 ε.2.1 ε.2.2 = (a, b, nu * (a + b), c)) ∧
    (let σ := HookesLaw2dPlaneStrain.stress E nu a b c
     HookesLaw2dPlaneStrain.strain E nu σ.1 σ.2.1 σ.2.2.2 = (a, b, c)) := by
  have s := hookeSide hE h1 h2
  -- the round trip of the plane-stress formulas at `E' = E/(1−ν²)`, `ν' = ν/(1−ν)`; `s33 = ν·(s11 + s22)` is how the code computes it
  obtain ⟨h, h'⟩ := planeStressOf_planeStrainOf (div_ne_zero s.hE s.hsq) s.hp' s.hm' s.hG a b c
  simp only [planeStrain_strain_eq_of s, planeStrain_stress_eq_of s] at h h' ⊢
  exact ⟨by rw [h], by rw [h']⟩

example : (let σ := HookesLaw2dPlaneStrain.stress (206000:ℝ) 0.3 0.001 (-0.0005) 0.0002
     HookesLaw2dPlaneStrain.strain 206000 0.3 σ.1 σ.2.1 σ.2.2.2 = (0.001, -0.0005, 0.0002)) :=
  (hooke_plane_strain_stress_strain_id exE exnu.1 exnu.2 _ _ _).2

open PylifeVerif.MaterialLaws in
/-- plane strain = 3D law at zero out-of-plane strain (e33 = g13 = g23 = 0), including s33; and the 3D
strain of the plane-strain stress state has e33 = 0 -/
theorem plane_strain_eq_3d_at_e33_0 {E nu : ℝ} (hE : 0 < E) (h1 : -1 < nu) (h2 : nu < 1 / 2) (a b c : ℝ) :
    (let σ := HookesLaw2dPlaneStrain.stress E nu a b c
     HookesLaw3d.stress E nu a b 0 c 0 0 = (σ.1, σ.2.1, σ.2.2.1, σ.2.2.2, 0, 0)) ∧
    (let ε := HookesLaw2dPlaneStrain.strain E nu a b c
     HookesLaw3d.strain E nu a b (nu * (a + b)) c 0 0 = (ε.1, ε.2.1, 0, ε.2.2, 0, 0)) := by
  have s := hookeSide hE h1 h2
  have hres : ∀ a b c : ℝ, HookesLaw3d.stress E nu a b 0 c 0 0
      = (let σ := HookesLaw2dPlaneStrain.stress E nu a b c; (σ.1, σ.2.1, σ.2.2.1, σ.2.2.2, 0, 0)) := fun a b c => by
    simp only [planeStrain_stress_eq s, hooke3d_stress_eq s, planeStrainStress, hooke3dStress, add_zero, mul_zero, zero_add,
      mul_assoc]
  refine ⟨hres a b c, ?_⟩
  -- the 3D stress of the strain state `(ε, e33 = 0)` is `(a, b, ν(a+b), c, 0, 0)` (`hres`, plane round trip): invert the 3D law
  have hp := (hooke_plane_strain_stress_strain_id hE h1 h2 a b c).1
  generalize HookesLaw2dPlaneStrain.strain E nu a b c = ε at hp ⊢
  simpa only [hres, hp] using (hooke3d_stress_strain_id hE h1 h2 ε.1 ε.2.1 0 ε.2.2 0 0).2

example : (let σ := HookesLaw2dPlaneStrain.stress (206000:ℝ) 0.3 0.001 (-0.0005) 0.0002
     HookesLaw3d.stress 206000 0.3 0.001 (-0.0005) 0 0.0002 0 0 = (σ.1, σ.2.1, σ.2.2.1, σ.2.2.2, 0, 0)) :=
  (plane_strain_eq_3d_at_e33_0 exE exnu.1 exnu.2 _ _ _).1

open PylifeVerif.MaterialLaws in
/-- plane stress = 3D law at zero out-of-plane stress (s33 = s13 = s23 = 0), including e33; and the 3D
stress of the plane-stress strain state (with its e33) has s33 = 0 -/
theorem plane_stress_eq_3d_at_s33_0 {E nu : ℝ} (hE : 0 < E) (h1 : -1 < nu) (h2 : nu < 1 / 2) (a b c : ℝ) :
    (let ε := HookesLaw2dPlaneStress.strain E nu a b c
     HookesLaw3d.strain E nu a b 0 c 0 0 = (ε.1, ε.2.1, ε.2.2.1, ε.2.2.2, 0, 0)) ∧
    (let σ := HookesLaw2dPlaneStress.stress E nu a b c
     HookesLaw3d.stress E nu a b (-nu / (1 - nu) * (a + b)) c 0 0 = (σ.1, σ.2.1, 0, σ.2.2, 0, 0)) := by
  have s := hookeSide hE h1 h2
  have hres : ∀ a b c : ℝ, HookesLaw3d.strain E nu a b 0 c 0 0
      = (let ε := HookesLaw2dPlaneStress.strain E nu a b c; (ε.1, ε.2.1, ε.2.2.1, ε.2.2.2, 0, 0)) := fun a b c => by
    simp only [planeStress_strain_eq s, hooke3d_strain_eq s, planeStressStrain, hooke3dStrain, add_zero, zero_sub, zero_div,
      neg_div]
  refine ⟨hres a b c, ?_⟩
  -- the 3D strain of the stress state `(σ, s33 = 0)` is `(a, b, e33, c, 0, 0)` (`hres`, plane round trip): invert the 3D law
  have hp := (hooke_plane_stress_stress_strain_id hE h1 h2 a b c).2
  generalize HookesLaw2dPlaneStress.stress E nu a b c = σ at hp ⊢
  simpa only [hres, hp] using (hooke3d_stress_strain_id hE h1 h2 σ.1 σ.2.1 0 σ.2.2 0 0).1

example : (let ε := HookesLaw2dPlaneStress.strain (206000:ℝ) 0.3 100 (-50) 10
     HookesLaw3d.strain 206000 0.3 100 (-50) 0 10 0 0 = (ε.1, ε.2.1, ε.2.2.1, ε.2.2.2, 0, 0)) :=
  (plane_stress_eq_3d_at_s33_0 exE exnu.1 exnu.2 _ _ _).1

/-! ## True stress and strain (`true_stress_strain.py`) -/

/-- true strain ↔ engineering strain: `exp ε − 1` is the exact inverse -/
theorem true_strain_inverse :
    (∀ e : ℝ, -1 < e → Real.exp (true_strain e) - 1 = e) ∧
    (∀ ε : ℝ, true_strain (Real.exp ε - 1) = ε) := by
  constructor
  · intro e he
    rw [true_strain_eq, Real.exp_log (by linarith)]; ring
  · intro ε
    rw [true_strain_eq, show (1:ℝ) + (Real.exp ε - 1) = Real.exp ε by ring, Real.log_exp]

example : Real.exp (true_strain (0.2:ℝ)) - 1 = 0.2 := true_strain_inverse.1 _ (by norm_num)

/-- true stress ↔ engineering stress: `σ/(1+ε)` is the exact inverse -/
theorem true_stress_inverse (e : ℝ) (he : e ≠ -1) :
    (∀ s : ℝ, true_stress s e / (1 + e) = s) ∧ (∀ σ : ℝ, true_stress (σ / (1 + e)) e = σ) := by
  have h : 1 + e ≠ 0 := fun h => he (by linarith)
  simp only [true_stress_eq]
  constructor <;> intro x <;> field_simp

example : true_stress (500:ℝ) 0.2 / (1 + 0.2) = 500 := (true_stress_inverse _ (by norm_num)).1 _

/-- fracture variants: true fracture strain ↔ reduction of area (`Z = 1 − exp(−ε)`), and it is the true
strain of the equivalent engineering strain `1/(1−Z) − 1`; true fracture stress is the force over the
reduced cross section and the true stress of `F/A₀` at that engineering strain. -/
theorem true_fracture_inverse :
    (∀ Z : ℝ, Z < 1 → 1 - Real.exp (-(true_fracture_strain Z)) = Z) ∧
    (∀ ε : ℝ, true_fracture_strain (1 - Real.exp (-ε)) = ε) ∧
    (∀ Z : ℝ, Z ≠ 1 → true_fracture_strain Z = true_strain (1 / (1 - Z) - 1)) ∧
    (∀ F A Z : ℝ, A ≠ 0 → Z ≠ 1 → true_fracture_stress F A Z * (A * (1 - Z)) = F) ∧
    (∀ F A Z : ℝ, A ≠ 0 → Z ≠ 1 → true_fracture_stress F A Z = true_stress (F / A) (1 / (1 - Z) - 1)) := by
  refine ⟨fun Z hZ => ?_, fun ε => ?_, fun Z hZ => ?_, fun F A Z hA hZ => ?_, fun F A Z hA hZ => ?_⟩
  · rw [true_fracture_strain_eq, neg_neg, Real.exp_log (by linarith)]; ring
  · rw [true_fracture_strain_eq, show (1:ℝ) - (1 - Real.exp (-ε)) = Real.exp (-ε) by ring, Real.log_exp, neg_neg]
  · rw [true_fracture_strain_eq, true_strain_eq, show (1:ℝ) + (1 / (1 - Z) - 1) = (1 - Z)⁻¹ by ring, Real.log_inv]
  · have h : 1 - Z ≠ 0 := fun h => hZ (by linarith)
    rw [true_fracture_stress_eq]; field_simp
  · have h : 1 - Z ≠ 0 := fun h => hZ (by linarith)
    rw [true_fracture_stress_eq, true_stress_eq]; field_simp; ring

example : 1 - Real.exp (-(true_fracture_strain (0.6:ℝ))) = 0.6 := true_fracture_inverse.1 _ (by norm_num)
example : true_fracture_stress (1000:ℝ) 50 0.6 * (50 * (1 - 0.6)) = 1000 :=
  true_fracture_inverse.2.2.2.1 _ _ _ (by norm_num) (by norm_num)

/-! ## The translated functions against the hand-written model -/

open PylifeVerif.MaterialLaws in
/-- Cross-check of the translator (and of the plane-strain substitution E' = E/(1-ν²), ν' = ν/(1-ν)): every
translated function equals the hand-written textbook form over ℝ. -/
theorem translated_eq_hand_model {E K n nu : ℝ} (hE : 0 < E) (hK : 0 < K) (hn0 : 0 < n) (h1 : -1 < nu)
    (h2 : nu < 1 / 2) :
    (∀ σ, RambergOsgood.strain E K n σ = roStrain E K n σ) ∧
    (∀ σ, RambergOsgood.tangential_compliance E K n σ = roCompliance E K n σ) ∧
    (∀ σ, RambergOsgood.tangential_modulus E K n σ = roModulus E K n σ) ∧
    (∀ σ, RambergOsgood.delta_strain E K n σ = roDeltaStrain E K n σ) ∧
    (∀ σ m, RambergOsgood.lower_hysteresis E K n σ m = roLowerHysteresis E K n σ m) ∧
    (∀ x, HookesLaw1d.stress E x = hooke1dStress E x ∧ HookesLaw1d.strain E x = hooke1dStrain E x) ∧
    (HookesLaw3d.attr_G E nu = shearModulus E nu ∧ HookesLaw3d.attr_K E nu = bulkModulus E nu) ∧
    (∀ a b c d e f, HookesLaw3d.strain E nu a b c d e f = hooke3dStrain E nu a b c d e f) ∧
    (∀ a b c d e f, HookesLaw3d.stress E nu a b c d e f = hooke3dStress E nu a b c d e f) ∧
    (∀ a b c, HookesLaw2dPlaneStress.strain E nu a b c = planeStressStrain E nu a b c) ∧
    (∀ a b c, HookesLaw2dPlaneStress.stress E nu a b c = planeStressStress E nu a b c) ∧
    (∀ a b c, HookesLaw2dPlaneStrain.strain E nu a b c = planeStrainStrain E nu a b c) ∧
    (∀ a b c, HookesLaw2dPlaneStrain.stress E nu a b c = planeStrainStress E nu a b c) ∧
    (∀ e : ℝ, true_strain e = trueStrain e) ∧ (∀ s e : ℝ, true_stress s e = trueStress s e) ∧
    (∀ Z : ℝ, true_fracture_strain Z = trueFractureStrain Z) ∧
    (∀ F A Z : ℝ, true_fracture_stress F A Z = trueFractureStress F A Z) := by
  have s := hookeSide hE h1 h2
  have hs : ∀ σ, RambergOsgood.strain E K n σ = roStrain E K n σ := fun σ => by
    rw [ro_strain_eq_curve]; simp only [curve, plast, roStrain, rsign_eq, transc_abs, transc_pow, lit_one]
  have hc : ∀ σ, RambergOsgood.tangential_compliance E K n σ = roCompliance E K n σ := fun σ => by
    rw [ro_compliance_eq_compl]
    simp only [C16L.compl, roCompliance, transc_abs, transc_pow, lit_one]; rw [div_div]
  have hd : ∀ σ, RambergOsgood.delta_strain E K n σ = roDeltaStrain E K n σ := fun σ => by
    rw [masing_delta_is_doubled, hs]; simp only [roDeltaStrain, lit_two]
  refine ⟨hs, hc, fun σ => ?_, hd, fun σ m => ?_, fun x => ⟨hooke1d_stress_eq E x, hooke1d_strain_eq E x⟩,
    ⟨(hooke_G_eq E nu).1, (hooke_K_eq E nu).1⟩, hooke3d_strain_eq s, hooke3d_stress_eq s, planeStress_strain_eq s,
    planeStress_stress_eq s, planeStrain_strain_eq s, planeStrain_stress_eq s,
    fun e => ?_, fun s e => ?_, fun Z => ?_, fun F A Z => ?_⟩
  · rw [ro_modulus_eq, hc]; simp only [roModulus, lit_one, one_div]
  · rw [ro_lower_hysteresis_eq, hs, hd]; rfl
  · rw [true_strain_eq]; simp only [trueStrain, transc_log, lit_one]
  · rw [true_stress_eq]; simp only [trueStress, lit_one]
  · rw [true_fracture_strain_eq]; simp only [trueFractureStrain, transc_log, lit_one, one_div, Real.log_inv]
  · rw [true_fracture_stress_eq]; simp only [trueFractureStress, lit_one]

open PylifeVerif.MaterialLaws in
example : HookesLaw2dPlaneStrain.stress (206000:ℝ) 0.3 0.001 (-0.0005) 0.0002
    = planeStrainStress 206000 0.3 0.001 (-0.0005) 0.0002 :=
  (translated_eq_hand_model exE exK exn.1 exnu.1 exnu.2).2.2.2.2.2.2.2.2.2.2.2.2.1 _ _ _

end PylifeVerif.C16
