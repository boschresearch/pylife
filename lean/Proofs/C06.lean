/-
C06 — the notch approximation laws return the root of their defining equation, and its inverse.

Theorems about the defining functions of `Model/Notch.lean` at the carrier ℝ.  `F(σ, L) = stressImplicit m σ L`
is `ExtendedNeuber._stress_implicit(σ, L)` = `_load_implicit(L, σ)` (eq. 2.5-45), `stressSecImplicit` the
Masing-doubled secondary equation (2.5-46), `sbStressImplicit` / `sbStressSecImplicit` the Seeger-Beste quotient forms
(2.8-42 / 2.8-43).  What the solvers return (`scipy.optimize.newton` for extended Neuber, the bisection
`_root_in_bracket` for Seeger-Beste) is NOT a subject of these theorems (convergence is a run-time fact, measured by the
correspondence check and the oracle; the halving loop of the bisection alone is `Proofs/C06Solver.lean`): they say that the
equation the solver is given has exactly one root of the load's sign, where it lies and how it depends on the load.

Admissible parameters (`Mat.Adm`): `E, K' > 0`, `0 < n' < 1`, `K_p ≥ 1`.  The code checks none of these; for
`K_p < 1` or `n' > 1` the bracket `[L/K_p, L]` is wrong, which is why they are hypotheses.
`F(−σ, −L) = −F(σ, L)` (`neuber_root_odd`), so a negative load has the mirrored root: uniqueness is uniqueness among
stresses (loads) of one sign, which is what the solver's start value `x0 = L` selects.
The bare `example`s state the hypotheses of the theorem before them at one instance (the material of `exAdm`).
-/
import Proofs.Lemmas.NotchSBAnalysis

namespace PylifeVerif.C06
open PylifeVerif.Notch

variable {m : Mat ℝ}

/-- **Bracket**: `F(L/K_p, L) ≤ 0 ≤ F(L, L)`. -/
theorem neuber_bracket (h : m.Adm) {L : ℝ} (hL : 0 < L) :
    stressImplicit m (L / m.Kp) L ≤ 0 ∧ 0 ≤ stressImplicit m L L := by
  have hKp := h.Kp_pos
  constructor
  · -- `F(L/K_p, L) = e*(L) − K_p² · e*(L)`
    have key : L * m.Kp * eStar m L / (L / m.Kp) = m.Kp * m.Kp * eStar m L := by field_simp
    rw [stressImplicit_of_ne m (div_pos hL hKp).ne', neuberProduct, ← eStar_eq, key, sub_nonpos]
    exact le_mul_of_one_le_left (eStar_pos h hL).le (one_le_mul_of_one_le_of_one_le h.Kp_ge h.Kp_ge)
  · -- `F(L, L) = ε(L) − K_p · e*(L)`
    rw [stressImplicit_of_ne m hL.ne', neuberProduct, mul_assoc, mul_div_cancel_left₀ _ hL.ne', sub_nonneg]
    exact kp_mul_eStar_le h hL.le

/-- The material of the examples of the notch and material-law files: the guideline steel `R_m = 600` with `K'` rounded
(`corpus/C06/neuber_guideline_material.json`), `K_p = 3.5`. -/
theorem exAdm : (⟨206000, 1184, 0.187, 3.5⟩ : Mat ℝ).Adm := by constructor <;> norm_num

example : (⟨206000, 1184, 0.187, 3.5⟩ : Mat ℝ).Adm := exAdm

/-- **Strictly increasing in the stress** on `σ > 0`. -/
theorem neuber_strictMono_in_stress (h : m.Adm) {L : ℝ} (hL : 0 < L) :
    StrictMonoOn (fun s => stressImplicit m s L) (Set.Ioi 0) := by
  intro a ha b hb hab
  show stressImplicit m a L < stressImplicit m b L
  rw [stressImplicit_of_ne m (ne_of_gt ha), stressImplicit_of_ne m (ne_of_gt hb)]
  exact sub_lt_sub (roStrain_strictMono h hab) (div_lt_div_of_pos_left (neuberProduct_pos h hL) ha hab)

/-- **Existence and uniqueness of the root**: for every load `L > 0` the defining equation has a root `σ` with
`L/K_p ≤ σ ≤ L`, and it is the only positive root. -/
theorem neuber_exists_unique_root (h : m.Adm) {L : ℝ} (hL : 0 < L) :
    ∃ s, L / m.Kp ≤ s ∧ s ≤ L ∧ stressImplicit m s L = 0 ∧
      ∀ s', 0 < s' → stressImplicit m s' L = 0 → s' = s := by
  have hlo : 0 < L / m.Kp := div_pos hL h.Kp_pos
  have hab : L / m.Kp ≤ L := div_le_self hL.le h.Kp_ge
  have hcont : ContinuousOn (fun s => stressImplicit m s L) (Set.Icc (L / m.Kp) L) :=
    (stressImplicit_continuousOn h L).mono (fun s hs => lt_of_lt_of_le hlo hs.1)
  obtain ⟨hb1, hb2⟩ := neuber_bracket h hL
  obtain ⟨s, hs, hroot⟩ := intermediate_value_Icc hab hcont ⟨hb1, hb2⟩
  refine ⟨s, hs.1, hs.2, hroot, fun s' hs' hroot' => ?_⟩
  have hspos : 0 < s := lt_of_lt_of_le hlo hs.1
  exact (neuber_strictMono_in_stress h hL).injOn hs' hspos (hroot'.trans hroot.symm)

/-- **Odd in the load**: `F(−σ, −L) = −F(σ, L)` (all arguments, fall-backs included), so `−σ` is the root for the load
`−L` exactly when `σ` is the root for `L`. -/
theorem neuber_root_odd (m : Mat ℝ) (s L : ℝ) :
    stressImplicit m (-s) (-L) = -stressImplicit m s L ∧
    (stressImplicit m (-s) (-L) = 0 ↔ stressImplicit m s L = 0) := by
  refine ⟨stressImplicit_neg_neg m s L, ?_⟩
  rw [stressImplicit_neg_neg, neg_eq_zero]

/-- **The root is strictly increasing in the load.** -/
theorem neuber_root_strictMono_in_load (h : m.Adm) {L₁ L₂ s₁ s₂ : ℝ} (hL₁ : 0 < L₁) (hL : L₁ < L₂)
    (hs₁ : 0 < s₁) (hs₂ : 0 < s₂) (h₁ : stressImplicit m s₁ L₁ = 0) (h₂ : stressImplicit m s₂ L₂ = 0) :
    s₁ < s₂ :=
  root_lt_root (F := stressImplicit m) (fun hle =>
    ((neuber_strictMono_in_stress h (hL₁.trans hL)).monotoneOn hs₂ hs₁ hle).trans_lt
      (stressImplicit_strictAntiOn_load h hs₁ hL₁ (hL₁.trans hL) hL)) h₁ h₂

/-- **The backward function is the inverse.**  `_load_implicit(L, σ)` is the same function read in `L`.  For `σ > 0` it has
a root `L` with `σ ≤ L ≤ K_p·σ`, the only positive one: so `load(stress(L)) = L` and `stress(load(σ)) = σ`
(with the uniqueness of `neuber_exists_unique_root`). -/
theorem neuber_load_inverse (h : m.Adm) {s : ℝ} (hs : 0 < s) :
    (∃ L, s ≤ L ∧ L ≤ m.Kp * s ∧ stressImplicit m s L = 0) ∧
    (∀ L L', 0 < L → 0 < L' → stressImplicit m s L = 0 → stressImplicit m s L' = 0 → L' = L) := by
  have hKp := h.Kp_pos
  constructor
  · have hab : s ≤ m.Kp * s := le_mul_of_one_le_left hs.le h.Kp_ge
    have hcont := (stressImplicit_continuous_load h hs.ne').continuousOn (s := Set.Icc s (m.Kp * s))
    have htop : stressImplicit m s (m.Kp * s) ≤ 0 := by
      have := (neuber_bracket h (mul_pos hKp hs)).1
      rwa [mul_div_cancel_left₀ s hKp.ne'] at this
    have hbot : 0 ≤ stressImplicit m s s := (neuber_bracket h hs).2
    obtain ⟨L, hL, hroot⟩ := intermediate_value_Icc' hab hcont ⟨htop, hbot⟩
    exact ⟨L, hL.1, hL.2, hroot⟩
  · intro L L' hL hL' h1 h2
    exact (stressImplicit_strictAntiOn_load h hs).injOn hL' hL (h2.trans h1.symm)

/-! ## extended Neuber, secondary branch (Masing doubling)

For an admissible material the secondary equation is the primary equation of the material `m.masing` (`K' ↦ 2^(1−n')·K'`,
`stressSecImplicit_eq_masing`): the theorems of the primary branch are used as they stand.  `neuber_secondary_masing` comes first
and is another reduction, which the three after it do not use: the halving identity, for all arguments and every material. -/

/-- **The secondary equation is the primary one at half the ranges, doubled**:
`F₂(Δσ, ΔL) = 2·F(Δσ/2, ΔL/2)` for all arguments.  Hence `Δσ` solves the secondary equation for `ΔL` iff `Δσ/2`
solves the primary one for `ΔL/2`. -/
theorem neuber_secondary_masing (m : Mat ℝ) (ds dL : ℝ) :
    stressSecImplicit m ds dL = 2 * stressImplicit m (ds / 2) (dL / 2) ∧
    (stressSecImplicit m ds dL = 0 ↔ stressImplicit m (ds / 2) (dL / 2) = 0) := by
  refine ⟨stressSecImplicit_half m ds dL, ?_⟩
  rw [stressSecImplicit_half]; simp

theorem neuber_secondary_exists_unique_root (h : m.Adm) {dL : ℝ} (hL : 0 < dL) :
    stressSecImplicit m (dL / m.Kp) dL ≤ 0 ∧ 0 ≤ stressSecImplicit m dL dL ∧
    ∃ ds, dL / m.Kp ≤ ds ∧ ds ≤ dL ∧ stressSecImplicit m ds dL = 0 ∧
      ∀ ds', 0 < ds' → stressSecImplicit m ds' dL = 0 → ds' = ds := by
  rw [stressSecImplicit_eq_masing h]
  exact ⟨(neuber_bracket h.masing hL).1, (neuber_bracket h.masing hL).2, neuber_exists_unique_root h.masing hL⟩

theorem neuber_secondary_odd_strictMono (h : m.Adm) :
    (∀ ds dL, stressSecImplicit m (-ds) (-dL) = -stressSecImplicit m ds dL) ∧
    (∀ {dL₁ dL₂ ds₁ ds₂ : ℝ}, 0 < dL₁ → dL₁ < dL₂ → 0 < ds₁ → 0 < ds₂ →
      stressSecImplicit m ds₁ dL₁ = 0 → stressSecImplicit m ds₂ dL₂ = 0 → ds₁ < ds₂) := by
  rw [stressSecImplicit_eq_masing h]
  exact ⟨stressImplicit_neg_neg _, neuber_root_strictMono_in_load h.masing⟩

theorem neuber_secondary_load_inverse (h : m.Adm) {ds : ℝ} (hs : 0 < ds) :
    (∃ dL, ds ≤ dL ∧ dL ≤ m.Kp * ds ∧ stressSecImplicit m ds dL = 0) ∧
    (∀ dL dL', 0 < dL → 0 < dL' → stressSecImplicit m ds dL = 0 → stressSecImplicit m ds dL' = 0 → dL' = dL) := by
  rw [stressSecImplicit_eq_masing h]
  exact neuber_load_inverse h.masing hs

/-! ## Seeger-Beste: symmetry, Masing reduction, domain

For `K_p > 1` and `L > 0` the function `σ ↦ sbStressImplicit m σ L` has exactly one root in `(L/K_p, L)`, the root is strictly
increasing in `L`, and `L ↦ sbStressImplicit m σ L` has exactly one root in `(σ, K_p·σ)`: that is `Proofs/C06SeegerBeste.lean`
(the bracket holds as one-sided limits only: at the end points themselves the code evaluates fall-back values, see there). -/

/-- **Symmetry**: the quotient form is even under `(σ, L) ↦ (−σ, −L)` (all arguments, fall-backs included), so `−σ` is
the root for `−L` exactly when `σ` is the root for `L`: the law is odd in the load. -/
theorem seegerBeste_root_odd (m : Mat ℝ) (s L : ℝ) :
    sbStressImplicit m (-s) (-L) = sbStressImplicit m s L := by
  rw [sbStressImplicit, sbStressImplicit, middleTerm_neg_neg, roStrain_neg, neuberStrain_neg_neg, mul_neg, neg_div_neg_eq]

/-- **Masing doubling**: the secondary quotient form is the primary one at half the ranges. -/
theorem seegerBeste_secondary_masing (m : Mat ℝ) (ds dL : ℝ) :
    sbStressSecImplicit m ds dL = sbStressImplicit m (ds / 2) (dL / 2) := by
  rw [sbStressSecImplicit, sbStressImplicit, roDeltaStrain_eq, neuberStrainSec_half, middleTerm_half, mul_left_comm,
    mul_div_mul_left _ _ two_ne_zero]

/-- **Domain**: for `K_p > 1`, `L > 0` and `L/K_p < σ < L` the `u`-term lies strictly between `0` and `π/2`, so
`cos u > 0`, none of the three `np.divide(…, where=…)` fall-backs is taken and the coded function is eq. 2.8-42:
`ε(σ) / ((2/u²·ln(1/cos u) + (σ/L)² − σ/L) · L/σ·K_p·e*(L)) − 1`. -/
theorem seegerBeste_domain_partial (h : m.Adm) (hKp : 1 < m.Kp) {s L : ℝ} (hL : 0 < L) (h1 : L / m.Kp < s) (h2 : s < L) :
    0 < uTerm m s L ∧ uTerm m s L < Real.pi / 2 ∧ 0 < Real.cos (uTerm m s L) ∧
    sbStressImplicit m s L =
      roStrain m s / (((2 / (uTerm m s L * uTerm m s L)) * Real.log (1 / Real.cos (uTerm m s L))
        + s / L * (s / L) - s / L) * (L / s * m.Kp * eStar m L)) - 1 := by
  have hs : 0 < s := lt_trans (div_pos hL h.Kp_pos) h1
  have hr := (stress_ratio_mem_iff hL).mp ⟨h1, h2⟩
  have hu := sbU_mem hKp hr
  rw [← uTerm_eq_sbU m hs.ne'] at hu
  have hcos := cos_pos_of_Ico hu.1.le hu.2
  refine ⟨hu.1, hu.2, hcos, ?_⟩
  rw [sbStressImplicit_eq, neuberStrain_of_ne m hs.ne', middleTerm_eq_on hKp hL ⟨h1, h2⟩, ← uTerm_eq_sbU m hs.ne', sbPhi]

example : (1 : ℝ) < (⟨206000, 1184, 0.187, 3.5⟩ : Mat ℝ).Kp ∧ (100 : ℝ) / 3.5 < 99 ∧ (99 : ℝ) < 100 := by norm_num

/-- **The quotient form is genuine on the open bracket**: for `L/K_p < σ < L` the middle term and the Neuber term are
positive (`2/u²·ln(1/cos u) ≥ 1 > σ/L − (σ/L)²`), so nothing is divided by zero, the function is `> −1`,
and `σ` is a root iff `ε(σ) = middle term · L/σ·K_p·e*(L)` (eq. 2.8-42 in product form). -/
theorem seegerBeste_root_iff_partial (h : m.Adm) (hKp : 1 < m.Kp) {s L : ℝ} (hL : 0 < L) (h1 : L / m.Kp < s) (h2 : s < L) :
    0 < middleTerm m s L ∧ 0 < neuberStrain m s L ∧ -1 < sbStressImplicit m s L ∧
    (sbStressImplicit m s L = 0 ↔ roStrain m s = middleTerm m s L * neuberStrain m s L) := by
  have hs : 0 < s := lt_trans (div_pos hL h.Kp_pos) h1
  have hM := middleTerm_pos_on hKp hL ⟨h1, h2⟩
  have hN : 0 < neuberStrain m s L := by
    rw [neuberStrain_of_ne m hs.ne']
    exact mul_pos (mul_pos (div_pos hL hs) h.Kp_pos) (eStar_pos h hL)
  have hMN := mul_pos hM hN
  have ha := roStrain_pos h hs
  refine ⟨hM, hN, ?_, ?_⟩
  · rw [sbStressImplicit_eq]
    have : 0 < roStrain m s / (middleTerm m s L * neuberStrain m s L) := div_pos ha hMN
    linarith
  · rw [sbStressImplicit_eq, sub_eq_zero, div_eq_one_iff_eq hMN.ne']

/-- **Zero load ↦ zero stress (and back)**: `σ = 0` solves the extended-Neuber equations for `L = 0` (primary and secondary,
with the `np.divide` fall-back factor 1 as coded), and the Seeger-Beste equation in product form
`ε(σ) = middle term · Neuber term` holds at `(0, 0)` - while its quotient form, which the code hands to the solver, is `0/0`
there.  This is the behaviour the laws have for a zero load / stress (alone or as an element of a vector). -/
theorem zero_load (m : Mat ℝ) :
    stressImplicit m 0 0 = 0 ∧ stressSecImplicit m 0 0 = 0 ∧
    roStrain m 0 = middleTerm m 0 0 * neuberStrain m 0 0 ∧
    roDeltaStrain m 0 = middleTerm m 0 0 * neuberStrainSec m 0 0 ∧
    middleTerm m 0 0 * neuberStrain m 0 0 = 0 := by
  have hN : neuberStrain m 0 0 = 0 := by rw [neuberStrain, eStar_eq, zero_div, roStrain_zero, mul_zero]
  have hd : roDeltaStrain m 0 = 0 := by rw [roDeltaStrain_eq, zero_div, roStrain_zero, mul_zero]
  have hN2 : neuberStrainSec m 0 0 = 0 := by rw [neuberStrainSec_half, zero_div, hN, mul_zero]
  refine ⟨?_, ?_, ?_, ?_, ?_⟩
  · rw [stressImplicit, roStrain_zero, hN, sub_zero]
  · rw [stressSecImplicit, hd, hN2, sub_zero]
  · rw [roStrain_zero, hN, mul_zero]
  · rw [hd, hN2, mul_zero]
  · rw [hN, mul_zero]

end PylifeVerif.C06
