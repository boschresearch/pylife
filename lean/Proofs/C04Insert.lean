/-
C04: non-reversal samples do not change what the FKM-nonlinear HCM detector records
(`twoPassR` on one-point load sequences).  Both theorems are instances of `passes_insert_interior` / `passes_append`
(`Proofs/Lemmas/HCMPasses.lean`), which hold for every first-run flush policy that does not see the inserted sample.
-/
import Proofs.Lemmas.HCMPasses

namespace PylifeVerif
open HCM Rainflow
namespace C04
open HCM.Insert

/-- A sample lying (weakly) between its neighbours changes nothing that is recorded. -/
theorem hcm_insert_nonreversal_interior (law : Law) (pre post : List Int) (x y v : Int)
    (hv : (x ≤ v ∧ v ≤ y) ∨ (y ≤ v ∧ v ≤ x)) :
    (twoPassR law (one (pre ++ x :: v :: y :: post))).recs = (twoPassR law (one (pre ++ x :: y :: post))).recs := by
  rw [(twoPass_one_eq law _ (by simp)).1, (twoPass_one_eq law _ (by simp)).1]
  exact passes_insert_interior law flushI (flag_ins []) pre post x y v hv

/-- A sample appended at the end that lies between the last and the first sample (a non-reversal
at the junction of the passes; a repetition of the first sample would itself be the reversal) changes
nothing that is recorded. -/
theorem hcm_append_nonreversal (law : Law) (s : List Int) (a z v : Int) (hs : s.head? = some a) (hz : s.getLast? = some z)
    (hv : (a ≤ v ∧ v ≤ z) ∨ (z ≤ v ∧ v ≤ a)) (hne : v ≠ a ∨ v = z) :
    (twoPassR law (one (s ++ [v]))).recs = (twoPassR law (one s)).recs := by
  have hne' : s ≠ [] := List.ne_nil_of_mem (List.mem_of_getLast? hz)
  rw [(twoPass_one_eq law _ (by simp)).1, (twoPass_one_eq law s hne').1]
  exact passes_append law flushI s a z v hs hz hv hne

end C04

/-! ### non-vacuity / sanity instances -/

-- interior insertion: the three kinds (repetition of `x`, of `y`, strictly between)
example : (twoPassR lawSat (C04.one ([0, 100] ++ 300 :: 200 :: 100 :: [-200, 50]))).recs =
    (twoPassR lawSat (C04.one ([0, 100] ++ 300 :: 100 :: [-200, 50]))).recs :=
  C04.hcm_insert_nonreversal_interior lawSat [0, 100] [-200, 50] 300 100 200 (by decide)
example : (twoPassR lawLinear (C04.one ([0, 100] ++ 300 :: 200 :: 100 :: [-200, 50]))).recs ≠ [] := by
  decide +kernel
-- append: strictly between last (50) and first (200) sample
example : (twoPassR lawSat (C04.one ([200, -100, 300, 50] ++ [100]))).recs =
    (twoPassR lawSat (C04.one [200, -100, 300, 50])).recs :=
  C04.hcm_append_nonreversal lawSat [200, -100, 300, 50] 200 50 100 rfl rfl (by decide) (by decide)
example : (twoPassR lawLinear (C04.one ([200, -100, 300, 50] ++ [100]))).recs ≠ [] := by decide +kernel
-- `findTurns_ins` (`Lemmas/Insertion.lean`) on an example: the inserted sample only shifts the indices behind it
example : findTurns ([1, 3] ++ 2 :: [1, 4, 0]) =
    (findTurns ([1, 3] ++ [1, 4, 0])).map (HCM.Insert.bump 2) := by decide

end PylifeVerif

#print axioms PylifeVerif.C04.hcm_insert_nonreversal_interior
#print axioms PylifeVerif.C04.hcm_append_nonreversal
