/-
C17 — equivalent stresses are rotation invariant and match the principal stresses.

Model: `Model/Equistress.lean` (each function as `equistress.py` computes it, generic carrier; here at ℝ).
`tensor v` is the symmetric matrix `eigenval` assembles from the six components; `IsEigTriple A w` is
the contract of `numpy.linalg.eigvalsh`: `w` ascending and `charpoly A = (X-w0)(X-w1)(X-w2)`.
The eigenvalue based functions take that triple as input (`eigvalsh` itself is not modelled: only this contract is stated).
-/
import Proofs.Lemmas.Equistress

namespace PylifeVerif.C17
open Matrix PylifeVerif.Equistress

/-- Over ℝ the expanded polynomial of the unrepaired code equals the sum-of-squares radicand of the
repaired code. -/
theorem misesRadicandExpanded_eq_sum_of_squares (v : Voigt ℝ) :
    misesRadicandExpanded v =
      ((v.s11 - v.s22) ^ 2 + (v.s22 - v.s33) ^ 2 + (v.s33 - v.s11) ^ 2) / 2
        + 3 * (v.s12 ^ 2 + v.s13 ^ 2 + v.s23 ^ 2) := by
  rw [misesRadicandExpanded_eq, misesRadicand_real]

example : misesRadicandExpanded (⟨3.3, 3.3, 3.3, 0, 0, 0⟩ : Voigt ℝ) = 0 := by
  rw [misesRadicandExpanded_eq_sum_of_squares]; norm_num

/-- The radicand of the expanded formula is non-negative over ℝ: a NaN of `mises` on finite input
(F-13) is a floating-point cancellation artefact, never a property of the formula. -/
theorem misesRadicandExpanded_nonneg (v : Voigt ℝ) : 0 ≤ misesRadicandExpanded v := by
  rw [misesRadicandExpanded_eq]
  exact misesRadicand_nonneg v

/-- Expanded (unrepaired) and sum-of-squares (repaired) formula are the same real function. -/
theorem misesExpanded_eq_mises (v : Voigt ℝ) : misesExpanded v = mises v := by
  rw [misesExpanded, mises, misesRadicandExpanded_eq]

example : misesExpanded exS = mises exS := misesExpanded_eq_mises _

/-- `mises² = (3 tr(A²) − (tr A)²)/2` for the symmetric tensor built from the six components. -/
theorem mises_sq_eq_invariants (v : Voigt ℝ) :
    mises v ^ 2 = (3 * (tensor v * tensor v).trace - (tensor v).trace ^ 2) / 2 := by
  rw [mises, transc_sqrt, Real.sq_sqrt (misesRadicand_nonneg v), misesRadicand_real,
    trace_tensor, trace_tensor_sq]
  ring

theorem mises_eq_sqrt_invariants (v : Voigt ℝ) :
    mises v = Real.sqrt ((3 * (tensor v * tensor v).trace - (tensor v).trace ^ 2) / 2) := by
  rw [← mises_sq_eq_invariants, Real.sqrt_sq (mises_nonneg v)]

example : mises exS ^ 2 = 234 := by
  rw [mises_sq_eq_invariants, trace_tensor, trace_tensor_sq]; norm_num [exS]

/-- Rotation invariance of von Mises: if `t` holds the components of the tensor `s` expressed in a
basis rotated by any orthogonal `Q` (`QᵀQ = 1`; proper rotations and reflections), Mises is the same. -/
theorem mises_rotation_invariant (s t : Voigt ℝ) (Q : Matrix (Fin 3) (Fin 3) ℝ) (hQ : Qᵀ * Q = 1)
    (h : tensor t = Q * tensor s * Qᵀ) : mises t = mises s := by
  rw [mises_eq_sqrt_invariants t, mises_eq_sqrt_invariants s, h, trace_sq_conj hQ, trace_conj hQ]

example : mises exT = mises exS := mises_rotation_invariant exS exT exQ exQ_orth exT_eq

/-- Every tensor built from six components has an ascending eigenvalue triple (spectral theorem), so
the hypothesis `IsEigTriple (tensor v) w` of the theorems below is satisfiable for every input. -/
theorem eigTriple_exists (v : Voigt ℝ) : ∃ w, IsEigTriple (tensor v) w :=
  let ⟨w, _, h, _⟩ := exists_eigTriple_orth_diagonal (tensor_isHermitian v)
  ⟨w, h⟩

/-- The ascending eigenvalue triple does not change under an orthogonal change of basis, hence no
function of it does (`tresca`, `max/min/abs_max_principal`, the sign indicators). -/
theorem eigTriple_rotation_invariant (s t : Voigt ℝ) (Q : Matrix (Fin 3) (Fin 3) ℝ)
    (hQ : Qᵀ * Q = 1) (h : tensor t = Q * tensor s * Qᵀ) {w w' : Principal ℝ}
    (hw : IsEigTriple (tensor s) w) (hw' : IsEigTriple (tensor t) w') : w' = w := by
  rw [h] at hw'
  exact hw'.unique (hw.conj hQ)

/-- The triple consists exactly of the eigenvalues in the usual sense (`A x = μ x` with `x ≠ 0`). -/
theorem eigTriple_are_eigenvalues (v : Voigt ℝ) (w : Principal ℝ) (h : IsEigTriple (tensor v) w) (μ : ℝ) :
    (∃ x : Fin 3 → ℝ, x ≠ 0 ∧ tensor v *ᵥ x = μ • x) ↔ μ = w.w0 ∨ μ = w.w1 ∨ μ = w.w2 :=
  h.eigenvalue_iff μ

example : IsEigTriple (tensor ⟨1, 2, 3, 0, 0, 0⟩) ⟨1, 2, 3⟩ :=
  isEigTriple_diag (by norm_num) (by norm_num)

example {w w' : Principal ℝ} (hw : IsEigTriple (tensor exS) w) (hw' : IsEigTriple (tensor exT) w') :
    w' = w := eigTriple_rotation_invariant exS exT exQ exQ_orth exT_eq hw hw'

/-- Mises equals its principal form `√(((λ₁−λ₂)²+(λ₂−λ₃)²+(λ₃−λ₁)²)/2)`: in principal axes the tensor is
`diag(λ₁, λ₂, λ₃)`, and Mises does not see the rotation. -/
theorem mises_eq_principal_form (v : Voigt ℝ) (w : Principal ℝ) (h : IsEigTriple (tensor v) w) :
    mises v = principalMises w := by
  obtain ⟨U, hU, hUA⟩ := h.exists_orth_diagonal (tensor_isHermitian v)
  rw [← tensor_diag] at hUA
  exact (mises_rotation_invariant _ v U hU hUA).trans (mises_diag _ _ _)

example : mises (⟨1, 2, 3, 0, 0, 0⟩ : Voigt ℝ) = principalMises ⟨1, 2, 3⟩ :=
  mises_eq_principal_form _ _ (isEigTriple_diag (by norm_num) (by norm_num))

/-- Tresca = largest minus smallest eigenvalue (for any order of the three values) … -/
theorem tresca_eq_max_sub_min (w : Principal ℝ) :
    tresca w = max (max w.w0 w.w1) w.w2 - min (min w.w0 w.w1) w.w2 := by
  rw [tresca_real, maxPrincipal, minPrincipal, amax3_real, amin3_real]

theorem maxPrincipal_def (w : Principal ℝ) (h1 : w.w0 ≤ w.w1) (h2 : w.w1 ≤ w.w2) :
    maxPrincipal w = w.w2 := by
  rw [maxPrincipal, amax3_real, max_eq_right h1, max_eq_right h2]

theorem minPrincipal_def (w : Principal ℝ) (h1 : w.w0 ≤ w.w1) (h2 : w.w1 ≤ w.w2) :
    minPrincipal w = w.w0 := by
  rw [minPrincipal, amin3_real, min_eq_left h1, min_eq_left (h1.trans h2)]

/-- … in particular `w₂ − w₀` on the ascending triple `eigvalsh` returns. -/
theorem tresca_def (w : Principal ℝ) (h1 : w.w0 ≤ w.w1) (h2 : w.w1 ≤ w.w2) :
    tresca w = w.w2 - w.w0 := by
  rw [tresca_real, maxPrincipal_def w h1 h2, minPrincipal_def w h1 h2]

theorem absMaxPrincipal_asc {w : Principal ℝ} (h1 : w.w0 ≤ w.w1) (h2 : w.w1 ≤ w.w2) :
    absMaxPrincipal w = if 0 ≤ w.w2 + w.w0 then w.w2 else w.w0 := by
  rw [absMaxPrincipal_real, maxPrincipal_def w h1 h2, minPrincipal_def w h1 h2]

/-- Absolute maximum principal stress = the eigenvalue of largest magnitude with its sign (the
positive one when `|w₀| = |w₂|`); its magnitude is the largest `|λ|`. -/
theorem absMaxPrincipal_def (w : Principal ℝ) (h1 : w.w0 ≤ w.w1) (h2 : w.w1 ≤ w.w2) :
    absMaxPrincipal w = (if |w.w0| ≤ |w.w2| then w.w2 else w.w0) ∧
      |absMaxPrincipal w| = max (max |w.w0| |w.w1|) |w.w2| := by
  -- the middle value never has the largest magnitude alone
  rw [absMaxPrincipal_asc h1 h2, max_right_comm, max_eq_left (abs_le_max_abs_abs h1 h2)]
  by_cases h : 0 ≤ w.w2 + w.w0
  · have hc : |w.w0| ≤ |w.w2| := abs_le_abs (h1.trans h2) (neg_le_iff_add_nonneg.2 h)
    rw [if_pos h, if_pos hc, max_eq_right hc]
    exact ⟨rfl, rfl⟩
  · -- `w₀ ≤ w₂ < -w₀`: `|w₂| ≤ |w₀|`, with equality only if `w₂ = w₀`
    have hlt : w.w2 < -w.w0 := lt_neg_iff_add_neg.2 (not_le.mp h)
    have hc : |w.w2| ≤ |w.w0| := abs_neg w.w0 ▸ abs_le_abs hlt.le (neg_le_neg (h1.trans h2))
    rw [if_neg h, max_eq_left hc]
    refine ⟨?_, rfl⟩
    split_ifs with hc'
    · rcases abs_eq_abs.1 (le_antisymm hc hc') with e | e
      · exact e.symm
      · exact absurd e hlt.ne
    · rfl
example : absMaxPrincipal (⟨-5, 1, 3⟩ : Principal ℝ) = -5 := by
  rw [(absMaxPrincipal_def ⟨-5, 1, 3⟩ (by norm_num) (by norm_num)).1]; norm_num
example : absMaxPrincipal (⟨-3, 1, 3⟩ : Principal ℝ) = 3 := by
  rw [(absMaxPrincipal_def ⟨-3, 1, 3⟩ (by norm_num) (by norm_num)).1]; norm_num
example : tresca (⟨-5, 1, 3⟩ : Principal ℝ) = 8 := by rw [tresca_def _ (by norm_num) (by norm_num)]; norm_num

theorem principalMises_le_tresca_le (w : Principal ℝ) (h1 : w.w0 ≤ w.w1) (h2 : w.w1 ≤ w.w2) :
    principalMises w ≤ tresca w ∧ tresca w ≤ 2 / Real.sqrt 3 * principalMises w := by
  -- with `x = w₁ − w₀ ≥ 0`, `y = w₂ − w₁ ≥ 0`: radicand `R = x² + x y + y²`, Tresca `T = x + y`;
  -- `T² − R = x y` and `4 R − 3 T² = (x − y)²`
  rw [tresca_def w h1 h2]
  have hT : 0 ≤ w.w2 - w.w0 := sub_nonneg.2 (h1.trans h2)
  obtain ⟨R, hR⟩ : ∃ R, R = ((w.w0 - w.w1) ^ 2 + (w.w1 - w.w2) ^ 2 + (w.w2 - w.w0) ^ 2) / 2 := ⟨_, rfl⟩
  have hr : 0 ≤ R := by rw [hR]; positivity
  have id1 : (w.w2 - w.w0) ^ 2 - R = (w.w1 - w.w0) * (w.w2 - w.w1) := by rw [hR]; ring
  have id2 : 2 ^ 2 * R - (w.w2 - w.w0) ^ 2 * 3 = ((w.w1 - w.w0) - (w.w2 - w.w1)) ^ 2 := by rw [hR]; ring
  rw [principalMises, ← hR]
  constructor
  · rw [Real.sqrt_le_iff]
    refine ⟨hT, sub_nonneg.1 ?_⟩
    rw [id1]
    exact mul_nonneg (sub_nonneg.2 h1) (sub_nonneg.2 h2)
  · have h3 : 0 < Real.sqrt 3 := Real.sqrt_pos.mpr (by norm_num)
    rw [div_mul_eq_mul_div, le_div_iff₀ h3, ← sq_le_sq₀ (mul_nonneg hT h3.le)
      (mul_nonneg zero_le_two (Real.sqrt_nonneg R)), mul_pow, mul_pow, Real.sq_sqrt hr,
      Real.sq_sqrt (by norm_num : (0 : ℝ) ≤ 3), ← sub_nonneg, id2]
    exact sq_nonneg _

/-- The inequality chain for the functions of the code, on every tensor. -/
theorem mises_le_tresca_le (v : Voigt ℝ) (w : Principal ℝ) (h : IsEigTriple (tensor v) w) :
    mises v ≤ tresca w ∧ tresca w ≤ 2 / Real.sqrt 3 * mises v := by
  rw [mises_eq_principal_form v w h]
  exact principalMises_le_tresca_le w h.1 h.2.1

example : mises (⟨1, 2, 3, 0, 0, 0⟩ : Voigt ℝ) ≤ tresca (⟨1, 2, 3⟩ : Principal ℝ) ∧
    tresca (⟨1, 2, 3⟩ : Principal ℝ) ≤ 2 / Real.sqrt 3 * mises (⟨1, 2, 3, 0, 0, 0⟩ : Voigt ℝ) :=
  mises_le_tresca_le _ _ (isEigTriple_diag (by norm_num) (by norm_num))

/-- `_sign_trace`: the sign of the trace of the tensor, `+1` when the trace is zero. -/
theorem signTrace_def (v : Voigt ℝ) : signTrace v = if 0 ≤ (tensor v).trace then 1 else -1 := by
  rw [signTrace_real, trace_tensor]

/-- `_sign_abs_max_principal`: the sign of the absolute maximum principal stress, `+1` when that is
zero; equivalently `+1` iff `w₂ + w₀ ≥ 0`. -/
theorem signAbsMax_def (w : Principal ℝ) (h1 : w.w0 ≤ w.w1) (h2 : w.w1 ≤ w.w2) :
    signAbsMax w = (if 0 ≤ absMaxPrincipal w then 1 else -1) ∧
      signAbsMax w = (if 0 ≤ w.w2 + w.w0 then 1 else -1) := by
  rw [signAbsMax_real, absMaxPrincipal_asc h1 h2, maxPrincipal_def w h1 h2, minPrincipal_def w h1 h2]
  refine ⟨?_, rfl⟩
  by_cases h : 0 ≤ w.w2 + w.w0
  · have : 0 ≤ w.w2 := by linarith
    rw [if_pos h, if_pos h, if_pos this]
  · have : ¬ 0 ≤ w.w0 := by intro h0; exact h (by linarith)
    rw [if_neg h, if_neg h, if_neg this]

example : signAbsMax (⟨-5, 1, 3⟩ : Principal ℝ) = -1 := by
  rw [(signAbsMax_def _ (by norm_num) (by norm_num)).2, if_neg (by norm_num)]
example : signAbsMax (⟨0, 0, 0⟩ : Principal ℝ) = 1 := by
  rw [(signAbsMax_def _ le_rfl le_rfl).2, if_pos (by norm_num)]
example : signTrace (⟨0, 0, 0, 5, 0, 0⟩ : Voigt ℝ) = 1 := by
  rw [signTrace_real, if_pos (by norm_num)]

theorem signedMisesTrace_def (v : Voigt ℝ) :
    signedMisesTrace v = (if 0 ≤ v.s11 + v.s22 + v.s33 then mises v else - mises v) ∧
      |signedMisesTrace v| = mises v := by
  rw [signedMisesTrace, signTrace_real]
  exact signMul_def _ (mises_nonneg v)

theorem signedTrescaTrace_def (v : Voigt ℝ) (w : Principal ℝ) (h1 : w.w0 ≤ w.w1) (h2 : w.w1 ≤ w.w2) :
    signedTrescaTrace v w = (if 0 ≤ v.s11 + v.s22 + v.s33 then tresca w else - tresca w) ∧
      |signedTrescaTrace v w| = tresca w := by
  rw [signedTrescaTrace, signTrace_real]
  exact signMul_def _ (tresca_nonneg w)

/-- sign from the absolute maximum principal stress: `+` iff `w₂ + w₀ ≥ 0` (for `w₀ < w₂`: iff `|w₀| ≤ |w₂|`). -/
theorem signedMisesAbsMax_def (v : Voigt ℝ) (w : Principal ℝ) (h1 : w.w0 ≤ w.w1) (h2 : w.w1 ≤ w.w2) :
    signedMisesAbsMax v w = (if 0 ≤ w.w2 + w.w0 then mises v else - mises v) ∧
      |signedMisesAbsMax v w| = mises v := by
  rw [signedMisesAbsMax, (signAbsMax_def w h1 h2).2]
  exact signMul_def _ (mises_nonneg v)

theorem signedTrescaAbsMax_def (w : Principal ℝ) (h1 : w.w0 ≤ w.w1) (h2 : w.w1 ≤ w.w2) :
    signedTrescaAbsMax w = (if 0 ≤ w.w2 + w.w0 then tresca w else - tresca w) ∧
      |signedTrescaAbsMax w| = tresca w := by
  rw [signedTrescaAbsMax, (signAbsMax_def w h1 h2).2]
  exact signMul_def _ (tresca_nonneg w)

/-- `+1` for a zero indicator: zero trace, resp. `w₂ = −w₀` (in particular the zero tensor). -/
theorem signed_zero_indicator (v : Voigt ℝ) (w : Principal ℝ) (h1 : w.w0 ≤ w.w1) (h2 : w.w1 ≤ w.w2) :
    (v.s11 + v.s22 + v.s33 = 0 → signedMisesTrace v = mises v ∧ signedTrescaTrace v w = tresca w) ∧
    (w.w2 + w.w0 = 0 → signedMisesAbsMax v w = mises v ∧ signedTrescaAbsMax w = tresca w ∧
      absMaxPrincipal w = w.w2) := by
  constructor
  · intro h0
    rw [(signedMisesTrace_def v).1, (signedTrescaTrace_def v w h1 h2).1, if_pos h0.ge, if_pos h0.ge]
    exact ⟨rfl, rfl⟩
  · intro h0
    rw [(signedMisesAbsMax_def v w h1 h2).1, (signedTrescaAbsMax_def w h1 h2).1, if_pos h0.ge,
      if_pos h0.ge, absMaxPrincipal_asc h1 h2, if_pos h0.ge]
    exact ⟨rfl, rfl, rfl⟩

example : signedMisesTrace (⟨1, -1, 0, 2, 0, 0⟩ : Voigt ℝ) = mises ⟨1, -1, 0, 2, 0, 0⟩ :=
  ((signed_zero_indicator ⟨1, -1, 0, 2, 0, 0⟩ ⟨0, 0, 0⟩ le_rfl le_rfl).1 (by norm_num)).1
example : signedMisesTrace (⟨1, -3, 0, 2, 0, 0⟩ : Voigt ℝ) = - mises ⟨1, -3, 0, 2, 0, 0⟩ := by
  rw [(signedMisesTrace_def _).1, if_neg (by norm_num)]
example : signedTrescaAbsMax (⟨-5, 1, 3⟩ : Principal ℝ) = - tresca ⟨-5, 1, 3⟩ := by
  rw [(signedTrescaAbsMax_def _ (by norm_num) (by norm_num)).1, if_neg (by norm_num)]

/-! ## The tie set of the sign indicators

The signed variants and `abs_max_principal` jump by twice their magnitude where their indicator (the trace,
resp. `w₂ + w₀`) passes through zero.  Over ℝ they are rotation invariant on every tensor (`equistress_rotation_invariant`); a
floating-point evaluation receives a rotated tensor `Q S Qᵀ` that carries rounding, i.e. a NEIGHBOUR of the
exact rotation.  The theorems below say exactly when the sign survives going to a neighbour: iff the
indicator is non-zero, with the margin stated; on the tie set (pure shear, every zero-trace tensor, every
`w₂ = −w₀`) an arbitrarily small hydrostatic perturbation flips the sign while Mises and Tresca stay the same.
The harness therefore compares the SIGN across rotation / scaling only outside a rounding window around the
tie set (c17.py `SIGN_WINDOW`) and counts the comparisons reduced to magnitudes. -/

/-- The trace indicator keeps its sign on every tensor whose normal components are within `δ`, provided
`|trace| > 3δ`. -/
theorem signTrace_stable (s t : Voigt ℝ) (δ : ℝ) (h11 : |t.s11 - s.s11| ≤ δ) (h22 : |t.s22 - s.s22| ≤ δ)
    (h33 : |t.s33 - s.s33| ≤ δ) (hm : 3 * δ < |s.s11 + s.s22 + s.s33|) : signTrace t = signTrace s := by
  rw [signTrace_real, signTrace_real]
  refine if_congr (nonneg_iff_of_abs_sub_lt (lt_of_le_of_lt ?_ hm)) rfl rfl
  rw [show t.s11 + t.s22 + t.s33 - (s.s11 + s.s22 + s.s33) = (t.s11 - s.s11) + (t.s22 - s.s22) + (t.s33 - s.s33) by ring]
  exact (abs_add_three _ _ _).trans (by linarith)

/-- The abs-max indicator keeps its sign on every ascending triple whose extreme members are within `δ`,
provided `|w₂ + w₀| > 2δ`; `abs_max_principal` then moves by at most `δ`. -/
theorem signAbsMax_stable (w w' : Principal ℝ) (h1 : w.w0 ≤ w.w1) (h2 : w.w1 ≤ w.w2)
    (h1' : w'.w0 ≤ w'.w1) (h2' : w'.w1 ≤ w'.w2) (δ : ℝ) (d0 : |w'.w0 - w.w0| ≤ δ) (d2 : |w'.w2 - w.w2| ≤ δ)
    (hm : 2 * δ < |w.w2 + w.w0|) :
    signAbsMax w' = signAbsMax w ∧ |absMaxPrincipal w' - absMaxPrincipal w| ≤ δ := by
  have hi : 0 ≤ w'.w2 + w'.w0 ↔ 0 ≤ w.w2 + w.w0 := by
    refine nonneg_iff_of_abs_sub_lt (lt_of_le_of_lt ?_ hm)
    rw [add_sub_add_comm]
    exact (abs_add_le _ _).trans (by linarith)
  rw [(signAbsMax_def w h1 h2).2, (signAbsMax_def w' h1' h2').2, absMaxPrincipal_asc h1 h2, absMaxPrincipal_asc h1' h2',
    if_congr hi rfl rfl, if_congr hi rfl rfl]
  refine ⟨rfl, ?_⟩
  split_ifs
  · exact d2
  · exact d0

/-- A superposed hydrostatic pressure `p` lowers the eigenvalue triple by `p` and changes neither Mises nor
Tresca. -/
theorem hydroShift_invariants (p : ℝ) (s : Voigt ℝ) (w : Principal ℝ) (h : IsEigTriple (tensor s) w) :
    IsEigTriple (tensor (hydroShift p s)) (shiftW p w) ∧ mises (hydroShift p s) = mises s ∧
      tresca (shiftW p w) = tresca w := by
  have hs : IsEigTriple (tensor (hydroShift p s)) (shiftW p w) := by
    rw [tensor_hydroShift]; exact h.sub_scalar p
  refine ⟨hs, ?_, ?_⟩
  · rw [mises_real, mises_real]
    congr 1
    simp only [hydroShift]; ring
  · rw [tresca_def _ hs.1 hs.2.1, tresca_def _ h.1 h.2.1]
    exact sub_sub_sub_cancel_right _ _ _

/-- On the tie set of the trace indicator (trace = 0: pure shear, every deviatoric tensor) the variants signed
by the trace are `+`, and on the neighbour with an arbitrarily small hydrostatic pressure `p > 0` superposed
they are `−` of the SAME magnitude: a jump of `2·mises` resp. `2·tresca`. -/
theorem signedTrace_jump_at_tie (s : Voigt ℝ) (w : Principal ℝ) (h : IsEigTriple (tensor s) w)
    (htr : s.s11 + s.s22 + s.s33 = 0) (p : ℝ) (hp : 0 < p) :
    signedMisesTrace s = mises s ∧ signedMisesTrace (hydroShift p s) = - mises s ∧
    signedTrescaTrace s w = tresca w ∧ signedTrescaTrace (hydroShift p s) (shiftW p w) = - tresca w := by
  obtain ⟨hs, hM, hT⟩ := hydroShift_invariants p s w h
  have hneg : ¬ 0 ≤ (hydroShift p s).s11 + (hydroShift p s).s22 + (hydroShift p s).s33 := by
    rw [trace_hydroShift, htr]; linarith
  rw [(signedMisesTrace_def s).1, (signedMisesTrace_def _).1, (signedTrescaTrace_def s w h.1 h.2.1).1,
    (signedTrescaTrace_def _ _ hs.1 hs.2.1).1, if_pos htr.ge, if_neg hneg, if_pos htr.ge, if_neg hneg, hM, hT]
  exact ⟨rfl, rfl, rfl, rfl⟩

/-- On the tie set of the abs-max indicator (`w₂ = −w₀`: pure shear, …) `abs_max_principal` is `w₂` and the
variants signed by it are `+`; on the neighbour with an arbitrarily small hydrostatic pressure `p > 0`
superposed `abs_max_principal` is `w₀ − p` and the signed variants are `−` of the SAME magnitude. -/
theorem signedAbsMax_jump_at_tie (s : Voigt ℝ) (w : Principal ℝ) (h : IsEigTriple (tensor s) w)
    (htie : w.w2 + w.w0 = 0) (p : ℝ) (hp : 0 < p) :
    absMaxPrincipal w = w.w2 ∧ absMaxPrincipal (shiftW p w) = w.w0 - p ∧
    signedMisesAbsMax s w = mises s ∧ signedMisesAbsMax (hydroShift p s) (shiftW p w) = - mises s ∧
    signedTrescaAbsMax w = tresca w ∧ signedTrescaAbsMax (shiftW p w) = - tresca w := by
  obtain ⟨hs, hM, hT⟩ := hydroShift_invariants p s w h
  have hneg : ¬ 0 ≤ (shiftW p w).w2 + (shiftW p w).w0 := by
    rw [shiftW_indicator, htie]; linarith
  obtain ⟨z1, z2, z3⟩ := (signed_zero_indicator s w h.1 h.2.1).2 htie
  refine ⟨z3, ?_, z1, ?_, z2, ?_⟩
  · rw [absMaxPrincipal_asc hs.1 hs.2.1, if_neg hneg]
    rfl
  · rw [(signedMisesAbsMax_def _ _ hs.1 hs.2.1).1, if_neg hneg, hM]
  · rw [(signedTrescaAbsMax_def _ hs.1 hs.2.1).1, if_neg hneg, hT]

/-- The sign of the trace indicator is determined (the same on all tensors close enough) iff the trace is
not zero. -/
theorem signTrace_determined_iff (s : Voigt ℝ) :
    (∃ δ : ℝ, 0 < δ ∧ ∀ t : Voigt ℝ, |t.s11 - s.s11| ≤ δ → |t.s22 - s.s22| ≤ δ → |t.s33 - s.s33| ≤ δ →
      |t.s12 - s.s12| ≤ δ → |t.s13 - s.s13| ≤ δ → |t.s23 - s.s23| ≤ δ → signTrace t = signTrace s) ↔
    s.s11 + s.s22 + s.s33 ≠ 0 := by
  constructor
  · rintro ⟨δ, hδ, hall⟩ h0
    -- the neighbour with the pressure `δ` superposed has trace `−3δ < 0`
    have := hall (hydroShift δ s) (abs_sub_sub_self_le hδ.le _) (abs_sub_sub_self_le hδ.le _)
      (abs_sub_sub_self_le hδ.le _) (abs_sub_self_le hδ.le _) (abs_sub_self_le hδ.le _) (abs_sub_self_le hδ.le _)
    rw [signTrace_real, signTrace_real, if_pos h0.ge, if_neg (by rw [trace_hydroShift, h0]; linarith)] at this
    norm_num at this
  · intro hne
    refine ⟨|s.s11 + s.s22 + s.s33| / 4, by positivity, fun t a b c _ _ _ => ?_⟩
    exact signTrace_stable s t _ a b c (by linarith [abs_pos.mpr hne])

/-- The sign of the abs-max indicator (hence which eigenvalue `abs_max_principal` returns) is determined iff
`w₂ + w₀ ≠ 0`. -/
theorem signAbsMax_determined_iff (w : Principal ℝ) (h1 : w.w0 ≤ w.w1) (h2 : w.w1 ≤ w.w2) :
    (∃ δ : ℝ, 0 < δ ∧ ∀ w' : Principal ℝ, w'.w0 ≤ w'.w1 → w'.w1 ≤ w'.w2 → |w'.w0 - w.w0| ≤ δ →
      |w'.w1 - w.w1| ≤ δ → |w'.w2 - w.w2| ≤ δ → signAbsMax w' = signAbsMax w) ↔ w.w2 + w.w0 ≠ 0 := by
  constructor
  · rintro ⟨δ, hδ, hall⟩ h0
    have g1 : (shiftW δ w).w0 ≤ (shiftW δ w).w1 := sub_le_sub_right h1 δ
    have g2 : (shiftW δ w).w1 ≤ (shiftW δ w).w2 := sub_le_sub_right h2 δ
    have := hall (shiftW δ w) g1 g2 (abs_sub_sub_self_le hδ.le _) (abs_sub_sub_self_le hδ.le _)
      (abs_sub_sub_self_le hδ.le _)
    rw [(signAbsMax_def w h1 h2).2, (signAbsMax_def _ g1 g2).2, if_pos h0.ge,
      if_neg (by rw [shiftW_indicator, h0]; linarith)] at this
    norm_num at this
  · intro hne
    refine ⟨|w.w2 + w.w0| / 4, by positivity, fun w' a b c _ e => ?_⟩
    exact (signAbsMax_stable w w' h1 h2 a b _ c e (by linarith [abs_pos.mpr hne])).1

-- the two jump theorems on pure shear 5 in the 1-2 plane (principal stresses −5, 0, 5) and its neighbour with
-- a hydrostatic pressure of 10⁻⁹ superposed
example : signedTrescaAbsMax (⟨-5, 0, 5⟩ : Principal ℝ) = tresca ⟨-5, 0, 5⟩ ∧
    signedTrescaAbsMax (shiftW (1 / 10 ^ 9) ⟨-5, 0, 5⟩) = - tresca (⟨-5, 0, 5⟩ : Principal ℝ) ∧
    signedMisesTrace (hydroShift (1 / 10 ^ 9) ⟨0, 0, 0, 5, 0, 0⟩) = - mises (⟨0, 0, 0, 5, 0, 0⟩ : Voigt ℝ) := by
  have h := pureShear_eigTriple 5 (by norm_num)
  have a := signedAbsMax_jump_at_tie ⟨0, 0, 0, 5, 0, 0⟩ ⟨-5, 0, 5⟩ h (by norm_num) (1 / 10 ^ 9) (by positivity)
  have b := signedTrace_jump_at_tie ⟨0, 0, 0, 5, 0, 0⟩ ⟨-5, 0, 5⟩ h (by norm_num) (1 / 10 ^ 9) (by positivity)
  exact ⟨a.2.2.2.2.1, a.2.2.2.2.2, b.2.1⟩

example : signTrace (⟨1 + 1 / 10, 2, 3 - 1 / 10, 9, 9, 9⟩ : Voigt ℝ) = signTrace ⟨1, 2, 3, 4, 5, 6⟩ :=
  signTrace_stable _ _ (1 / 10) (by norm_num) (by norm_num) (by norm_num) (by norm_num)

example : signAbsMax (⟨-5 - 1 / 10, 1, 3 + 1 / 10⟩ : Principal ℝ) = signAbsMax ⟨-5, 1, 3⟩ :=
  (signAbsMax_stable ⟨-5, 1, 3⟩ _ (by norm_num) (by norm_num) (by norm_num) (by norm_num) (1 / 10)
    (by norm_num) (by norm_num) (by norm_num)).1

example : IsEigTriple (tensor (hydroShift 2 ⟨1, 2, 3, 0, 0, 0⟩)) (shiftW 2 ⟨1, 2, 3⟩) ∧
    mises (hydroShift 2 ⟨1, 2, 3, 0, 0, 0⟩) = mises (⟨1, 2, 3, 0, 0, 0⟩ : Voigt ℝ) ∧
    tresca (shiftW 2 ⟨1, 2, 3⟩) = tresca (⟨1, 2, 3⟩ : Principal ℝ) :=
  hydroShift_invariants 2 _ _ (isEigTriple_diag (by norm_num) (by norm_num))

-- compressive tensor: the sign of the abs-max indicator is determined; pure shear: it is not
example : ∃ δ : ℝ, 0 < δ ∧ ∀ w' : Principal ℝ, w'.w0 ≤ w'.w1 → w'.w1 ≤ w'.w2 → |w'.w0 - (-5)| ≤ δ →
    |w'.w1 - 1| ≤ δ → |w'.w2 - 3| ≤ δ → signAbsMax w' = signAbsMax ⟨-5, 1, 3⟩ :=
  (signAbsMax_determined_iff ⟨-5, 1, 3⟩ (by norm_num) (by norm_num)).mpr (by norm_num)

example : ¬ ∃ δ : ℝ, 0 < δ ∧ ∀ w' : Principal ℝ, w'.w0 ≤ w'.w1 → w'.w1 ≤ w'.w2 → |w'.w0 - (-5)| ≤ δ →
    |w'.w1 - 0| ≤ δ → |w'.w2 - 5| ≤ δ → signAbsMax w' = signAbsMax ⟨-5, 0, 5⟩ := by
  intro h
  exact ((signAbsMax_determined_iff ⟨-5, 0, 5⟩ (by norm_num) (by norm_num)).mp h) (by norm_num)

example : ¬ ∃ δ : ℝ, 0 < δ ∧ ∀ t : Voigt ℝ, |t.s11 - 0| ≤ δ → |t.s22 - 0| ≤ δ → |t.s33 - 0| ≤ δ →
    |t.s12 - 5| ≤ δ → |t.s13 - 0| ≤ δ → |t.s23 - 0| ≤ δ → signTrace t = signTrace ⟨0, 0, 0, 5, 0, 0⟩ := by
  intro h
  exact ((signTrace_determined_iff ⟨0, 0, 0, 5, 0, 0⟩).mp h) (by norm_num)

theorem mises_smul (c : ℝ) (hc : 0 ≤ c) (v : Voigt ℝ) : mises (smulV c v) = c * mises v := by
  rw [mises_real, mises_real]
  have : ∀ r : ℝ, Real.sqrt (c ^ 2 * r) = c * Real.sqrt r := fun r => by
    rw [Real.sqrt_mul (sq_nonneg c), Real.sqrt_sq hc]
  rw [← this]
  congr 1
  simp only [smulV]; ring

/-- Scaling the tensor by `c ≥ 0` scales the eigenvalue triple `eigvalsh` must return by `c`. -/
theorem eigTriple_smul (c : ℝ) (hc : 0 ≤ c) (v : Voigt ℝ) (w : Principal ℝ)
    (h : IsEigTriple (tensor v) w) : IsEigTriple (tensor (smulV c v)) (smulW c w) := by
  rw [tensor_smulV]
  exact h.smul (tensor_isHermitian v) hc

theorem principal_functions_smul (c : ℝ) (hc : 0 ≤ c) (w : Principal ℝ)
    (h1 : w.w0 ≤ w.w1) (h2 : w.w1 ≤ w.w2) :
    tresca (smulW c w) = c * tresca w ∧ maxPrincipal (smulW c w) = c * maxPrincipal w ∧
      minPrincipal (smulW c w) = c * minPrincipal w :=
  ⟨tresca_smulW hc w, maxPrincipal_smulW hc w, minPrincipal_smulW hc w⟩

/-- For a positive factor the sign indicators keep their sign, so `abs_max_principal` and all signed
variants scale with the factor as well. -/
theorem signed_functions_smul (c : ℝ) (hc : 0 < c) (v : Voigt ℝ) (w : Principal ℝ)
    (h1 : w.w0 ≤ w.w1) (h2 : w.w1 ≤ w.w2) :
    absMaxPrincipal (smulW c w) = c * absMaxPrincipal w ∧
    signedMisesTrace (smulV c v) = c * signedMisesTrace v ∧
    signedMisesAbsMax (smulV c v) (smulW c w) = c * signedMisesAbsMax v w ∧
    signedTrescaTrace (smulV c v) (smulW c w) = c * signedTrescaTrace v w ∧
    signedTrescaAbsMax (smulW c w) = c * signedTrescaAbsMax w := by
  have hT := tresca_smulW hc.le w
  have hM := mises_smul c hc.le v
  have sV := signTrace_smulV hc v
  have sW := signAbsMax_smulW hc w
  refine ⟨absMaxPrincipal_smulW hc w, ?_, ?_, ?_, ?_⟩
  · rw [signedMisesTrace, signedMisesTrace, sV, hM, mul_left_comm]
  · rw [signedMisesAbsMax, signedMisesAbsMax, sW, hM, mul_left_comm]
  · rw [signedTrescaTrace, signedTrescaTrace, sV, hT, mul_left_comm]
  · rw [signedTrescaAbsMax, signedTrescaAbsMax, sW, hT, mul_left_comm]

/-- Positive homogeneity of all functions, stated like the rotation theorem: `w` / `w'` are what
`eigvalsh` must return for the tensor and for the tensor scaled by `c > 0`. -/
theorem equistress_positively_homogeneous (c : ℝ) (hc : 0 < c) (s : Voigt ℝ) (w w' : Principal ℝ)
    (hw : IsEigTriple (tensor s) w) (hw' : IsEigTriple (tensor (smulV c s)) w') :
    mises (smulV c s) = c * mises s ∧ tresca w' = c * tresca w ∧
    maxPrincipal w' = c * maxPrincipal w ∧ minPrincipal w' = c * minPrincipal w ∧
    absMaxPrincipal w' = c * absMaxPrincipal w ∧
    signedMisesTrace (smulV c s) = c * signedMisesTrace s ∧
    signedMisesAbsMax (smulV c s) w' = c * signedMisesAbsMax s w ∧
    signedTrescaTrace (smulV c s) w' = c * signedTrescaTrace s w ∧
    signedTrescaAbsMax w' = c * signedTrescaAbsMax w := by
  have e : w' = smulW c w := hw'.unique (eigTriple_smul c hc.le s w hw)
  subst e
  obtain ⟨p1, p2, p3⟩ := principal_functions_smul c hc.le w hw.1 hw.2.1
  obtain ⟨q1, q2, q3, q4, q5⟩ := signed_functions_smul c hc s w hw.1 hw.2.1
  exact ⟨mises_smul c hc.le s, p1, p2, p3, q1, q2, q3, q4, q5⟩

example (w' : Principal ℝ) (hw' : IsEigTriple (tensor (smulV 2 ⟨1, 2, 3, 0, 0, 0⟩)) w') :
    tresca w' = 2 * tresca (⟨1, 2, 3⟩ : Principal ℝ) :=
  (equistress_positively_homogeneous 2 (by norm_num) ⟨1, 2, 3, 0, 0, 0⟩ ⟨1, 2, 3⟩ w'
    (isEigTriple_diag (by norm_num) (by norm_num)) hw').2.1

example : mises (smulV 2 exS) = 2 * mises exS := mises_smul 2 (by norm_num) _
example : IsEigTriple (tensor (smulV 2 ⟨1, 2, 3, 0, 0, 0⟩)) (smulW 2 ⟨1, 2, 3⟩) :=
  eigTriple_smul 2 (by norm_num) _ _ (isEigTriple_diag (by norm_num) (by norm_num))
example : absMaxPrincipal (smulW 2 ⟨-5, 1, 3⟩) = 2 * absMaxPrincipal (⟨-5, 1, 3⟩ : Principal ℝ) :=
  (signed_functions_smul 2 (by norm_num) exS ⟨-5, 1, 3⟩ (by norm_num) (by norm_num)).1

/-- If `t` are the components of `s` in a basis rotated by an orthogonal `Q`, and `w`, `w'` are what
`eigvalsh` must return for the two matrices, every equivalent stress has the same value. -/
theorem equistress_rotation_invariant (s t : Voigt ℝ) (Q : Matrix (Fin 3) (Fin 3) ℝ)
    (hQ : Qᵀ * Q = 1) (h : tensor t = Q * tensor s * Qᵀ) (w w' : Principal ℝ)
    (hw : IsEigTriple (tensor s) w) (hw' : IsEigTriple (tensor t) w') :
    mises t = mises s ∧ tresca w' = tresca w ∧ maxPrincipal w' = maxPrincipal w ∧
    minPrincipal w' = minPrincipal w ∧ absMaxPrincipal w' = absMaxPrincipal w ∧
    signedMisesTrace t = signedMisesTrace s ∧ signedMisesAbsMax t w' = signedMisesAbsMax s w ∧
    signedTrescaTrace t w' = signedTrescaTrace s w ∧ signedTrescaAbsMax w' = signedTrescaAbsMax w := by
  have e := eigTriple_rotation_invariant s t Q hQ h hw hw'
  have m := mises_rotation_invariant s t Q hQ h
  have tr : signTrace t = signTrace s := by
    rw [signTrace_def, signTrace_def, h, trace_conj hQ]
  subst e
  refine ⟨m, rfl, rfl, rfl, rfl, ?_, ?_, ?_, rfl⟩
  · rw [signedMisesTrace, signedMisesTrace, tr, m]
  · rw [signedMisesAbsMax, signedMisesAbsMax, m]
  · rw [signedTrescaTrace, signedTrescaTrace, tr]

example (w w' : Principal ℝ) (hw : IsEigTriple (tensor exS) w) (hw' : IsEigTriple (tensor exT) w') :
    signedTrescaTrace exT w' = signedTrescaTrace exS w :=
  (equistress_rotation_invariant exS exT exQ exQ_orth exT_eq w w' hw hw').2.2.2.2.2.2.2.1

/-- `df.equistress.f()` is the plain function applied row by row: row `i` of the result is `f` of
row `i`, and the number of rows is kept. -/
theorem accessor_rowwise {β γ : Type} (f : β → γ) (rows : List β) :
    (column f rows).length = rows.length ∧
      ∀ i (hi : i < rows.length), (column f rows)[i]? = some (f rows[i]) := by
  refine ⟨by simp [column], fun i hi => ?_⟩
  simp [column, hi]

example : column (fun v : Voigt ℝ => mises v) [exS, exT] = [mises exS, mises exT] := rfl

end PylifeVerif.C17
