/-
C08 — Woehler curve algebra.  Property theorems about `Model/Woehler.lean` at `α := ℝ`.

Quantifier of the property: every `k_1 > 1`, `k_2 ≥ k_1` or `inf`, `SD, ND > 0`, `TN, TS ≥ 1`
(`Valid w`), every native and target failure probability in `(0,1)`, every positive load / cycle
number.  `ppf` (= `scipy.stats.norm.ppf`) is an arbitrary function unless a theorem says
`IsQuantile ppf` (strictly increasing on `(0,1)`, `ppf (1-p) = -ppf p`).

Loads and cycle numbers are positive in every theorem: for `load ≤ 0` the code does not raise,
it returns `inf` (`0^(-k)`) or `NaN`; `Real.rpow` is totalised differently there, so nothing is
claimed.  `cycles … = Life.finite N` means: the code's `k` is finite, the life is `N`.
-/
import Proofs.Lemmas.Woehler
import Mathlib.Topology.Order.Basic

namespace PylifeVerif.C08
open PylifeVerif PylifeVerif.Woehler

attribute [local simp] lit_one lit_two lit_zero lit_ten

variable {ppf : ℝ → ℝ} {w : Curve ℝ}

/-- `load(cycles(L)) = L` wherever the life is finite (any failure probability, both branches). -/
theorem load_cycles_inverse (h : Valid w) (p : ℝ) {L N : ℝ} (hL : 0 < L)
    (hc : cycles ppf w p L = Life.finite N) : load ppf w p N = L :=
  loadAt_cyclesAt (h.transform ppf p) hL hc

example : load (fun _ => 0) ⟨5, Life.finite 9, 100, 1000, 4, 2, 0.5⟩ 0.5
    (1000 * ((50 : ℝ) / 100) ^ (-(9 : ℝ))) = 50 := by
  have hv : Valid (⟨5, Life.finite 9, 100, 1000, 4, 2, 0.5⟩ : Curve ℝ) :=
    ⟨by norm_num, by intro k hk; cases hk; norm_num, by norm_num, by norm_num, by norm_num, by norm_num⟩
  refine load_cycles_inverse hv 0.5 (by norm_num) ?_
  have hid : transform (fun _ => (0:ℝ)) (⟨5, Life.finite 9, 100, 1000, 4, 2, 0.5⟩ : Curve ℝ) 0.5
      = ⟨5, Life.finite 9, 100, 1000, 4, 2, 0.5⟩ := by
    apply Curve.ext' <;> simp [transform_SD, transform_ND, shift]
  unfold cycles
  rw [hid, cyclesAt_below (by norm_num) rfl]

/-- `cycles(load(N)) = N` for every `N` on the finite-life part of the curve: `N ≤ ND_p`, or any
`N` when `k_2` is finite. -/
theorem cycles_load_inverse (h : Valid w) (p : ℝ) {N : ℝ} (hN : 0 < N)
    (hfin : N ≤ (transform ppf w p).ND ∨ ∃ k, w.k2 = Life.finite k) :
    cycles ppf w p (load ppf w p N) = Life.finite N :=
  cyclesAt_loadAt (h.transform ppf p) hN hfin

example (h : Valid w) (p : ℝ) :
    cycles ppf w p (load ppf w p (transform ppf w p).ND) = Life.finite (transform ppf w p).ND :=
  cycles_load_inverse h p (h.transform ppf p).ND (Or.inl le_rfl)

/-- The remaining case, stated so that nothing is hidden: with `k_2 = inf` every cycle number beyond
`ND_p` is mapped to the endurance limit `SD_p`, whose life is `ND_p` (not `N`). -/
theorem cycles_load_endurance (h : Valid w) (p : ℝ) (hk : w.k2 = Life.inf) {N : ℝ}
    (hN : (transform ppf w p).ND < N) :
    load ppf w p N = (transform ppf w p).SD ∧
      cycles ppf w p (load ppf w p N) = Life.finite (transform ppf w p).ND := by
  have hl : load ppf w p N = (transform ppf w p).SD := loadAt_below_inf hN (by simpa using hk)
  exact ⟨hl, by rw [hl]; exact cyclesAt_knee (h.transform ppf p)⟩

example (h : Valid w) (hk : w.k2 = Life.inf) (p : ℝ) :
    load ppf w p ((transform ppf w p).ND + 1) = (transform ppf w p).SD :=
  (cycles_load_endurance h p hk (by linarith)).1

/-- Branch consistency across the knee: `L ≥ SD_p ⇔ N ≤ ND_p`. -/
theorem knee_branch_consistency (h : Valid w) (p : ℝ) {L N : ℝ} (hL : 0 < L)
    (hc : cycles ppf w p L = Life.finite N) :
    (transform ppf w p).SD ≤ L ↔ N ≤ (transform ppf w p).ND :=
  knee_iff (h.transform ppf p) hL hc

example (h : Valid w) (p : ℝ) :
    (transform ppf w p).SD ≤ (transform ppf w p).SD ↔ (transform ppf w p).ND ≤ (transform ppf w p).ND :=
  knee_branch_consistency h p (h.transform ppf p).SD (cyclesAt_knee (h.transform ppf p))

/-- Allowable cycles are non-increasing in the load (`inf` is the largest life). -/
theorem cycles_antitone (h : Valid w) (p : ℝ) {L₁ L₂ : ℝ} (h1 : 0 < L₁) (h12 : L₁ ≤ L₂) :
    Life.le (cycles ppf w p L₂) (cycles ppf w p L₁) :=
  cyclesAt_antitone (h.transform ppf p) h1 h12

example (h : Valid w) (p : ℝ) :
    Life.le (cycles ppf w p ((transform ppf w p).SD + 1)) (cycles ppf w p (transform ppf w p).SD) :=
  cycles_antitone h p (h.transform ppf p).SD (by linarith)

/-- Continuity at the knee, value form: at `SD_p` the code takes the `k_1` branch and returns
`ND_p`; the `k_2` branch formula gives the same value there, for every finite `k`; and
`load(ND_p) = SD_p`. -/
theorem continuous_at_knee (h : Valid w) (p : ℝ) :
    cycles ppf w p (transform ppf w p).SD = Life.finite (transform ppf w p).ND ∧
      (∀ k : ℝ, (transform ppf w p).ND * ((transform ppf w p).SD / (transform ppf w p).SD) ^ (-k)
        = (transform ppf w p).ND) ∧
      load ppf w p (transform ppf w p).ND = (transform ppf w p).SD := by
  have v := h.transform ppf p
  exact ⟨cyclesAt_knee v, fun k => PowerLaw.at_knee _ v.SD.ne' _, loadAt_knee v⟩

example (h : Valid w) : cycles ppf w 0.5 (transform ppf w 0.5).SD = Life.finite (transform ppf w 0.5).ND :=
  (continuous_at_knee h 0.5).1

/-- Continuity at the knee, topological form (finite `k_2`): the life is a real function of the
load near `SD_p` and that function is continuous at `SD_p` with value `ND_p`. -/
theorem cycles_tendsto_knee (h : Valid w) (p : ℝ) {k : ℝ} (hk : w.k2 = Life.finite k) :
    ∃ f : ℝ → ℝ, (∀ L, cycles ppf w p L = Life.finite (f L)) ∧
      ContinuousAt f (transform ppf w p).SD ∧ f (transform ppf w p).SD = (transform ppf w p).ND := by
  have v := h.transform ppf p
  -- the life is the two-slope law through the knee `(SD_p, ND_p)`
  refine ⟨PowerLaw.twoSlope (transform ppf w p).ND (transform ppf w p).SD (-w.k1) (-k), fun L => ?_,
    (PowerLaw.twoSlope_continuousOn _ v.SD.ne' _ _).continuousAt (Ioi_mem_nhds v.SD),
    PowerLaw.twoSlope_knee v.SD.ne'⟩
  rcases lt_or_ge L (transform ppf w p).SD with hlt | hge
  · rw [PowerLaw.twoSlope_of_lt hlt]
    exact cycles_below hlt hk
  · rw [PowerLaw.twoSlope_of_le hge]
    exact cycles_above hge

example (h : Valid w) (hk : w.k2 = Life.finite (2 * w.k1 - 1)) :
    ∃ f : ℝ → ℝ, (∀ L, cycles ppf w 0.5 L = Life.finite (f L)) ∧
      ContinuousAt f (transform ppf w 0.5).SD ∧ f (transform ppf w 0.5).SD = (transform ppf w 0.5).ND :=
  cycles_tendsto_knee h 0.5 hk

/-- Above the endurance limit `log N` is affine in `log L` with slope `-k_1`. -/
theorem slope_k1_above (h : Valid w) (p : ℝ) {L : ℝ} (hL : (transform ppf w p).SD ≤ L) :
    ∃ N, cycles ppf w p L = Life.finite N ∧ 0 < N ∧
      Real.log N = Real.log (transform ppf w p).ND
        - w.k1 * (Real.log L - Real.log (transform ppf w p).SD) := by
  have v := h.transform ppf p
  have hL0 : 0 < L := lt_of_lt_of_le v.SD hL
  exact ⟨_, cycles_above hL, PowerLaw.pos v.ND v.SD hL0 _, log_basquin _ v.ND v.SD hL0⟩

example (h : Valid w) (p : ℝ) : ∃ N, cycles ppf w p (2 * (transform ppf w p).SD) = Life.finite N ∧ 0 < N ∧
    Real.log N = Real.log (transform ppf w p).ND
      - w.k1 * (Real.log (2 * (transform ppf w p).SD) - Real.log (transform ppf w p).SD) :=
  slope_k1_above h p (by linarith [(h.transform ppf p).SD])

/-- Below the endurance limit (finite `k_2`) the slope is `-k_2`. -/
theorem slope_k2_below (h : Valid w) (p : ℝ) {k L : ℝ} (hk : w.k2 = Life.finite k) (hL0 : 0 < L)
    (hL : L < (transform ppf w p).SD) :
    ∃ N, cycles ppf w p L = Life.finite N ∧ 0 < N ∧
      Real.log N = Real.log (transform ppf w p).ND
        - k * (Real.log L - Real.log (transform ppf w p).SD) := by
  have v := h.transform ppf p
  exact ⟨_, cycles_below hL hk, PowerLaw.pos v.ND v.SD hL0 _,
    log_basquin _ v.ND v.SD hL0⟩

example (h : Valid w) (p : ℝ) {k : ℝ} (hk : w.k2 = Life.finite k) :
    ∃ N, cycles ppf w p ((transform ppf w p).SD / 2) = Life.finite N ∧ 0 < N ∧
      Real.log N = Real.log (transform ppf w p).ND
        - k * (Real.log ((transform ppf w p).SD / 2) - Real.log (transform ppf w p).SD) :=
  slope_k2_below h p hk (by linarith [(h.transform ppf p).SD]) (by linarith [(h.transform ppf p).SD])

/-- `k_2 = inf`: infinite life below the endurance limit (no positivity needed). -/
theorem k2_inf_endurance (p : ℝ) (hk : w.k2 = Life.inf) {L : ℝ} (hL : L < (transform ppf w p).SD) :
    cycles ppf w p L = Life.inf :=
  cyclesAt_below_inf hL (by simpa using hk)

example (h : Valid w) (hk : w.k2 = Life.inf) (p : ℝ) :
    cycles ppf w p ((transform ppf w p).SD / 2) = Life.inf :=
  k2_inf_endurance p hk (by linarith [(h.transform ppf p).SD])

/-- The Miner modifiers change `k_2` only (original: `inf`, elementary: `k_1`, Haibach: `2 k_1 − 1`)
and stay inside the property's quantifier.  (That the *Python object* is not altered is pandas
glue: checked on the real code by the oracle.) -/
theorem miner_variants (w : Curve ℝ) :
    (minerOriginal w = { w with k2 := Life.inf }) ∧
    (minerElementary w = { w with k2 := Life.finite w.k1 }) ∧
    (minerHaibach w = { w with k2 := Life.finite (2 * w.k1 - 1) }) ∧
    (∀ m ∈ [minerOriginal w, minerElementary w, minerHaibach w],
      m.k1 = w.k1 ∧ m.SD = w.SD ∧ m.ND = w.ND ∧ m.TN = w.TN ∧ m.TS = w.TS ∧ m.pf = w.pf ∧
      (Valid w → Valid m)) := by
  refine ⟨rfl, rfl, by simp [minerHaibach], fun m hm => ?_⟩
  simp only [List.mem_cons, List.mem_nil_iff, or_false] at hm
  rcases hm with rfl | rfl | rfl <;> refine ⟨rfl, rfl, rfl, rfl, rfl, rfl, fun h => h.with_k2 fun k hk => ?_⟩
  · cases hk
  · cases hk; exact le_rfl
  · cases hk
    have := h.k1
    norm_num; linarith

example : (minerHaibach (⟨5, Life.inf, 100, 1000, 4, 2, 0.5⟩ : Curve ℝ)).k2 = Life.finite 9 := by
  rw [(miner_variants _).2.2.1]; norm_num

/-- … and therefore leave the curve above the (transformed) knee unchanged, for every failure
probability. -/
theorem miner_variants_above_knee (p : ℝ) {L : ℝ} (hL : (transform ppf w p).SD ≤ L) :
    cycles ppf (minerOriginal w) p L = cycles ppf w p L ∧
    cycles ppf (minerElementary w) p L = cycles ppf w p L ∧
    cycles ppf (minerHaibach w) p L = cycles ppf w p L := by
  -- `hL` speaks of `transform ppf w p`, the left side needs it of `transform ppf (minerX w) p`: the same number, since
  -- `transform` does not read `k2`.  `by exact` is elaborated only after `rw` has found the variant's curve in the goal, and
  -- there `hL` fits by unfolding; a `transform` that reads `k2` breaks this step.
  refine ⟨?_, ?_, ?_⟩ <;>
  · rw [cycles_above hL, cycles_above (by exact hL)]
    rfl

example (h : Valid w) (p : ℝ) :
    cycles ppf (minerHaibach w) p (transform ppf w p).SD = Life.finite (transform ppf w p).ND := by
  rw [(miner_variants_above_knee p le_rfl).2.2]; exact (continuous_at_knee h p).1

/-- Allowable cycles grow with the failure probability. -/
theorem cycles_monotone_in_pf (hq : IsQuantile ppf) (h : Valid w) {p₁ p₂ L : ℝ}
    (hp1 : p₁ ∈ Set.Ioo (0 : ℝ) 1) (hp2 : p₂ ∈ Set.Ioo (0 : ℝ) 1) (h12 : p₁ ≤ p₂) (hL : 0 < L) :
    Life.le (cycles ppf w p₁ L) (cycles ppf w p₂ L) :=
  cyclesAt_transform_mono ppf h (shift_mono hq w hp1 hp2 h12) hL

/-- a quantile function in the sense of `IsQuantile` with `2·ppf(0.9)·c = 1` exists (non-vacuity of
the hypotheses used below): affine about `1/2`, with the slope that makes `ppf 0.9 = (0.9 − 1/2) / (2 · (4/10) · c)`,
`4/10 = 0.9 − 1/2` -/
theorem isQuantile_example :
    IsQuantile (fun p : ℝ => (p - 1 / 2) * (1 / (2 * (4 / 10) * (cRange : ℝ)))) ∧
      2 * ((fun p : ℝ => (p - 1 / 2) * (1 / (2 * (4 / 10) * (cRange : ℝ)))) 0.9) * (cRange : ℝ) = 1 := by
  have hc : (0 : ℝ) < 1 / (2 * (4 / 10) * (cRange : ℝ)) := by
    have := cRange_pos; positivity
  refine ⟨⟨?_, ?_⟩, ?_⟩
  · intro a _ b _ hab
    show (a - 1 / 2) * _ < (b - 1 / 2) * _
    exact mul_lt_mul_of_pos_right (by linarith) hc
  · intro p _
    show (1 - p - 1 / 2) * _ = -((p - 1 / 2) * _)
    ring
  · have := cRange_pos.ne'
    show 2 * ((0.9 - 1 / 2) * (1 / (2 * (4 / 10) * (cRange : ℝ)))) * (cRange : ℝ) = 1
    field_simp
    norm_num

example (h : Valid w) : Life.le
    (cycles (fun p : ℝ => (p - 1 / 2) * (1 / (2 * (4 / 10) * (cRange : ℝ)))) w 0.1 w.SD)
    (cycles (fun p : ℝ => (p - 1 / 2) * (1 / (2 * (4 / 10) * (cRange : ℝ)))) w 0.9 w.SD) :=
  cycles_monotone_in_pf isQuantile_example.1 h (by norm_num) (by norm_num) (by norm_num) h.SD

theorem shift_90_10 (hq : IsQuantile ppf) (w : Curve ℝ) :
    shift ppf w 0.9 - shift ppf w 0.1 = 2 * ppf 0.9 * cRange := by
  have h := hq.odd 0.9 (by norm_num)
  have e : (1 : ℝ) - 0.9 = 0.1 := by norm_num
  rw [e] at h
  unfold shift
  rw [h]; ring

theorem SD10_le_SD90 (hq : IsQuantile ppf) (h : Valid w) : (transform ppf w 0.1).SD ≤ (transform ppf w 0.9).SD :=
  transform_SD_mono ppf h (shift_mono hq w (by norm_num) (by norm_num) (by norm_num))

/-- `SD_90 / SD_10 = TS^(2·z₀.₉·c)` with the code's constant `c`; it is `TS` when `2·z₀.₉·c = 1`
(for scipy's ppf and the literal `c`, `|2·z₀.₉·c − 1| < 1e-15` is checked numerically on every run). -/
theorem SD90_over_SD10 (hq : IsQuantile ppf) (h : Valid w) :
    (transform ppf w 0.9).SD / (transform ppf w 0.1).SD = w.TS ^ (2 * ppf 0.9 * cRange) ∧
      (2 * ppf 0.9 * (cRange : ℝ) = 1 →
        (transform ppf w 0.9).SD / (transform ppf w 0.1).SD = w.TS) := by
  have e : (transform ppf w 0.9).SD / (transform ppf w 0.1).SD = w.TS ^ (2 * ppf 0.9 * cRange) := by
    apply exp_log_ratio (h.transform ppf _).SD (h.transform ppf _).SD h.TS_pos
    rw [log_transform_SD ppf h, log_transform_SD ppf h, ← shift_90_10 hq w]
    ring
  exact ⟨e, fun hc => by rw [e, hc, Real.rpow_one]⟩

example (h : Valid w) :
    (transform (fun p : ℝ => (p - 1 / 2) * (1 / (2 * (4 / 10) * (cRange : ℝ)))) w 0.9).SD /
      (transform (fun p : ℝ => (p - 1 / 2) * (1 / (2 * (4 / 10) * (cRange : ℝ)))) w 0.1).SD = w.TS :=
  (SD90_over_SD10 isQuantile_example.1 h).2 isQuantile_example.2

/-- `N_90 / N_10 = TN^(2·z₀.₉·c)` (`= TN` when `2·z₀.₉·c = 1`) at every load on the finite-life
line of both curves, i.e. `L ≥ SD_90` (`SD_10 ≤ SD_90`).  This is the reading of "N_90/N_10
equals TN" that is proved; for loads below `SD_10` see `N90_over_N10_below_knee`. -/
theorem N90_over_N10 (hq : IsQuantile ppf) (h : Valid w) {L : ℝ} (hL : (transform ppf w 0.9).SD ≤ L) :
    ∃ n90 n10, cycles ppf w 0.9 L = Life.finite n90 ∧ cycles ppf w 0.1 L = Life.finite n10 ∧
      0 < n10 ∧ n90 / n10 = w.TN ^ (2 * ppf 0.9 * cRange) ∧
      (2 * ppf 0.9 * (cRange : ℝ) = 1 → n90 / n10 = w.TN) := by
  have v9 := h.transform ppf 0.9
  have v1 := h.transform ppf 0.1
  have hL0 : 0 < L := lt_of_lt_of_le v9.SD hL
  have hL1 : (transform ppf w 0.1).SD ≤ L := le_trans (SD10_le_SD90 hq h) hL
  have e : (transform ppf w 0.9).ND * (L / (transform ppf w 0.9).SD) ^ (-w.k1) /
      ((transform ppf w 0.1).ND * (L / (transform ppf w 0.1).SD) ^ (-w.k1)) = w.TN ^ (2 * ppf 0.9 * cRange) := by
    apply exp_log_ratio (PowerLaw.pos v9.ND v9.SD hL0 _) (PowerLaw.pos v1.ND v1.SD hL0 _) h.TN_pos
    rw [log_basquin_transform ppf h _ _ hL0, log_basquin_transform ppf h _ _ hL0, ← shift_90_10 hq w]
    ring
  exact ⟨_, _, cycles_above hL, cycles_above hL1, PowerLaw.pos v1.ND v1.SD hL0 _, e,
    fun hc => by rw [e, hc, Real.rpow_one]⟩

example (h : Valid w) : ∃ n90 n10,
    cycles (fun p : ℝ => (p - 1 / 2) * (1 / (2 * (4 / 10) * (cRange : ℝ)))) w 0.9
      (transform (fun p : ℝ => (p - 1 / 2) * (1 / (2 * (4 / 10) * (cRange : ℝ)))) w 0.9).SD = Life.finite n90 ∧
    cycles (fun p : ℝ => (p - 1 / 2) * (1 / (2 * (4 / 10) * (cRange : ℝ)))) w 0.1
      (transform (fun p : ℝ => (p - 1 / 2) * (1 / (2 * (4 / 10) * (cRange : ℝ)))) w 0.9).SD = Life.finite n10 ∧
    n90 / n10 = w.TN := by
  obtain ⟨a, b, h1, h2, _, _, h5⟩ := N90_over_N10 isQuantile_example.1 h le_rfl
  exact ⟨a, b, h1, h2, h5 isQuantile_example.2⟩

/-- The literal reading "N_90/N_10 = TN at every load" is not what a curve with two slopes and a
scatter band shifted in both directions can satisfy: below both knees (finite `k_2 = k`) the ratio is
`TN^e · TS^(e·(k − k_1))`, `e = 2·z₀.₉·c`, i.e. `TN` only if `k_2 = k_1` or `TS = 1`. -/
theorem N90_over_N10_below_knee (hq : IsQuantile ppf) (h : Valid w) {k L : ℝ}
    (hk : w.k2 = Life.finite k) (hL0 : 0 < L) (hL : L < (transform ppf w 0.1).SD) :
    ∃ n90 n10, cycles ppf w 0.9 L = Life.finite n90 ∧ cycles ppf w 0.1 L = Life.finite n10 ∧
      0 < n10 ∧ Real.log n90 - Real.log n10 =
        (2 * ppf 0.9 * cRange) * (Real.log w.TN + (k - w.k1) * Real.log w.TS) := by
  have v9 := h.transform ppf 0.9
  have v1 := h.transform ppf 0.1
  have hL9 : L < (transform ppf w 0.9).SD := lt_of_lt_of_le hL (SD10_le_SD90 hq h)
  refine ⟨_, _, cycles_below hL9 hk, cycles_below hL hk,
    PowerLaw.pos v1.ND v1.SD hL0 _, ?_⟩
  rw [log_basquin_transform ppf h _ _ hL0, log_basquin_transform ppf h _ _ hL0, ← shift_90_10 hq w]
  ring

example (h : Valid w) {k : ℝ} (hk : w.k2 = Life.finite k) : ∃ n90 n10,
    cycles (fun p : ℝ => (p - 1 / 2) * (1 / (2 * (4 / 10) * (cRange : ℝ)))) w 0.9
      ((transform (fun p : ℝ => (p - 1 / 2) * (1 / (2 * (4 / 10) * (cRange : ℝ)))) w 0.1).SD / 2) = Life.finite n90 ∧
    cycles (fun p : ℝ => (p - 1 / 2) * (1 / (2 * (4 / 10) * (cRange : ℝ)))) w 0.1
      ((transform (fun p : ℝ => (p - 1 / 2) * (1 / (2 * (4 / 10) * (cRange : ℝ)))) w 0.1).SD / 2) = Life.finite n10 ∧
    Real.log n90 - Real.log n10 = 1 * (Real.log w.TN + (k - w.k1) * Real.log w.TS) := by
  have v := (h.transform (fun p : ℝ => (p - 1 / 2) * (1 / (2 * (4 / 10) * (cRange : ℝ)))) 0.1).SD
  obtain ⟨a, b, h1, h2, _, h4⟩ := N90_over_N10_below_knee isQuantile_example.1 h hk
    (half_pos v) (half_lt_self v)
  exact ⟨a, b, h1, h2, by rw [h4, isQuantile_example.2]⟩

/-- The remaining loads, BETWEEN the two knees (`SD_10 ≤ L < SD_90`): the 10 % curve is on its `k_1` line there, the
90 % curve already on its `k_2` line.  With `k_2 = inf` the 90 % life is infinite (no ratio); with a finite
`k_2 = k` the log-ratio exceeds the nominal `e·log TN`, `e = 2·z₀.₉·c`, by `(k − k_1)·(log SD_90 − log L) ≥ 0`.
Together with `N90_over_N10` (`L ≥ SD_90`) and `N90_over_N10_below_knee` (`L < SD_10`) every positive load is covered;
"N_90/N_10 equals TN" holds as stated exactly on `L ≥ SD_90` (and everywhere if `k_2 = k_1`). -/
theorem N90_over_N10_between_knees (hq : IsQuantile ppf) (h : Valid w) {L : ℝ}
    (hL1 : (transform ppf w 0.1).SD ≤ L) (hL9 : L < (transform ppf w 0.9).SD) :
    (w.k2 = Life.inf → cycles ppf w 0.9 L = Life.inf ∧ ∃ n10, cycles ppf w 0.1 L = Life.finite n10) ∧
    (∀ k, w.k2 = Life.finite k →
      ∃ n90 n10, cycles ppf w 0.9 L = Life.finite n90 ∧ cycles ppf w 0.1 L = Life.finite n10 ∧ 0 < n10 ∧
        Real.log n90 - Real.log n10 = (2 * ppf 0.9 * cRange) * Real.log w.TN
          + (k - w.k1) * (Real.log (transform ppf w 0.9).SD - Real.log L) ∧
        (2 * ppf 0.9 * cRange) * Real.log w.TN ≤ Real.log n90 - Real.log n10) := by
  have v9 := h.transform ppf 0.9
  have v1 := h.transform ppf 0.1
  have hL0 : 0 < L := lt_of_lt_of_le v1.SD hL1
  refine ⟨fun hk => ⟨k2_inf_endurance 0.9 hk hL9, _, cycles_above hL1⟩, fun k hk => ?_⟩
  have e : Real.log ((transform ppf w 0.9).ND * (L / (transform ppf w 0.9).SD) ^ (-k)) -
      Real.log ((transform ppf w 0.1).ND * (L / (transform ppf w 0.1).SD) ^ (-w.k1))
        = (2 * ppf 0.9 * cRange) * Real.log w.TN
          + (k - w.k1) * (Real.log (transform ppf w 0.9).SD - Real.log L) := by
    rw [log_basquin_transform ppf h _ _ hL0, log_basquin_transform ppf h _ _ hL0, log_transform_SD ppf h,
      ← shift_90_10 hq w]
    ring
  refine ⟨_, _, cycles_below hL9 hk, cycles_above hL1, PowerLaw.pos v1.ND v1.SD hL0 _, e, ?_⟩
  rw [e]
  have hk1 : 0 ≤ k - w.k1 := sub_nonneg.2 (h.k2 k hk)
  have hlog : 0 ≤ Real.log (transform ppf w 0.9).SD - Real.log L :=
    sub_nonneg.2 (Real.log_le_log hL0 hL9.le)
  have := mul_nonneg hk1 hlog
  linarith

example (h : Valid w) {k : ℝ} (hk : w.k2 = Life.finite k)
    (hgap : (transform (fun p : ℝ => (p - 1 / 2) * (1 / (2 * (4 / 10) * (cRange : ℝ)))) w 0.1).SD
      < (transform (fun p : ℝ => (p - 1 / 2) * (1 / (2 * (4 / 10) * (cRange : ℝ)))) w 0.9).SD) : ∃ n90 n10,
    cycles (fun p : ℝ => (p - 1 / 2) * (1 / (2 * (4 / 10) * (cRange : ℝ)))) w 0.9
      (transform (fun p : ℝ => (p - 1 / 2) * (1 / (2 * (4 / 10) * (cRange : ℝ)))) w 0.1).SD = Life.finite n90 ∧
    cycles (fun p : ℝ => (p - 1 / 2) * (1 / (2 * (4 / 10) * (cRange : ℝ)))) w 0.1
      (transform (fun p : ℝ => (p - 1 / 2) * (1 / (2 * (4 / 10) * (cRange : ℝ)))) w 0.1).SD = Life.finite n10 ∧
    1 * Real.log w.TN ≤ Real.log n90 - Real.log n10 := by
  obtain ⟨a, b, h1, h2, _, _, h5⟩ := (N90_over_N10_between_knees isQuantile_example.1 h le_rfl hgap).2 k hk
  exact ⟨a, b, h1, h2, by rw [← isQuantile_example.2]; exact h5⟩

/-- Transforming to `p₁` and then to `p₂` equals transforming to `p₂` directly (every `ppf`). -/
theorem transform_compose (h : Valid w) (p₁ p₂ : ℝ) :
    transform ppf (transform ppf w p₁) p₂ = transform ppf w p₂ := by
  have v1 := h.transform ppf p₁
  have hsh : shift ppf w p₁ + shift ppf (transform ppf w p₁) p₂ = shift ppf w p₂ := by
    unfold shift; simp only [transform_pf]; ring
  apply Curve.ext' <;> try rfl
  · apply Real.log_injOn_pos (Set.mem_Ioi.2 (v1.transform ppf p₂).SD) (Set.mem_Ioi.2 (h.transform ppf p₂).SD)
    rw [log_transform_SD ppf v1, log_transform_SD ppf h, log_transform_SD ppf h, ← hsh]
    simp only [transform_TS]; ring
  · apply Real.log_injOn_pos (Set.mem_Ioi.2 (v1.transform ppf p₂).ND) (Set.mem_Ioi.2 (h.transform ppf p₂).ND)
    rw [log_transform_ND ppf v1, log_transform_ND ppf h, log_transform_ND ppf h, ← hsh]
    simp only [transform_TS, transform_TN, transform_k1]; ring

example (h : Valid w) : transform ppf (transform ppf w 0.1) 0.9 = transform ppf w 0.9 :=
  transform_compose h 0.1 0.9

/-- Transforming to the native failure probability is the identity. -/
theorem transform_native_id (h : Valid w) : transform ppf w w.pf = w := by
  have hsh : shift ppf w w.pf = 0 := by unfold shift; ring
  apply Curve.ext' <;> try rfl
  · rw [transform_SD ppf w _ h.TS_pos, hsh, Real.rpow_zero, mul_one]
  · rw [transform_ND ppf w _ h.TS_pos h.TN_pos h.SD, hsh, Real.rpow_zero, Real.rpow_zero,
      Real.one_rpow, mul_one, mul_one]

example (h : Valid w) (L : ℝ) : cycles ppf w w.pf L = cyclesAt w L := by
  unfold cycles; rw [transform_native_id h]

/-- With the exact constants `c = 1/(2 z₀.₉)`, `c₂ = 2 z₀.₉` the two conversions are mutual
inverses and `T = 10^(2 z₀.₉ s)`. -/
theorem std_range_inverse {z90 : ℝ} (hz : z90 ≠ 0) :
    (∀ T : ℝ, 0 < T → stdToScatteringRangeWith (2 * z90) (scatteringRangeToStdWith (1 / (2 * z90)) T) = T) ∧
    (∀ s : ℝ, scatteringRangeToStdWith (1 / (2 * z90)) (stdToScatteringRangeWith (2 * z90) s) = s) ∧
    (∀ s : ℝ, stdToScatteringRangeWith (2 * z90) s = (10 : ℝ) ^ (2 * z90 * s)) := by
  have h1 : 1 / (2 * z90) * (2 * z90) = 1 := by field_simp
  exact ⟨fun T hT => by rw [stdToRange_rangeToStd _ _ hT, h1, Real.rpow_one],
    fun s => by rw [rangeToStd_stdToRange, h1, one_mul], fun s => by simp [stdToScatteringRangeWith]⟩

example : stdToScatteringRangeWith (2 * (1.2815515655446004 : ℝ))
    (scatteringRangeToStdWith (1 / (2 * 1.2815515655446004)) 4) = 4 :=
  (std_range_inverse (by norm_num)).1 4 (by norm_num)

/-- With the two literals of the code the compositions are `T ↦ T^(c·c₂)` and `s ↦ (c·c₂)·s`, and
`|c·c₂ − 1| < 1e-16` (exact decimal arithmetic). -/
theorem std_range_literals :
    (∀ T : ℝ, 0 < T → stdToScatteringRange (scatteringRangeToStd T) = T ^ ((cRange : ℝ) * cStd)) ∧
    (∀ s : ℝ, scatteringRangeToStd (stdToScatteringRange s) = ((cRange : ℝ) * cStd) * s) ∧
    |(cRange : ℝ) * cStd - 1| < 1e-16 := by
  refine ⟨fun T hT => stdToRange_rangeToStd _ _ hT, fun s => rangeToStd_stdToRange _ _ s, ?_⟩
  unfold cRange cStd
  rw [abs_lt]
  constructor <;> norm_num

example : stdToScatteringRange (scatteringRangeToStd (4 : ℝ)) = 4 ^ ((cRange : ℝ) * cStd) :=
  std_range_literals.1 4 (by norm_num)

/-- Missing `TN`/`TS`: no scatter when both are missing, otherwise the missing one is derived so
that `TN = TS^k_1`. -/
theorem validate_scatter_consistent {k1 : ℝ} (hk : k1 ≠ 0) :
    validateScatter k1 none none = (1, 1) ∧
    (∀ tn : ℝ, 0 < tn → (validateScatter k1 (some tn) none).1 = tn ∧
        (validateScatter k1 (some tn) none).2 ^ k1 = tn) ∧
    (∀ ts : ℝ, (validateScatter k1 none (some ts)).2 = ts ∧
        (validateScatter k1 none (some ts)).1 = ts ^ k1) ∧
    (∀ tn ts : ℝ, validateScatter k1 (some tn) (some ts) = (tn, ts)) := by
  refine ⟨by simp [validateScatter], ?_, fun ts => ⟨rfl, rfl⟩, fun _ _ => rfl⟩
  intro tn htn
  refine ⟨rfl, ?_⟩
  show (tn ^ ((1.0 : ℝ) / k1)) ^ k1 = tn
  rw [← Real.rpow_mul htn.le, lit_one, one_div_mul_cancel hk, Real.rpow_one]

example : (validateScatter (5 : ℝ) (some 4) none).2 ^ (5 : ℝ) = 4 :=
  ((validate_scatter_consistent (by norm_num)).2.1 4 (by norm_num)).2

/-- Broadcast inputs are evaluated element-wise: indexed loads against one curve (`map`), a frame
of curves against loads on another index (cross product, curve-major) and on the same index (row by
row).  The tie of these three shapes to pandas' behaviour is the correspondence check. -/
theorem broadcast_elementwise (ppf : ℝ → ℝ) (p : ℝ) :
    (∀ (w : Curve ℝ) (Ls : List ℝ) (i : Nat),
        (cyclesSeries ppf w p Ls)[i]? = (Ls[i]?).map (cycles ppf w p)) ∧
    (∀ (w : Curve ℝ) (Ns : List ℝ) (i : Nat),
        (loadSeries ppf w p Ns)[i]? = (Ns[i]?).map (load ppf w p)) ∧
    (∀ (w : Curve ℝ) (ws : List (Curve ℝ)) (Ls : List ℝ),
        cyclesCross ppf (w :: ws) p Ls = Ls.map (cycles ppf w p) ++ cyclesCross ppf ws p Ls) ∧
    (∀ (ws : List (Curve ℝ)) (Ls : List ℝ) (i : Nat) (hw : i < ws.length) (hl : i < Ls.length),
        (cyclesZip ppf ws p Ls)[i]? = some (cycles ppf ws[i] p Ls[i])) := by
  refine ⟨?_, ?_, ?_, ?_⟩
  · intro w Ls i; simp [cyclesSeries]
  · intro w Ns i; simp [loadSeries]
  · intro w ws Ls; simp [cyclesCross, cyclesSeries]
  · intro ws Ls i hw hl; simp [cyclesZip, hw, hl]

example (ppf : ℝ → ℝ) (w : Curve ℝ) : cyclesSeries ppf w 0.5 [1, 2] = [cycles ppf w 0.5 1, cycles ppf w 0.5 2] := rfl

end PylifeVerif.C08
