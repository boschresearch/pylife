/- C01: chunk independence. The property theorems live in the imported files. -/
import Proofs.C01Core
import Proofs.ThreePoint
import Proofs.RainflowCorollaries
import Proofs.C01Literal
