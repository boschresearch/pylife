/-
C07 — the binned notch law is the wrapped law sampled at the upper class edge.

Theorems about `Model/Notch.lean` (section `binned`) over an arbitrary linearly ordered field `α`
(so in particular over ℚ and ℝ).  Throughout: `n ≥ 1` bins, maximum load `maxL > 0`, a table of `m ≥ 1` classes
(`m = n`: primary branch, range `maxL`; `m = 2n`: secondary branch, range `2·maxL`), `law` the wrapped law's
stress or strain as a function of the load (arbitrary unless stated).  `binned n maxL m law x = none` models the
`ValueError` of the code.  The code checks neither `number_of_bins ≥ 1` (else division by zero) nor a positive maximum
(else the edges do not increase: `searchsorted` precondition); the theorems assume both.

Per-point tables: `lookupMulti` is the per-point look-up as REPAIRED by /repo commit 3047e0d
(every point selects the class in its own column and is checked against its own range): `binned_multi_eq_single` and
`binned_multi_out_of_range` hold for EVERY per-point Series.  `lookupMultiFirst` is the code before the repair (class
and range check of the first point for all points); for it the property fails
(`first_point_selection_ignores_range_of_other_points`, `first_point_selection_wrong_class`) and only the partial
statement for proportional loads holds (`binned_multi_first_point_eq_single_partial`).
The hypotheses "odd, monotone wrapped law" of the consequence clauses are discharged for the extended Neuber law in
`Proofs/C07Neuber.lean`.
-/
import Proofs.Lemmas.Binned

-- `binned_multi_table_eq_single` takes the whole ordered-field context of the `variable` line although it needs less of it
set_option linter.unusedSectionVars false

namespace PylifeVerif.C07
open PylifeVerif.Notch

variable {α : Type} [Field α] [LinearOrder α] [IsStrictOrderedRing α]

/-- **Upper-edge rule.**  For every load inside the initialised range, `|x| ≤ edge m`, the look-up succeeds and returns
`sign x · law(eᵢ)` for the class `i ∈ 1..m` with `eᵢ₋₁ < |x| ≤ eᵢ` (for `x = 0`: class 1, `e₀ = 0 = |x|`);
consecutive edges are `maxL / n` apart. -/
theorem binned_upper_edge {n : ℕ} (hn : 0 < n) {maxL : α} (hM : 0 < maxL) {m : ℕ} (hm : 1 ≤ m) (law : α → α)
    (x : α) (hx : |x| ≤ edge n maxL m) :
    ∃ i, 1 ≤ i ∧ i ≤ m ∧
      (edge n maxL (i - 1) < |x| ∨ (x = 0 ∧ i = 1)) ∧ |x| ≤ edge n maxL i ∧
      edge n maxL i - edge n maxL (i - 1) = maxL / n ∧
      binned n maxL m law x = some (signM x * law (edge n maxL i)) := by
  -- `hM` is not needed for this rule (it is for everything that compares edges)
  obtain ⟨k, hk⟩ := exists_classOf hm hx
  obtain ⟨hle, hkm, _⟩ := classOf_eq_some_iff.mp hk
  exact ⟨k + 1, Nat.succ_pos k, hkm, (classOf_lower hk).imp_right (And.imp_right (congrArg (· + 1))), hle,
    edge_succ_sub hn maxL k, by rw [binned_eq_classOf, hk]; rfl⟩

/-- the ranges: the primary table (`m = n`) ends at `maxL`, the secondary (`m = 2n`) at `2·maxL` -/
theorem binned_range {n : ℕ} (hn : 0 < n) (maxL : α) :
    edge n maxL n = maxL ∧ edge n maxL (2 * n) = 2 * maxL := ⟨edge_top hn maxL, edge_two_top hn maxL⟩

example : ∃ i, 1 ≤ i ∧ i ≤ 3 ∧ binned 3 (3 : ℚ) 3 (fun e => 10 * e) (-1.5) = some (signM (-1.5 : ℚ) * (10 * edge 3 3 i)) := by
  obtain ⟨i, h1, h2, _, _, _, h⟩ := binned_upper_edge (n := 3) (by norm_num) (maxL := (3 : ℚ)) (by norm_num)
    (m := 3) (by norm_num) (fun e => 10 * e) (-1.5) (by rw [edge_top (by norm_num)]; norm_num [abs_le])
  exact ⟨i, h1, h2, h⟩

/-- **On an edge the edge's own value** (not the next class): `x = ± eᵢ` gives `± law(eᵢ)`. -/
theorem binned_on_edge {n : ℕ} (hn : 0 < n) {maxL : α} (hM : 0 < maxL) {m : ℕ} (law : α → α)
    {i : ℕ} (hi1 : 1 ≤ i) (him : i ≤ m) :
    binned n maxL m law (edge n maxL i) = some (law (edge n maxL i)) ∧
    binned n maxL m law (-edge n maxL i) = some (-law (edge n maxL i)) := by
  obtain ⟨k, rfl⟩ : ∃ k, i = k + 1 := ⟨i - 1, by omega⟩
  have hmono := edge_strictMono hn hM
  have hpos : 0 < edge n maxL (k + 1) := by rw [← edge_zero n maxL]; exact hmono (Nat.succ_pos k)
  have hc : classOf n maxL m (edge n maxL (k + 1)) = some k :=
    classOf_of_mem hn hM him (Or.inr (hmono (Nat.lt_succ_self k))) le_rfl
  constructor
  · rw [binned_eq_classOf, abs_of_pos hpos, hc, Option.map_some, signM_pos hpos, one_mul]
  · rw [binned_eq_classOf, abs_neg, abs_of_pos hpos, hc, Option.map_some, signM_neg (neg_neg_of_pos hpos), neg_one_mul]

/-- **Zero load**: class 1 with sign 0, i.e. the value `0 · law(e₁) = 0`. -/
theorem binned_zero {n : ℕ} (hn : 0 < n) {maxL : α} (hM : 0 < maxL) {m : ℕ} (hm : 1 ≤ m) (law : α → α) :
    binned n maxL m law 0 = some 0 := by
  rw [binned_eq_classOf, abs_zero, classOf_of_mem hn hM hm (Or.inl rfl) (edge_nonneg hn hM 1), Option.map_some, signM_zero, zero_mul]

/-- **Out of range ⇒ error, never a value**, and conversely every load inside the range gets a value:
the look-up fails exactly for `|x| > edge m` (`> maxL` on the primary, `> 2·maxL` on the secondary table). -/
theorem binned_out_of_range {n : ℕ} (hn : 0 < n) {maxL : α} (hM : 0 < maxL) {m : ℕ} (hm : 1 ≤ m) (law : α → α)
    (x : α) : binned n maxL m law x = none ↔ edge n maxL m < |x| := by
  rw [binned_eq_classOf, Option.map_eq_none_iff, classOf_eq_none_iff]
  exact ⟨fun h => by simpa [Nat.sub_add_cancel hm] using h (m - 1) (by omega),
    fun h k hk => ((edge_strictMono hn hM).monotone (by omega : k + 1 ≤ m)).trans_lt h⟩

example : binned 3 (3 : ℚ) 3 (fun e => 10 * e) (3 + 1 / 1000) = none := by
  rw [binned_out_of_range (by norm_num) (by norm_num) (by norm_num), edge_top (by norm_num)]
  norm_num [abs_of_pos]

/-- a returned value, read backwards (`k` 0-based: `e_k ≤ |x| ≤ e_{k+1}`) -/
theorem binned_eq_some_iff {n : ℕ} {maxL : α} {m : ℕ} {law : α → α} {x y : α} :
    binned n maxL m law x = some y ↔ ∃ k, classOf n maxL m |x| = some k ∧ signM x * law (edge n maxL (k + 1)) = y := by
  rw [binned_eq_classOf, Option.map_eq_some_iff]

theorem law_edge_mono {n : ℕ} (hn : 0 < n) {maxL : α} (hM : 0 < maxL) {law : α → α} (hmon : Monotone law) {a a' : α}
    {k k' : ℕ} (hlo : edge n maxL k < a) (haa : a ≤ a') (hle : a' ≤ edge n maxL (k' + 1)) :
    law (edge n maxL (k + 1)) ≤ law (edge n maxL (k' + 1)) := by
  have hmono := edge_strictMono hn hM
  exact hmon (hmono.monotone (Nat.succ_le_of_lt (hmono.lt_iff_lt.mp (hlo.trans_le (haa.trans hle)))))

/-- **Never under-estimates the magnitude**: `|law x| ≤ |binned x|`; with the sign of the load
(`law x ≤ binned x` for `x ≥ 0`, `binned x ≤ law x` for `x ≤ 0`). -/
theorem binned_never_underestimates {n : ℕ} (hn : 0 < n) {maxL : α} (hM : 0 < maxL) {m : ℕ} (hm : 1 ≤ m)
    {law : α → α} (hodd : ∀ x, law (-x) = -law x) (hmon : Monotone law) {x y : α}
    (h : binned n maxL m law x = some y) :
    |law x| ≤ |y| ∧ (0 ≤ x → law x ≤ y) ∧ (x ≤ 0 → y ≤ law x) := by
  obtain ⟨k, hk, rfl⟩ := binned_eq_some_iff.mp h
  have h0 : 0 ≤ law |x| := (odd_map_zero hodd).ge.trans (hmon (abs_nonneg x))
  have h1 : law |x| ≤ law (edge n maxL (k + 1)) := hmon (classOf_le hk)
  rw [odd_eq_signM_mul_abs hodd x]
  refine ⟨?_, fun hx => mul_le_mul_of_nonneg_left h1 (signM_nonneg hx),
    fun hx => mul_le_mul_of_nonpos_left h1 (signM_nonpos hx)⟩
  rw [abs_mul, abs_mul, abs_of_nonneg h0, abs_of_nonneg (h0.trans h1)]
  exact mul_le_mul_of_nonneg_left h1 (abs_nonneg _)

/-- **Monotone**: `x ≤ x'` (both inside the range) gives `binned x ≤ binned x'`. -/
theorem binned_monotone {n : ℕ} (hn : 0 < n) {maxL : α} (hM : 0 < maxL) {m : ℕ} (hm : 1 ≤ m)
    {law : α → α} (hodd : ∀ x, law (-x) = -law x) (hmon : Monotone law) {x x' y y' : α}
    (h : binned n maxL m law x = some y) (h' : binned n maxL m law x' = some y') (hxx : x ≤ x') : y ≤ y' := by
  obtain ⟨k, hk, rfl⟩ := binned_eq_some_iff.mp h
  obtain ⟨k', hk', rfl⟩ := binned_eq_some_iff.mp h'
  have hepos : ∀ j, 0 ≤ law (edge n maxL j) := fun j => by
    rw [← odd_map_zero hodd]
    exact hmon (edge_nonneg hn hM j)
  refine signM_mul_le_signM_mul hxx (hepos _) (hepos _) (fun hx => ?_) (fun hx' => ?_)
  · exact law_edge_mono hn hM hmon (classOf_lower_lt hk hx.ne') (abs_le_abs_of_nonneg hx.le hxx) (classOf_le hk')
  · exact law_edge_mono hn hM hmon (classOf_lower_lt hk' hx'.ne) (abs_le_abs_of_nonpos hx'.le hxx) (classOf_le hk)

/-- **Less than one class off**: the deviation from the exact law is at most the law's increase over the class the load
lies in, `|binned x − law x| ≤ law(eᵢ) − law(eᵢ − maxL/n)` with `eᵢ − maxL/n < |x| ≤ eᵢ`; strictly less for a
strictly increasing law and `x ≠ 0` (for `x = 0` both are zero). -/
theorem binned_deviation_lt_one_class {n : ℕ} (hn : 0 < n) {maxL : α} (hM : 0 < maxL) {m : ℕ} (hm : 1 ≤ m)
    {law : α → α} (hodd : ∀ x, law (-x) = -law x) (hmon : Monotone law) {x y : α}
    (h : binned n maxL m law x = some y) :
    ∃ e, e - maxL / n ≤ |x| ∧ |x| ≤ e ∧ |y - law x| ≤ law e - law (e - maxL / n) ∧
      (StrictMono law → x ≠ 0 → |y - law x| < law e - law (e - maxL / n)) := by
  obtain ⟨k, hk, rfl⟩ := binned_eq_some_iff.mp h
  have hle := classOf_le hk
  have h1 : law |x| ≤ law (edge n maxL (k + 1)) := hmon hle
  -- the deviation is `sign x · (law e_{k+1} − law |x|)`
  have key : |signM x * law (edge n maxL (k + 1)) - law x| = |signM x| * (law (edge n maxL (k + 1)) - law |x|) := by
    rw [odd_eq_signM_mul_abs hodd x, ← mul_sub, abs_mul, abs_of_nonneg (sub_nonneg.mpr h1)]
  have hprev : edge n maxL (k + 1) - maxL / n = edge n maxL k := by rw [← edge_succ_sub hn maxL k, sub_sub_cancel]
  refine ⟨edge n maxL (k + 1), hprev ▸ classOf_lower_le hk, hle, ?_, fun hs hx0 => ?_⟩
  · rw [key, hprev]
    refine (mul_le_mul_of_nonneg_right (abs_signM_le_one x) (sub_nonneg.mpr h1)).trans ?_
    rw [one_mul]
    exact sub_le_sub_left (hmon (classOf_lower_le hk)) _
  · rw [key, hprev, abs_signM hx0, one_mul]
    exact sub_lt_sub_left (hs (classOf_lower_lt hk hx0)) _

example : Monotone (fun e : ℚ => 10 * e) ∧ ∀ x : ℚ, (fun e : ℚ => 10 * e) (-x) = -((fun e : ℚ => 10 * e) x) :=
  ⟨fun a b h => by simp only; linarith, fun x => by ring⟩

/-- **Per-point tables equal the tables each point gets alone**: row `i` of the per-point table holds, for point `j`
with its own maximum `M_j`, exactly row `i` of the single table built with `M_j` (load and value). -/
theorem binned_multi_table_eq_single (n : ℕ) (maxLs : List α) (m : ℕ) (law : α → α) (j : ℕ) (M : α)
    (hj : maxLs[j]? = some M) :
    (tableMulti n maxLs m law).map (fun r => (r.1[j]?, r.2[j]?))
      = (table n M m law).map (fun r => (some r.1, some r.2)) := by
  simp only [tableMulti, table, List.map_map]
  apply List.map_congr_left
  intro k _
  simp [List.getElem?_map, hj]

/-- **Per-point look-up = the single look-ups, for every per-point Series** (no proportionality needed): with one
load per point the result is the list of the results every point gets from its own single table, and it is an error
exactly when the single look-up of some point is an error; a Series that does not hold exactly one load per point is
rejected. -/
theorem binned_multi_eq_single (n : ℕ) (m : ℕ) (law : α → α) (maxLs xs : List α) :
    lookupMulti maxLs.length (tableMulti n maxLs m law) xs
      = if xs.length = maxLs.length then (maxLs.zip xs).mapM (fun p => binned n p.1 m law p.2) else none := by
  unfold lookupMulti
  split_ifs with h
  · exact lookupFrom_tableMulti n m law xs [] maxLs h.symm
  · rfl

/-- **Per-point range check**: the per-point look-up raises exactly when some point's load is above that point's OWN
initialised range (`|x_j| > edge m` of `M_j`, i.e. `> M_j` on the primary and `> 2·M_j` on the secondary table);
by the range check of each single look-up (`binned_multi_eq_single`, `binned_out_of_range`). -/
theorem binned_multi_out_of_range {n : ℕ} (hn : 0 < n) {m : ℕ} (hm : 1 ≤ m) (law : α → α) (maxLs xs : List α)
    (hM : ∀ M ∈ maxLs, 0 < M) (hlen : xs.length = maxLs.length) :
    lookupMulti maxLs.length (tableMulti n maxLs m law) xs = none
      ↔ ∃ p ∈ maxLs.zip xs, edge n p.1 m < |p.2| := by
  rw [binned_multi_eq_single, if_pos hlen, mapM_option_eq_none_iff]
  exact exists_congr fun p => and_congr_right fun hp =>
    binned_out_of_range hn (hM p.1 (List.of_mem_zip hp).1) hm law p.2

/-- the Series look-up on a single table (`fillna(0)` first) is the scalar look-up of every entry -/
theorem binned_series_eq_scalar (tbl : List (α × α)) (x : α) : lookupSeries tbl x = lookup tbl x := by
  rw [lookupSeries, fillna0_eq]

-- the per-point look-up of loads that are not proportional to the maxima, through the theorem
example : lookupMulti 2 (tableMulti 2 [(4 : ℚ), 2] 2 (fun e => 10 * e)) [3, -1 / 2]
    = some [signM (3 : ℚ) * (10 * edge 2 4 2), signM (-1 / 2 : ℚ) * (10 * edge 2 2 1)] := by
  rw [show (2 : ℕ) = [(4 : ℚ), 2].length from rfl]
  rw [binned_multi_eq_single]
  decide +kernel

-- non-proportional loads: point 2 (maximum 2) in its own class 1, point 1 (maximum 4) in its class 2
example : lookupMulti 2 (tableMulti 2 [(4 : ℚ), 2] 2 (fun e => 10 * e)) [3, -1 / 2] = some [40, -10] := by
  decide +kernel

-- the second point is above its own maximum: error, although the first point is inside its range
example : lookupMulti 2 (tableMulti 2 [(4 : ℚ), 2] 2 (fun e => 10 * e)) [1, 100] = none := by
  exact (binned_multi_out_of_range (n := 2) (by norm_num) (m := 2) (by norm_num) (fun e => 10 * e) [(4 : ℚ), 2] [1, 100]
    (by simp) rfl).mpr ⟨((2 : ℚ), (100 : ℚ)), by simp, by norm_num [edge_top]⟩

/-! ### the per-point look-up as coded before the repair (class of the first point for all points)

The hypothesis `hprop` (proportional loads) of the partial statement is what is missing for the property; the clauses of the property
that fail for this code are "any load above the initialised maximum raises an error" and "with the upper edge of the load's class". -/

/-- **(pre-repair code) per-point look-up with proportional loads = the single look-ups.**  Points with maxima `M_j = c_j · M₀ > 0` and
loads `x_j = c_j · x₀` (`c_j > 0`: the same load history scaled per point; `M₀`, `x₀` belong to the first point): the
class selected with the first point is the class every point would select alone, so the per-point result is the
list of the single-table results - and it is an error exactly when the single look-up of a point is an error.
For loads that are not proportional the statement is false, see the refutation below. -/
theorem binned_multi_first_point_eq_single_partial {n : ℕ} (hn : 0 < n) {M0 : α} (hM : 0 < M0) {m : ℕ} (hm : 1 ≤ m) (law : α → α)
    (maxLs xs : List α) (x0 : α) (hM0 : maxLs.head? = some M0) (hx0 : xs.head? = some x0)
    (hlen : maxLs.length = xs.length)
    (hprop : ∀ p ∈ maxLs.zip xs, ∃ c, 0 < c ∧ p.1 = c * M0 ∧ p.2 = c * x0) :
    lookupMultiFirst (tableMulti n maxLs m law) xs = (maxLs.zip xs).mapM (fun p => binned n p.1 m law p.2) := by
  obtain ⟨Ms, rfl⟩ := List.head?_eq_some_iff.mp hM0
  obtain ⟨xs', rfl⟩ := List.head?_eq_some_iff.mp hx0
  -- every point selects the class of the first point
  have hsingle : ∀ p ∈ (M0 :: Ms).zip (x0 :: xs'), binned n p.1 m law p.2
      = (classOf n M0 m |x0|).map fun k => signM p.2 * law (edge n p.1 (k + 1)) := fun p hp => by
    obtain ⟨c, hc, h1, h2⟩ := hprop p hp
    rw [binned_eq_classOf, h1, h2, abs_mul, abs_of_pos hc, classOf_scale hc]
  have htbl : (tableMulti n (M0 :: Ms) m law).map (fun r => (r.1.headD 0, r.2))
      = (List.range m).map fun k => (edge n M0 (k + 1), (M0 :: Ms).map fun M => law (edge n M (k + 1))) := by
    simp [tableMulti]
  rw [lookupMultiFirst, htbl, absM_eq, lookupAbs_map (fun k => edge n M0 (k + 1))]
  change Option.map _ (Option.map _ (classOf n M0 m |x0|)) = _
  cases hk : classOf n M0 m |x0| with
  | none => rw [List.zip_cons_cons, List.mapM_cons, hsingle _ List.mem_cons_self, hk]; rfl
  | some k =>
    rw [mapM_option_eq_some _ (fun p => signM p.2 * law (edge n p.1 (k + 1))) _ (fun p hp => by rw [hsingle p hp, hk]; rfl)]
    exact congrArg some (zipWith_map_eq_map_zip _ _ _ _)

example : lookupMultiFirst (tableMulti 2 [(4 : ℚ), 2, 6] 2 (fun e => 10 * e)) [-1, -1 / 2, -3 / 2]
    = some [-20, -10, -30] := by
  rw [binned_multi_first_point_eq_single_partial (n := 2) (by norm_num) (M0 := (4 : ℚ)) (by norm_num) (m := 2) (by norm_num)
    (fun e => 10 * e) [(4 : ℚ), 2, 6] [-1, -1 / 2, -3 / 2] (-1) rfl rfl rfl]
  · decide +kernel
  · intro p hp
    simp only [List.zip_cons_cons, List.zip_nil_right, List.mem_cons, List.not_mem_nil, or_false] at hp
    rcases hp with rfl | rfl | rfl
    · exact ⟨1, by norm_num, by norm_num, by norm_num⟩
    · exact ⟨1 / 2, by norm_num, by norm_num, by norm_num⟩
    · exact ⟨3 / 2, by norm_num, by norm_num, by norm_num⟩


/-- **Refutation for the pre-repair code**: with the class of the first point for all points there are a table and a
per-point Series such that the look-up returns values although a point's load is above that point's own initialised
maximum (maxima 4 and 2, two classes, loads 1 and 100: the second point is at 50 times its maximum and gets the value
of its class 1). -/
theorem first_point_selection_ignores_range_of_other_points :
    ∃ (n m : ℕ) (maxLs xs : List ℚ) (law : ℚ → ℚ) (r : List ℚ), 0 < n ∧ 1 ≤ m ∧ (∀ M ∈ maxLs, 0 < M) ∧
      xs.length = maxLs.length ∧
      lookupMultiFirst (tableMulti n maxLs m law) xs = some r ∧
      (∃ p ∈ maxLs.zip xs, edge n p.1 m < |p.2|) ∧
      lookupMulti maxLs.length (tableMulti n maxLs m law) xs = none := by
  refine ⟨2, 2, [4, 2], [1, 100], fun e => 10 * e, [20, 10], by norm_num, by norm_num, by simp, rfl,
    by decide +kernel, ⟨((2 : ℚ), (100 : ℚ)), by simp, by norm_num [edge_top]⟩, by decide +kernel⟩

/-- the same for a load inside its range: the pre-repair look-up gives point 2 the value of the wrong class
(loads 3 and 1/2: point 2 gets class 2 of its grid, its own class is 1) -/
theorem first_point_selection_wrong_class :
    lookupMultiFirst (tableMulti 2 [(4 : ℚ), 2] 2 (fun e => 10 * e)) [3, 1 / 2] = some [40, 20] ∧
    lookupMulti 2 (tableMulti 2 [(4 : ℚ), 2] 2 (fun e => 10 * e)) [3, 1 / 2] = some [40, 10] ∧
    binned 2 (2 : ℚ) 2 (fun e => 10 * e) (1 / 2) = some 10 := by
  refine ⟨by decide +kernel, by decide +kernel, by decide +kernel⟩

end PylifeVerif.C07
