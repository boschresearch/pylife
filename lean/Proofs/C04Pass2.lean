/-
C04: the hystereses recorded by the second pass of the FKM-nonlinear HCM detector are exactly the
closed cycles of the endlessly repeated load sequence (`Spec.periodicRainflow`), each once – for
every notch approximation law.

The chain: the recorded load ranges are those of a load-only machine run on the fed turning points
(`pass2Ranges_feed`, on top of `Insert.passes_one`).  Pass 2 is fed one period of the cyclic reversal
word (`fed2_rot`, `cyclicReversals_trimI`), and both passes end alike behind the first value `M` of largest
absolute value of pass 1 (`fed_tail`).  Behind `M` the machine is the rooted machine above `M`
(`aRun_rooted`), which performs four-point steps and forgets its past at every recurrence of `M`; so
pass 2 emits the count of the closed window `M … M` once round the cycle (`window_shift`, `abs_main`).
Closing the cyclic word at any element of largest absolute value gives the count of `prf` (`prf_closed`).
-/
import Proofs.Lemmas.HCMPass2Sim
import Proofs.Lemmas.HCMPass2Fed
import Proofs.Lemmas.HCMPasses

namespace PylifeVerif.C04
open PylifeVerif.Rainflow PylifeVerif.HCM PylifeVerif.HCM.Spec PylifeVerif.HCM.Insert

/-- `pass2Ranges` reads the records only, which `Insert.core` keeps -/
theorem pass2Ranges_core (st : State) : pass2Ranges (core st) = pass2Ranges st := rfl

theorem pass2_const (law : Law) (a : Int) (B : List Int) (h : ∀ x ∈ B, x = a) :
    pass2Ranges (twoPassR law (one (a :: B))) = [] ∧ Spec.periodicRainflow (a :: B) = [] := by
  have hd : dedup (a :: B) = [a] := by
    have := dedup_cons_find a B
    rwa [List.find?_eq_none.2 fun x hx => by simpa using h x hx] at this
  constructor
  · rw [(twoPass_one_eq law _ (List.cons_ne_nil a B)).1]
    unfold pass2Ranges
    rw [passes_const law flushI _ a (List.cons_ne_nil a B) (by simpa using h)]
    rfl
  · rw [periodicRainflow_eq, cyclicReversals_of_short _ (by rw [cdedup_eq, hd]; exact Nat.lt_succ_self 1),
      cdedup_eq, hd]
    rfl

/-- The hystereses of the second pass are the closed cycles of the endlessly repeated sequence, each once, for
every sequence: the empty and the constant ones have none of either. -/
theorem pass2_perm_periodicRainflow (law : Law) (s : List Int) :
    (pass2Ranges (twoPassR law (one s))).Perm (Spec.periodicRainflow s) := by
  by_cases h2 : TwoDistinct s
  swap
  · cases s with
    | nil => exact List.Perm.refl []
    | cons a B =>
      obtain ⟨e1, e2⟩ := pass2_const law a B fun x hx => Classical.not_not.1 fun hne =>
        h2 ⟨x, List.mem_cons_of_mem _ hx, a, List.mem_cons_self, hne⟩
      rw [e1, e2]
  obtain ⟨t0, p, z, ht, hp, hr⟩ := trimI_end s h2
  -- projection to the load-only machine on the fed values
  have h1 : pass2Ranges (twoPassR law (one s)) =
      (aRun (aRun aInit (ext3 (dedup (0 :: trimI s)) ++ [z])).2 (ext3 (dedup (z :: trimI s)) ++ [z])).1 := by
    have hs : s ≠ [] := by obtain ⟨a, ha, -⟩ := h2; exact List.ne_nil_of_mem ha
    rw [(twoPass_one_eq law s hs).1, ← pass2Ranges_core, passes_one law flushI s hs, flushI_trimI s h2, fedG_flush _ t0 z ht, pass2Ranges_feed]
  -- `M`: the first value of largest absolute value fed to pass 1
  obtain ⟨q0, M, r0, f1, f2, fM⟩ := first_max (ext3 (dedup (0 :: trimI s)) ++ [z]) (by simp)
  have hbt := sample_le_fed ht fM
  obtain ⟨f5, f6⟩ := fed_bound ht hp hr hbt
  obtain ⟨q1, q2, r, f3, f4⟩ := fed_tail ht hbt (by rw [f1]; simp)
  have hzig := fed_zig ht hp hr
  have h3 := abs_main _ _ q0 r0 q1 q2 r M f1 f2 f3 f4 hzig f5 f6
  -- the window is a closed rotation of the cyclic reversal word
  have hzw : Zig (M :: (r ++ q2 ++ [M])) := by
    apply zig_infix q1 _ r
    rw [f3, f4] at hzig
    simpa using hzig
  have hrot : cyclicReversals s ~r (M :: (r ++ q2)) := by
    have a3 : (M :: (r ++ q2)) ~r (ext3 (dedup (z :: trimI s)) ++ [z]) := by
      rw [f4]
      have := List.isRotated_append (l := M :: r) (l' := q2)
      simpa using this
    exact ((a3.trans (fed2_rot ht hp hr)).trans (cyclicReversals_trimI s h2)).symm
  have hlenW : 2 ≤ (cyclicReversals s).length := by
    rw [hrot.perm.length_eq]
    cases hrq : r ++ q2 with
    | nil =>
      rw [hrq] at hzw
      exact absurd rfl (zig_ne M M [] hzw)
    | cons a l => simp
  have hbW : ∀ x ∈ cyclicReversals s, x.natAbs ≤ M.natAbs := by
    intro x hx
    have hx' : x ∈ (M :: r) ++ q2 := hrot.mem_iff.1 hx
    apply f5
    apply List.mem_append_right
    rw [f4]
    exact List.mem_append.2 (List.mem_append.1 hx').symm
  rw [h1, periodicRainflow_eq]
  exact h3.trans (prf_closed hlenW (cyclicReversals_zig s hlenW) hrot hbW)

set_option linter.unusedVariables false in
/-- The hystereses of the second pass are exactly the closed cycles of the endlessly repeated
sequence, each once.  (`h2` is not used.) -/
theorem pass2_eq_periodicRainflow (law : Law) (s : List Int) (h2 : TwoDistinct s) :
    (pass2Ranges (twoPassR law (one s))).Perm (Spec.periodicRainflow s) :=
  pass2_perm_periodicRainflow law s

/-! Non-vacuity: a sequence with a tie of the largest absolute value of opposite sign, a plateau and
a trailing non-reversal; and the sequence on which the code differs (`[5, 2, 4, 1]`; scaled by 100 it is the witness of
`pass2_eq_periodicRainflow_fails_at_witness`). -/
example : (pass2Ranges (twoPassR lawSat (one [0, 3, 1, 2, 2, -3, 1, 3, -1, -1, 0]))).Perm
    (Spec.periodicRainflow [0, 3, 1, 2, 2, -3, 1, 3, -1, -1, 0]) :=
  pass2_eq_periodicRainflow lawSat _ ⟨0, by simp, 3, by simp, by decide⟩

example : (pass2Ranges (twoPassR lawLinear (one [5, 2, 4, 1]))).Perm
    (Spec.periodicRainflow [5, 2, 4, 1]) :=
  pass2_eq_periodicRainflow lawLinear _ ⟨5, by simp, 2, by simp, by decide⟩

/-! Non-vacuity of `window` (`HCMPass2.lean`): the closed window `5 2 4 1 5` (tie-free) and a window with a
recurrence of the base value and a value of opposite sign and equal absolute value. -/
example : mRun 5 [] [2, 4, 1, 5] = ([(2, 4), (1, 5)], []) := by decide
example : (outOf (5 :: [2, 4, 1, 5])).Perm (mRun 5 [] [2, 4, 1, 5]).1 :=
  (window 5 [2, 4, 1, 5] (by decide) (by decide) (by decide)).2
example : (outOf (5 :: [1, 5, -5, 5])).Perm (mRun 5 [] [1, 5, -5, 5]).1 :=
  (window 5 [1, 5, -5, 5] (by decide) (by decide) (by decide)).2

#print axioms pass2_eq_periodicRainflow
#print axioms window
#print axioms abs_main
#print axioms pass2Ranges_feed
#print axioms trimI_end
#print axioms cyclicReversals_trimI

end PylifeVerif.C04
