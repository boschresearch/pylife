/-
C12 — mean stress transformation, general gap-free Haigh diagrams (five-segment diagram included).

For an arbitrary segment list `Proofs/C12.lean` has conservation of the potential, path independence and the fixed target only
under hypotheses: an iso-damage potential exists (`Compat`) and the runs arrive at the target R.  Both hold
(`stdDiagram_has_potential`, `transform_arrives`) for every diagram in STANDARD FORM (`Meanstress.diagram Minf M0 r1 bs Mn`,
`Proofs/Lemmas/MeanstressPotential.lean`):

    (1, ∞] ↦ Minf,  (-∞, r₁] ↦ M0,  (r₁, r₂] ↦ M₁, …, (r_n, 1] ↦ M_n      with  r₁ < r₂ < … < r_n < 1   (`SortedR`)

i.e. gap-free, exactly one segment beyond R = 1 (see the finding `split-beyond-R1` for why), at least one border
below 1 (n ≥ 1, at least three segments).  `HaighDiagram.fkm_goodman` is `diagram 0 M 0 [] M2`,
`HaighDiagram.five_segment` is `diagram M4 M0 0 [(M1, R12), (M2, R23)] M3`.  `StdDiagram` takes every PERMUTATION of such a
list: the sort keys fix the processing order of the left and the right phase, and the last phase only needs one segment that fires.

Arrival needs no condition on the slopes; the potential `hD` needs the diagram non-degenerate (`GoodD`: at each kink both adjacent
iso-damage lines have positive amplitude; implied by `Minf < 1`, `0 ≤ M_i < 1`).  Everything else holds under the same positivity
guard `TransformGuard` as for FKM-Goodman and is a theorem of `Proofs/Lemmas/MeanstressGuardGeneral.lean` about any diagram with a
good potential whose runs fire, which every permutation of a standard form is (`StdDiagram.pot`).

Not covered: the two-segment diagram `{(1,∞], (-∞,1]}` (no border below 1); diagrams with several segments beyond
R = 1 (finding `split-beyond-R1`: the code does not follow the iso-damage lines there).
-/
import Proofs.C12

namespace PylifeVerif.C12
open PylifeVerif.Meanstress ExtR

section Std
variable (Minf M0 r1 : ℝ) (bs : List (ℝ × ℝ)) (Mn : ℝ)

/-- The explicit continuous piecewise potential `hD` is an iso-damage potential of the diagram for every admissible
target (with a positive factor on every segment); on the outermost segments it is `(1-M0)/(1-Minf)·(1 + Minf·x)` resp.
`1 + M0·x`, which meet in `1 - M0` at R = ±∞ (`x = -1`). -/
theorem diagram_has_potential (hs : SortedR r1 bs) (hgood : GoodD Minf M0 r1 bs Mn) :
    (∀ g, ValidR g → CompatPos (hD Minf M0 r1 bs Mn) (diagram Minf M0 r1 bs Mn) g) ∧
    (∀ g, ValidR g → Compat (hD Minf M0 r1 bs Mn) (diagram Minf M0 r1 bs Mn) g) ∧
    hD Minf M0 r1 bs Mn (-1) = 1 - M0 ∧
    (∀ x, x ≤ -1 → hD Minf M0 r1 bs Mn x = (1 - M0) / (1 - Minf) * (1 + Minf * x)) ∧
    (∀ x, -1 ≤ x → x ≤ px r1 → hD Minf M0 r1 bs Mn x = 1 + M0 * x) ∧
    Continuous (hD Minf M0 r1 bs Mn) := by
  have h1 := sortedR_lt1 hs
  refine ⟨fun g hg => (diagram_goodPot hs hgood).compatPos hg,
    fun g hg => ((diagram_goodPot hs hgood).compatPos hg).compat, ?_, fun x hx => hD_inf hx,
    fun x hx1 hx2 => hD_0 hgood.1 hx1 hx2,
    hD_continuous hs hgood⟩
  rw [hD_0 hgood.1 (le_refl _) (px_gt_m1 h1).le]; ring

end Std

/-- Gap-free diagram with exactly one segment beyond R = 1, namely `(1, ∞]`, at least one border below 1,
non-degenerate (`GoodD`); the segments may be listed in ANY order (`from_dict` accepts every rotation of the
standard order). -/
def StdDiagram (D : List (Seg ℝ)) : Prop :=
  ∃ Minf M0 r1 bs Mn, D.Perm (diagram Minf M0 r1 bs Mn) ∧ SortedR r1 bs ∧ GoodD Minf M0 r1 bs Mn

/-- What the theorems below use of such a diagram: it has a good potential (`hD`), which is continuous and whose cycle potential
`a·h(m/a)` is monotone and Lipschitz in `a`, and its runs fire. -/
theorem StdDiagram.pot {D : List (Seg ℝ)} (hS : StdDiagram D) :
    ∃ h : ℝ → ℝ, GoodPot h D ∧ Fires D ∧ Continuous h ∧ ∃ L, 0 ≤ L ∧ PerspMono h L := by
  obtain ⟨Minf, M0, r1, bs, Mn, hp, hs, hgood⟩ := hS
  exact ⟨hD Minf M0 r1 bs Mn, fun s hsD => diagram_goodPot hs hgood s (hp.subset hsD), diagram_fires hs hp,
    hD_continuous hs hgood, hD_persp hs hgood⟩

/-- Arrival for every such diagram. -/
theorem transform_arrives (D : List (Seg ℝ)) (hD : StdDiagram D) (g : ExtR ℝ) (c : Cyc ℝ) (hg : ValidR g)
    (hR : ValidR c.R) : (transform D g c).R = g := by
  obtain ⟨Minf, M0, r1, bs, Mn, hp, hs, _⟩ := hD
  exact (diagram_fires hs hp).arrives c hg hR

/-- Every such diagram has a continuous iso-damage potential (the hypothesis `Compat` of
`transform_conserves_potential`, `transform_path_independent_partial`, `transform_fixes_target_partial`). -/
theorem stdDiagram_has_potential (D : List (Seg ℝ)) (hD : StdDiagram D) :
    ∃ h : ℝ → ℝ, Continuous h ∧ ∀ g, ValidR g → Compat h D g := by
  obtain ⟨h, hT, _, hcont, _⟩ := hD.pot
  exact ⟨h, hcont, fun g hg => (hT.compatPos hg).compat⟩

/-- Every such diagram has an iso-damage potential `h` (positive factor on each segment), and under the guard the
transformed amplitude is `a·h(m/a) / h(x_target)`. -/
theorem transform_amp_of_potential (D : List (Seg ℝ)) (hD : StdDiagram D) :
    ∃ h : ℝ → ℝ, ∀ g c, ValidR g → ValidR c.R → TransformGuard D g c →
      0 < h (pos g) ∧ 0 < h (pos c.R) ∧ (transform D g c).amp = c.amp * h (pos c.R) / h (pos g) := by
  obtain ⟨h, hT, hF, _⟩ := hD.pot
  refine ⟨h, fun g c hg hR hG => ?_⟩
  obtain ⟨p, q⟩ := (transformGuard_iff_of_goodPot hT hF hg hR).1 hG
  exact ⟨q, p, transform_amp_of_goodPot hT hF hg hR hG⟩

/-- A cycle that already is at the target R is unchanged; the guard, which `goodman_fixes_target_R` has from `goodman_guard`, is a
hypothesis here. -/
theorem transform_fixes_target (D : List (Seg ℝ)) (hD : StdDiagram D) (c : Cyc ℝ) (hR : ValidR c.R)
    (hG' : TransformGuard D c.R c) : transform D c.R c = c := by
  obtain ⟨h, hT, hF, _⟩ := hD.pot
  exact transform_fixes_of_goodPot hT hF hR hG'

/-- Transforming twice to the same R changes nothing, under the guard of the second move (`C12.diagram_idempotent'` in
`Proofs/C12Guard.lean` has it under the guard of the first). -/
theorem transform_idempotent (D : List (Seg ℝ)) (hD : StdDiagram D) (g : ExtR ℝ) (c : Cyc ℝ)
    (hg : ValidR g) (hR : ValidR c.R) (hG2 : TransformGuard D g (transform D g c)) :
    transform D g (transform D g c) = transform D g c := by
  have hr := transform_arrives D hD g c hg hR
  have := transform_fixes_target D hD (transform D g c) (by rw [hr]; exact hg) (by rw [hr]; exact hG2)
  rw [hr] at this; exact this

/-- Path independence: to `g₁` and then to `g₂` equals to `g₂` directly, under the guards of the three moves; that of the second
move follows from the other two (`transform_path_independent'` in `Proofs/C12Guard.lean`). -/
theorem transform_path_independent (D : List (Seg ℝ)) (hD : StdDiagram D) (g₁ g₂ : ExtR ℝ) (c : Cyc ℝ)
    (hg1 : ValidR g₁) (hg2 : ValidR g₂) (hR : ValidR c.R)
    (hGa : TransformGuard D g₁ c) (hGb : TransformGuard D g₂ (transform D g₁ c)) (hGc : TransformGuard D g₂ c) :
    transform D g₂ (transform D g₁ c) = transform D g₂ c := by
  obtain ⟨h, hT, hF, _⟩ := hD.pot
  exact transform_path_of_goodPot hT hF hg1 hg2 hR hGa hGc

/-- At a fixed mean stress the transformed amplitude is non-decreasing and Lipschitz in the amplitude (hence continuous), for
every diagram in standard form, in any listing order; the constant depends on the diagram and the target only. -/
theorem transform_monotone_continuous_fixed_mean_std (D : List (Seg ℝ)) (hD : StdDiagram D) (g : ExtR ℝ) (hg : ValidR g) :
    ∃ L, 0 ≤ L ∧ ∀ c₁ c₂ : Cyc ℝ, ValidR c₁.R → ValidR c₂.R → 0 < c₁.amp → c₁.amp ≤ c₂.amp →
      c₁.amp * pos c₁.R = c₂.amp * pos c₂.R → TransformGuard D g c₁ → TransformGuard D g c₂ →
      (transform D g c₁).amp ≤ (transform D g c₂).amp ∧
      (transform D g c₂).amp - (transform D g c₁).amp ≤ L * (c₂.amp - c₁.amp) := by
  obtain ⟨h, hT, hF, _, L0, hL0, H⟩ := hD.pot
  exact transform_fixed_mean_of_goodPot hT hF hL0 H hg

section Mono
variable (Minf M0 r1 : ℝ) (bs : List (ℝ × ℝ)) (Mn : ℝ)

/-- On a fixed ray the result is linear in the amplitude with a positive factor. -/
theorem transform_monotone_in_amplitude_fixed_R (hs : SortedR r1 bs) (hgood : GoodD Minf M0 r1 bs Mn)
    (g R : ExtR ℝ) (a₁ a₂ : ℝ) (hg : ValidR g) (hR : ValidR R) (h12 : a₁ ≤ a₂)
    (hGa : TransformGuard (diagram Minf M0 r1 bs Mn) g ⟨a₁, R⟩)
    (hGb : TransformGuard (diagram Minf M0 r1 bs Mn) g ⟨a₂, R⟩) :
    (transform (diagram Minf M0 r1 bs Mn) g ⟨a₁, R⟩).amp ≤ (transform (diagram Minf M0 r1 bs Mn) g ⟨a₂, R⟩).amp ∧
    (transform (diagram Minf M0 r1 bs Mn) g ⟨a₂, R⟩).amp - (transform (diagram Minf M0 r1 bs Mn) g ⟨a₁, R⟩).amp
      = (a₂ - a₁) * (hD Minf M0 r1 bs Mn (pos R) / hD Minf M0 r1 bs Mn (pos g)) :=
  transform_ray_of_goodPot (diagram_goodPot hs hgood) (diagram_fires hs (.refl _)) hg hR h12 hGa

end Mono

section Five
variable (M0 M1 M2 M3 M4 R12 R23 : ℝ)

/-- Admissible five-segment parameters: `0 < R12 < R23 < 1`, and at each kink of the Haigh line (R = ±∞, 0, R12, R23,
i.e. `x = -1, 1, px R12, px R23`) both adjacent iso-damage lines have positive amplitude. -/
def FiveSegOK : Prop :=
  0 < R12 ∧ R12 < R23 ∧ R23 < 1 ∧ M4 < 1 ∧ M0 < 1 ∧ 0 < 1 + M0 ∧ 0 < 1 + M1 ∧ 0 < 1 + M1 * px R12 ∧
    0 < 1 + M2 * px R12 ∧ 0 < 1 + M2 * px R23 ∧ 0 < 1 + M3 * px R23

/-- The usual parameter range is admissible: `M4 < 1`, `0 ≤ M0 < 1`, `0 ≤ M1, M2, M3`. -/
theorem fiveSegOK_of_slopes (hR1 : 0 < R12) (hR2 : R12 < R23) (hR3 : R23 < 1) (h4 : M4 < 1) (h0 : 0 ≤ M0) (h0' : M0 < 1)
    (h1 : 0 ≤ M1) (h2 : 0 ≤ M2) (h3 : 0 ≤ M3) : FiveSegOK M0 M1 M2 M3 M4 R12 R23 := by
  have p1 : 1 ≤ px R12 := one_le_px hR1.le (by linarith)
  have p2 : 1 ≤ px R23 := one_le_px (by linarith) hR3
  have lin : ∀ {M x : ℝ}, 0 ≤ M → 1 ≤ x → 0 < 1 + M * x := fun hM hx => by
    have := mul_nonneg hM (zero_le_one.trans hx); linarith
  exact ⟨hR1, hR2, hR3, h4, h0', by linarith, by linarith, lin h1 p1, lin h2 p1, lin h2 p2, lin h3 p2⟩

variable {M0 M1 M2 M3 M4 R12 R23}

theorem FiveSegOK.sorted (h : FiveSegOK M0 M1 M2 M3 M4 R12 R23) : SortedR 0 [(M1, R12), (M2, R23)] :=
  ⟨h.1, h.2.1, h.2.2.1⟩

theorem FiveSegOK.good (h : FiveSegOK M0 M1 M2 M3 M4 R12 R23) : GoodD M4 M0 0 [(M1, R12), (M2, R23)] M3 := by
  obtain ⟨_, _, _, a4, a0, b0, b1, c1, c2, d2, d3⟩ := h
  simp only [GoodD, GoodC, px0, mul_one]
  exact ⟨a4, a0, b0, b1, c1, c2, d2, d3⟩

theorem FiveSegOK.std (h : FiveSegOK M0 M1 M2 M3 M4 R12 R23) : StdDiagram (fiveSegment M0 M1 M2 M3 M4 R12 R23) :=
  ⟨M4, M0, 0, [(M1, R12), (M2, R23)], M3, by rw [fiveSegment_diagram], h.sorted, h.good⟩

variable (M0 M1 M2 M3 M4 R12 R23)

/-- The iso-damage potential of the five-segment diagram (normalised to 1 at R = -1). -/
noncomputable def h5 (x : ℝ) : ℝ := hD M4 M0 0 [(M1, R12), (M2, R23)] M3 x

/-- … written out: continuous, on each segment `k_i·(1 + M_i·x)`; kinks at `x = -1` (R = ±∞), `1` (R = 0),
`px R12`, `px R23`. -/
theorem h5_explicit (x : ℝ) : h5 M0 M1 M2 M3 M4 R12 R23 x =
    if x ≤ -1 then (1 - M0) * (1 + M4 * x) / (1 - M4)
    else if x ≤ 1 then 1 + M0 * x
    else if x ≤ px R12 then (1 + M0) * (1 + M1 * x) / (1 + M1)
    else if x ≤ px R23 then (1 + M0) * (1 + M1 * px R12) / (1 + M1) * (1 + M2 * x) / (1 + M2 * px R12)
    else (1 + M0) * (1 + M1 * px R12) / (1 + M1) * (1 + M2 * px R23) / (1 + M2 * px R12) * (1 + M3 * x)
      / (1 + M3 * px R23) := by
  simp only [h5, hD, hC, px0, mul_one]

theorem h5_continuous {M0 M1 M2 M3 M4 R12 R23 : ℝ} (h : FiveSegOK M0 M1 M2 M3 M4 R12 R23) :
    Continuous (h5 M0 M1 M2 M3 M4 R12 R23) :=
  hD_continuous h.sorted h.good

/-- Arrival for the five-segment diagram: no condition on the slopes. -/
theorem fiveSegment_arrives_at_target (hR1 : 0 < R12) (hR2 : R12 < R23) (hR3 : R23 < 1) (g : ExtR ℝ) (c : Cyc ℝ)
    (hg : ValidR g) (hR : ValidR c.R) : (transform (fiveSegment M0 M1 M2 M3 M4 R12 R23) g c).R = g := by
  rw [fiveSegment_diagram]
  exact (diagram_fires (by exact ⟨hR1, hR2, hR3⟩) (.refl _)).arrives c hg hR

variable {M0 M1 M2 M3 M4 R12 R23}

/-- `h5` is an iso-damage potential of the five-segment diagram for every admissible target. -/
theorem fiveSegment_compat (h : FiveSegOK M0 M1 M2 M3 M4 R12 R23) (g : ExtR ℝ) (hg : ValidR g) :
    Compat (h5 M0 M1 M2 M3 M4 R12 R23) (fiveSegment M0 M1 M2 M3 M4 R12 R23) g := by
  rw [fiveSegment_diagram]
  exact ((diagram_goodPot h.sorted h.good).compatPos hg).compat

/-- The transformed amplitude: `a' = a·h5(m/a) / h5(x_target)`. -/
theorem fiveSegment_amp (h : FiveSegOK M0 M1 M2 M3 M4 R12 R23) (g : ExtR ℝ) (c : Cyc ℝ) (hg : ValidR g) (hR : ValidR c.R)
    (hG : TransformGuard (fiveSegment M0 M1 M2 M3 M4 R12 R23) g c) :
    (transform (fiveSegment M0 M1 M2 M3 M4 R12 R23) g c).amp
      = c.amp * h5 M0 M1 M2 M3 M4 R12 R23 (pos c.R) / h5 M0 M1 M2 M3 M4 R12 R23 (pos g) := by
  rw [fiveSegment_diagram] at hG ⊢
  exact transform_amp_of_goodPot (diagram_goodPot h.sorted h.good) (diagram_fires h.sorted (.refl _)) hg hR hG

theorem fiveSegment_fixes_target_R (h : FiveSegOK M0 M1 M2 M3 M4 R12 R23) (c : Cyc ℝ) (hR : ValidR c.R)
    (hG' : TransformGuard (fiveSegment M0 M1 M2 M3 M4 R12 R23) c.R c) :
    transform (fiveSegment M0 M1 M2 M3 M4 R12 R23) c.R c = c :=
  transform_fixes_target _ h.std c hR hG'

theorem fiveSegment_idempotent (h : FiveSegOK M0 M1 M2 M3 M4 R12 R23) (g : ExtR ℝ) (c : Cyc ℝ)
    (hg : ValidR g) (hR : ValidR c.R)
    (hG2 : TransformGuard (fiveSegment M0 M1 M2 M3 M4 R12 R23) g (transform (fiveSegment M0 M1 M2 M3 M4 R12 R23) g c)) :
    transform (fiveSegment M0 M1 M2 M3 M4 R12 R23) g (transform (fiveSegment M0 M1 M2 M3 M4 R12 R23) g c)
      = transform (fiveSegment M0 M1 M2 M3 M4 R12 R23) g c :=
  transform_idempotent _ h.std g c hg hR hG2

theorem fiveSegment_path_independent (h : FiveSegOK M0 M1 M2 M3 M4 R12 R23) (g₁ g₂ : ExtR ℝ) (c : Cyc ℝ)
    (hg1 : ValidR g₁) (hg2 : ValidR g₂) (hR : ValidR c.R)
    (hGa : TransformGuard (fiveSegment M0 M1 M2 M3 M4 R12 R23) g₁ c)
    (hGb : TransformGuard (fiveSegment M0 M1 M2 M3 M4 R12 R23) g₂ (transform (fiveSegment M0 M1 M2 M3 M4 R12 R23) g₁ c))
    (hGc : TransformGuard (fiveSegment M0 M1 M2 M3 M4 R12 R23) g₂ c) :
    transform (fiveSegment M0 M1 M2 M3 M4 R12 R23) g₂ (transform (fiveSegment M0 M1 M2 M3 M4 R12 R23) g₁ c)
      = transform (fiveSegment M0 M1 M2 M3 M4 R12 R23) g₂ c :=
  transform_path_independent _ h.std g₁ g₂ c hg1 hg2 hR hGa hGb hGc

/-- At a fixed mean stress the five-segment result is non-decreasing and Lipschitz (hence continuous) in the amplitude. -/
theorem fiveSegment_monotone_continuous_fixed_mean (h : FiveSegOK M0 M1 M2 M3 M4 R12 R23) (g : ExtR ℝ) (hg : ValidR g) :
    ∃ L, 0 ≤ L ∧ ∀ c₁ c₂ : Cyc ℝ, ValidR c₁.R → ValidR c₂.R → 0 < c₁.amp → c₁.amp ≤ c₂.amp →
      c₁.amp * pos c₁.R = c₂.amp * pos c₂.R →
      TransformGuard (fiveSegment M0 M1 M2 M3 M4 R12 R23) g c₁ → TransformGuard (fiveSegment M0 M1 M2 M3 M4 R12 R23) g c₂ →
      (transform (fiveSegment M0 M1 M2 M3 M4 R12 R23) g c₁).amp ≤ (transform (fiveSegment M0 M1 M2 M3 M4 R12 R23) g c₂).amp ∧
      (transform (fiveSegment M0 M1 M2 M3 M4 R12 R23) g c₂).amp - (transform (fiveSegment M0 M1 M2 M3 M4 R12 R23) g c₁).amp
        ≤ L * (c₂.amp - c₁.amp) :=
  transform_monotone_continuous_fixed_mean_std _ h.std g hg

/-- The potential of a cycle `a·h5(m/a)` is non-decreasing and Lipschitz in `a > 0` at every fixed mean stress `m`. -/
theorem h5_monotone_continuous_in_amplitude (h : FiveSegOK M0 M1 M2 M3 M4 R12 R23) :
    ∃ L, 0 ≤ L ∧ ∀ m a₁ a₂ : ℝ, 0 < a₁ → a₁ ≤ a₂ →
      a₁ * h5 M0 M1 M2 M3 M4 R12 R23 (m / a₁) ≤ a₂ * h5 M0 M1 M2 M3 M4 R12 R23 (m / a₂) ∧
      a₂ * h5 M0 M1 M2 M3 M4 R12 R23 (m / a₂) - a₁ * h5 M0 M1 M2 M3 M4 R12 R23 (m / a₁) ≤ L * (a₂ - a₁) :=
  hD_persp h.sorted h.good

/-- On a fixed ray the five-segment result is linear in the amplitude with a positive factor. -/
theorem fiveSegment_monotone_in_amplitude_fixed_R (h : FiveSegOK M0 M1 M2 M3 M4 R12 R23) (g R : ExtR ℝ) (a₁ a₂ : ℝ)
    (hg : ValidR g) (hR : ValidR R) (h12 : a₁ ≤ a₂)
    (hGa : TransformGuard (fiveSegment M0 M1 M2 M3 M4 R12 R23) g ⟨a₁, R⟩)
    (hGb : TransformGuard (fiveSegment M0 M1 M2 M3 M4 R12 R23) g ⟨a₂, R⟩) :
    (transform (fiveSegment M0 M1 M2 M3 M4 R12 R23) g ⟨a₁, R⟩).amp ≤ (transform (fiveSegment M0 M1 M2 M3 M4 R12 R23) g ⟨a₂, R⟩).amp ∧
    (transform (fiveSegment M0 M1 M2 M3 M4 R12 R23) g ⟨a₂, R⟩).amp - (transform (fiveSegment M0 M1 M2 M3 M4 R12 R23) g ⟨a₁, R⟩).amp
      = (a₂ - a₁) * (h5 M0 M1 M2 M3 M4 R12 R23 (pos R) / h5 M0 M1 M2 M3 M4 R12 R23 (pos g)) := by
  rw [fiveSegment_diagram] at hGa hGb ⊢
  exact transform_monotone_in_amplitude_fixed_R M4 M0 0 _ M3 h.sorted h.good g R a₁ a₂ hg hR h12 hGa hGb

end Five

/-! ### Consistency with the FKM-Goodman results of `Proofs/C12.lean` -/

/-- For `fkm_goodman` the general potential is the Goodman potential `hG`. -/
theorem hD_goodman (M M2 : ℝ) (x : ℝ) : hD 0 M 0 [] M2 x = hG M M2 x :=
  congrFun (hD_nil M M2) x

theorem goodman_std (M M2 : ℝ) (h0 : -1 < M2) (h1 : -1 < M) (h2 : M < 1) : StdDiagram (goodman M M2) :=
  ⟨0, M, 0, [], M2, by rw [goodman_diagram], one_pos, goodman_good h0 h1 h2⟩

/-! ### Non-vacuity -/

/-- Parameters `M0 … M4 = 1/2, 1/3, 1/5, 1/10, -2`, `R12 = 1/5`, `R23 = 3/5` (the shape used in pyLife's tests). -/
theorem five_ok : FiveSegOK (1/2) (1/3) (1/5) (1/10) (-2) (1/5) (3/5) :=
  fiveSegOK_of_slopes _ _ _ _ _ _ _ (by norm_num) (by norm_num) (by norm_num) (by norm_num) (by norm_num) (by norm_num)
    (by norm_num) (by norm_num) (by norm_num)

/-- The cycle of amplitude 1 at R = 7/10 (in `(R23, 1]`) and the target R = -1: the run crosses R23, R12 and 0. -/
example : (transform (fiveSegment (1/2) (1/3) (1/5) (1/10) (-2) (1/5) (3/5)) (fin (-1)) (⟨1, fin (7/10)⟩ : Cyc ℝ)).R = fin (-1) :=
  fiveSegment_arrives_at_target _ _ _ _ _ _ _ (by norm_num) (by norm_num) (by norm_num) _ _ (by norm_num [ValidR]) (by norm_num [ValidR])

/-- A `from_dict` diagram with six segments, listed in a rotated order (`(0,1/3], (1/3,2/3], (2/3,1], (1,∞], (-∞,-1/2], (-1/2,0]`). -/
example : StdDiagram [⟨fin 0, fin (1/3), 1/10⟩, ⟨fin (1/3), fin (2/3), 1/20⟩, ⟨fin (2/3), fin 1, 1/50⟩, ⟨fin 1, pinf, 0⟩,
    ⟨ninf, fin (-1/2), 3/10⟩, ⟨fin (-1/2), fin 0, 1/5⟩] :=
  ⟨0, 3/10, -1/2, [(1/5, 0), (1/10, 1/3), (1/20, 2/3)], 1/50, by
    simp only [diagram, chainR, Sinf, S0]
    exact (List.perm_append_comm (l₁ := [_, _, _]) (l₂ := [_, _, _])), by norm_num [SortedR], by norm_num [GoodD, GoodC, px]⟩

example : StdDiagram (diagram 0 (3/10) (-1/2) [(1/5, 0), (1/10, 1/3), (1/20, 2/3)] (1/50)) :=
  ⟨_, _, _, _, _, List.Perm.refl _, by norm_num [SortedR], by norm_num [GoodD, GoodC, px]⟩

end PylifeVerif.C12
