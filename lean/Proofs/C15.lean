/-
C15 — failure probability = analytic load/strength overlap.  Theorems about `Model/FailureProb.lean` at ℝ.

`Φ` (scipy's `norm.cdf`) enters in two ways:
  * abstractly, as any `IsDistFn Φ` (strictly increasing, continuous, values in (0,1)) — enough for the range,
    monotonicity and limit statements;
  * concretely, as `stdNormalCdf x = (gaussianReal 0 1) (Iic x)` (Mathlib's standard Gaussian measure), which
    satisfies `IsDistFn` (`stdNormalCdf_isDistFn`) and for which the overlap integral is evaluated
    (`overlap_integral_eq_closed_form`, from `gaussianReal_conv_gaussianReal`).

Admissible inputs: medians and loads positive (the code takes `log10`), `strength_std > 0`, `load_std ≥ 0` in the
closed form (`> 0` for the integral; `load_std = 0.0` is the deterministic branch of the code: `pf_simple_load` if the
load lies within the limits, else 0 - with the default limits `pf_norm_load_code_zero_scatter`).

What the code COMPUTES (as opposed to the closed form it is supposed to equal) is `pfNormLoadCode` of the model with
`quad := ` the exact interval integral.  Every branch of the model's rule ("default limits and `loc < 0`, or direct integral
above half the load mass of the window → through the complement") returns the window integral
(`pf_norm_load_code_eq_window_integral`); the code's rule picks between the same two expressions on a slightly different
condition (header of `Model/FailureProb.lean`), so the same holds of it.  With the default ±16 the window integral is within
`2 Φ(−16) < 2·10⁻⁵⁵` of the closed form
(`pf_norm_load_code_near_closed_form`).  Because the distance to the closed form is below 2·10⁻⁵⁵ while the property's
failure probabilities are ≥ 10⁻¹², monotonicity and range of the closed form carry over to every pair of code values whose
closed forms differ by more than 4·10⁻⁵⁵.
-/
import Proofs.RealNum
import Proofs.Lemmas.GaussianWindow
import Proofs.Lemmas.GaussianSmooth

namespace PylifeVerif.C15
open PylifeVerif.FailureProb PylifeVerif.GaussianOverlap PylifeVerif.TrapezoidLemmas

/-! ## the closed form: range, monotonicity, vanishing load scatter, the overlap integral -/

/-- What the range / monotonicity / limit theorems assume about the distribution function `Φ`. -/
structure IsDistFn (Φ : ℝ → ℝ) : Prop where
  strictMono : StrictMono Φ
  continuous : Continuous Φ
  pos : ∀ x, 0 < Φ x
  lt_one : ∀ x, Φ x < 1

theorem stdNormalCdf_isDistFn : IsDistFn stdNormalCdf :=
  ⟨stdNormalCdf_strictMono, stdNormalCdf_continuous, fun x => (stdNormalCdf_mem_Ioo x).1,
    fun x => (stdNormalCdf_mem_Ioo x).2⟩

theorem denom_pos {ss : ℝ} (hss : 0 < ss) (ls : ℝ) :
    0 < Real.sqrt (ls * ls + ss * ss) :=
  Real.sqrt_pos.mpr (add_pos_of_nonneg_of_pos (mul_self_nonneg ls) (mul_pos hss hss))

theorem pf_lt_of_log10_sub_lt {Φ : ℝ → ℝ} (hΦ : StrictMono Φ) {ss : ℝ} (hss : 0 < ss) (ls : ℝ) {sm₁ lm₁ sm₂ lm₂ : ℝ}
    (h : (Transc.log10 lm₁ : ℝ) - Transc.log10 sm₁ < Transc.log10 lm₂ - Transc.log10 sm₂) :
    pfNormLoad Φ sm₁ ss lm₁ ls < pfNormLoad Φ sm₂ ss lm₂ ls ∧
    pfSimpleLoad Φ sm₁ ss lm₁ < pfSimpleLoad Φ sm₂ ss lm₂ :=
  ⟨hΦ (div_lt_div_of_pos_right h (denom_pos hss ls)), hΦ (div_lt_div_of_pos_right h hss)⟩

/-- The failure probability lies in [0, 1] (in fact strictly inside) — for the log-normal load and the deterministic
load, for every input. -/
theorem pf_in_unit_interval {Φ : ℝ → ℝ} (hΦ : IsDistFn Φ) (sm ss lm ls : ℝ) :
    (0 < pfNormLoad Φ sm ss lm ls ∧ pfNormLoad Φ sm ss lm ls < 1) ∧
    (0 < pfSimpleLoad Φ sm ss lm ∧ pfSimpleLoad Φ sm ss lm < 1) :=
  ⟨⟨hΦ.pos _, hΦ.lt_one _⟩, ⟨hΦ.pos _, hΦ.lt_one _⟩⟩

example : 0 < pfNormLoad stdNormalCdf 100 0.05 80 0.1 ∧ pfNormLoad stdNormalCdf 100 0.05 80 0.1 < 1 :=
  (pf_in_unit_interval stdNormalCdf_isDistFn 100 0.05 80 0.1).1

/-- Strictly increasing in the load median (log-normal load) and in the load (deterministic load). -/
theorem pf_mono_in_load {Φ : ℝ → ℝ} (hΦ : IsDistFn Φ) {sm ss ls lm₁ lm₂ : ℝ} (hss : 0 < ss)
    (h₁ : 0 < lm₁) (h₁₂ : lm₁ < lm₂) :
    pfNormLoad Φ sm ss lm₁ ls < pfNormLoad Φ sm ss lm₂ ls ∧
    pfSimpleLoad Φ sm ss lm₁ < pfSimpleLoad Φ sm ss lm₂ :=
  pf_lt_of_log10_sub_lt hΦ.strictMono hss ls (sub_lt_sub_right (log10_lt h₁ h₁₂) _)

/-- Strictly decreasing in the strength median. -/
theorem pf_antitone_in_strength {Φ : ℝ → ℝ} (hΦ : IsDistFn Φ) {ss lm ls sm₁ sm₂ : ℝ} (hss : 0 < ss)
    (h₁ : 0 < sm₁) (h₁₂ : sm₁ < sm₂) :
    pfNormLoad Φ sm₂ ss lm ls < pfNormLoad Φ sm₁ ss lm ls ∧
    pfSimpleLoad Φ sm₂ ss lm < pfSimpleLoad Φ sm₁ ss lm :=
  pf_lt_of_log10_sub_lt hΦ.strictMono hss ls (sub_lt_sub_left (log10_lt h₁ h₁₂) _)

example : pfNormLoad stdNormalCdf 100 0.05 80 0.1 < pfNormLoad stdNormalCdf 100 0.05 90 0.1 :=
  (pf_mono_in_load stdNormalCdf_isDistFn (by norm_num) (by norm_num) (by norm_num)).1

example : pfNormLoad stdNormalCdf 120 0.05 80 0.1 < pfNormLoad stdNormalCdf 100 0.05 80 0.1 :=
  (pf_antitone_in_strength stdNormalCdf_isDistFn (by norm_num) (by norm_num) (by norm_num)).1

/-- At `load_std = 0` the closed form IS the deterministic-load value … -/
theorem pf_zero_scatter_eq_simple_load (Φ : ℝ → ℝ) {sm ss lm : ℝ} (hss : 0 < ss) :
    pfNormLoad Φ sm ss lm 0 = pfSimpleLoad Φ sm ss lm := by
  simp only [pfNormLoad, pfSimpleLoad, normCdf, safetyIndex, transc_sqrt, mul_zero, zero_add,
    Real.sqrt_mul_self hss.le]

/-- … and it tends to it as the load scatter vanishes. -/
theorem pf_tends_to_simple_load {Φ : ℝ → ℝ} (hΦ : IsDistFn Φ) {sm ss lm : ℝ} (hss : 0 < ss) :
    Filter.Tendsto (fun ls => pfNormLoad Φ sm ss lm ls) (nhds 0) (nhds (pfSimpleLoad Φ sm ss lm)) := by
  rw [← pf_zero_scatter_eq_simple_load Φ hss]
  have hc : Continuous fun ls : ℝ => pfNormLoad Φ sm ss lm ls := by
    unfold pfNormLoad safetyIndex
    simp only [transc_sqrt]
    refine hΦ.continuous.comp (Continuous.div continuous_const ?_ fun ls => (denom_pos hss ls).ne')
    exact Real.continuous_sqrt.comp (by fun_prop)
  exact hc.tendsto 0

example : Filter.Tendsto (fun ls => pfNormLoad stdNormalCdf 100 0.05 80 ls) (nhds 0)
    (nhds (pfSimpleLoad stdNormalCdf 100 0.05 80)) :=
  pf_tends_to_simple_load stdNormalCdf_isDistFn (by norm_num)

/-- the closed form in the notation of the Gaussian lemmas, `Δ = log10 strength_median − log10 load_median` -/
theorem pfNormLoad_eq (Φ : ℝ → ℝ) (sm ss lm ls : ℝ) :
    pfNormLoad Φ sm ss lm ls = Φ (-(Transc.log10 sm - Transc.log10 lm) / Real.sqrt (ls ^ 2 + ss ^ 2)) := by
  rw [pfNormLoad, safetyIndex, transc_sqrt, neg_sub, pow_two, pow_two]

/-- The overlap integral in the centred load variable `x = log10 load − log10 load_median` — load density (centred at 0,
scale `load_std`) times the strength distribution function (`loc = s_50 − log10 load_median`, `scale = strength_std`) —
taken over the whole line has the closed-form value
`Φ((log10 load_median − log10 strength_median)/√(load_std² + strength_std²))`.  (`pf_norm_load` hands `quad` the same integral
in the standardised variable: `overlap_integral_standardised`.) -/
theorem overlap_integral_eq_closed_form (sm ss lm ls : ℝ) (hss : 0 < ss) (hls : 0 < ls) :
    ∫ x, normPdf ls x * normCdf stdNormalCdf x (Transc.log10 sm - Transc.log10 lm) ss
      = pfNormLoad stdNormalCdf sm ss lm ls := by
  rw [pfNormLoad_eq]
  exact gaussian_overlap_sigma _ ls ss hls hss

example : ∫ x, normPdf 0.1 x * normCdf stdNormalCdf x (Transc.log10 (100:ℝ) - Transc.log10 (80:ℝ)) 0.05
    = pfNormLoad stdNormalCdf 100 0.05 80 0.1 :=
  overlap_integral_eq_closed_form 100 0.05 80 0.1 (by norm_num) (by norm_num)

/-- The same integral in the standardised load variable `t = x / load_std`, the form `pf_norm_load` integrates:
`norm.pdf(t) * norm.cdf(sc * t, loc, scale)`. -/
theorem overlap_integral_standardised (sm ss lm ls : ℝ) (hss : 0 < ss) (hls : 0 < ls) :
    ∫ t, normPdf 1 t * normCdf stdNormalCdf (ls * t) (Transc.log10 sm - Transc.log10 lm) ss
      = pfNormLoad stdNormalCdf sm ss lm ls := by
  rw [pfNormLoad_eq]
  exact gaussian_overlap_standardised _ ss ls hss

example : ∫ t, normPdf 1 t * normCdf stdNormalCdf (0.1 * t) (Transc.log10 (100:ℝ) - Transc.log10 (80:ℝ)) 0.05
    = pfNormLoad stdNormalCdf 100 0.05 80 0.1 :=
  overlap_integral_standardised 100 0.05 80 0.1 (by norm_num) (by norm_num)

/-- The standardised integral, too, tends to the deterministic-load value as the load scatter vanishes (from above:
`overlap_integral_standardised` is stated for `load_std > 0`). -/
theorem overlap_integral_tends_to_simple_load (sm ss lm : ℝ) (hss : 0 < ss) :
    Filter.Tendsto
      (fun ls => ∫ t, normPdf 1 t * normCdf stdNormalCdf (ls * t) (Transc.log10 sm - Transc.log10 lm) ss)
      (nhdsWithin 0 (Set.Ioi 0)) (nhds (pfSimpleLoad stdNormalCdf sm ss lm)) := by
  have h := (pf_tends_to_simple_load stdNormalCdf_isDistFn (sm := sm) (lm := lm) hss).mono_left
    (nhdsWithin_le_nhds (s := Set.Ioi (0:ℝ)))
  refine h.congr' ?_
  filter_upwards [self_mem_nhdsWithin] with ls hls
  exact (overlap_integral_standardised sm ss lm ls hss hls).symm

example : Filter.Tendsto
    (fun ls => ∫ t, normPdf 1 t * normCdf stdNormalCdf (ls * t) (Transc.log10 (100:ℝ) - Transc.log10 (80:ℝ)) 0.05)
    (nhdsWithin 0 (Set.Ioi 0)) (nhds (pfSimpleLoad stdNormalCdf 100 0.05 80)) :=
  overlap_integral_tends_to_simple_load 100 0.05 80 (by norm_num)

/-! ## what the code computes: finite window, complement branch

`pfNormLoadCode` (Model/FailureProb.lean) is `pf_norm_load` with its limits, its branch rule (direct integral, or through
the complement) and the subtraction `load_between_limits − integral(norm.sf)`; `scipy.integrate.quad` is a parameter.  Here it is instantiated with the exact
interval integral (quad's contract), `norm.sf = 1 − Φ`, `norm.pdf = normPdf 1`. -/

/-- `scipy.integrate.quad(f, a, b)[0]` by contract -/
noncomputable def quadExact (f : ℝ → ℝ) (a b : ℝ) : ℝ := ∫ t in a..b, f t

/-- `scipy.stats.norm.sf` -/
noncomputable def stdNormalSf (x : ℝ) : ℝ := 1 - stdNormalCdf x

/-- `pf_norm_load` with exact quadrature -/
noncomputable def pfNormLoadExact (sm ss lm ls : ℝ) (lower upper : Option ℝ) : ℝ :=
  pfNormLoadCode stdNormalCdf stdNormalSf (normPdf 1) quadExact sm ss lm ls lower upper

/-- EVERY branch of the model (direct: integral of pdf · cdf; through the complement - default limits with `loc < 0`, or a
direct value above half the window's load mass -: window mass, itself in either of its two spellings, minus integral of
pdf · sf) gives the integral of load density times strength distribution function over the (standardised) window — for
every input with `load_std > 0`.  The code chooses between the same two expressions (on another condition in narrow
windows: header of `Model/FailureProb.lean`), so whichever it returns is this integral. -/
theorem pf_norm_load_code_eq_window_integral (sm ss lm ls : ℝ) (hls : 0 < ls) (lower upper : Option ℝ) :
    pfNormLoadExact sm ss lm ls lower upper
      = ∫ t in (stdLimit (-16) lm ls lower)..(stdLimit 16 lm ls upper),
          normPdf 1 t * normCdf stdNormalCdf (ls * t) (Transc.log10 sm - Transc.log10 lm) ss := by
  have e2 : (16.0 : ℝ) = 16 := by norm_num
  -- the window mass is `Φ(hi) − Φ(lo)` in either spelling, so `viaComplement = direct` (`window_sf_identity`),
  -- and every branch returns `direct`
  have hmass : ∀ l u : ℝ, (if l > 0 then (1 - stdNormalCdf l) - (1 - stdNormalCdf u)
      else stdNormalCdf u - stdNormalCdf l) = stdNormalCdf u - stdNormalCdf l := fun l u => by
    rw [sub_sub_sub_cancel_left, ite_self]
  simp only [pfNormLoadExact, pfNormLoadCode, quadExact, stdNormalSf, normCdf, e2, lit_zero, if_neg (not_le.mpr hls),
    hmass, window_sf_identity, ite_self]

/-- an input on which model and code go through the complement (default limits, strength median below load median:
`loc < 0`) -/
example : pfNormLoadExact 80 0.05 100 0.1 none none
    = ∫ t in (-16:ℝ)..16, normPdf 1 t * normCdf stdNormalCdf (0.1 * t) (Transc.log10 (80:ℝ) - Transc.log10 (100:ℝ)) 0.05 := by
  exact pf_norm_load_code_eq_window_integral 80 0.05 100 0.1 (by norm_num) none none

/-- Truncation: with limits `l ≤ u` (standardised) the code's value lies below the closed form by at most the load's
probability mass outside the window. -/
theorem pf_norm_load_code_truncation (sm ss lm ls : ℝ) (hss : 0 < ss) (hls : 0 < ls) (lower upper : Option ℝ)
    (hlu : stdLimit (-16) lm ls lower ≤ stdLimit 16 lm ls upper) :
    0 ≤ pfNormLoad stdNormalCdf sm ss lm ls - pfNormLoadExact sm ss lm ls lower upper ∧
    pfNormLoad stdNormalCdf sm ss lm ls - pfNormLoadExact sm ss lm ls lower upper
      ≤ stdNormalCdf (stdLimit (-16) lm ls lower) + stdNormalCdf (-(stdLimit 16 lm ls upper)) := by
  rw [pf_norm_load_code_eq_window_integral _ _ _ _ hls]
  rw [pfNormLoad_eq]
  exact window_truncation _ ss ls _ _ hss hlu

/-- DEFAULT LIMITS (±16 load standard deviations): the value the code computes (exact quadrature) differs from the closed
form `Φ((log10 load_median − log10 strength_median)/√(load_std² + strength_std²))` by at most `2 Φ(−16) < 2·10⁻⁵⁵`
(absolute; the property's failure probabilities are ≥ 10⁻¹²). -/
theorem pf_norm_load_code_near_closed_form (sm ss lm ls : ℝ) (hss : 0 < ss) (hls : 0 < ls) :
    |pfNormLoadExact sm ss lm ls none none - pfNormLoad stdNormalCdf sm ss lm ls| ≤ 2 * stdNormalCdf (-16) ∧
    2 * stdNormalCdf (-16) < 2e-55 := by
  have h := pf_norm_load_code_truncation sm ss lm ls hss hls none none (by simp only [stdLimit]; norm_num)
  simp only [stdLimit] at h
  refine ⟨?_, by linarith [stdNormalCdf_neg16_lt]⟩
  rw [abs_sub_comm, abs_of_nonneg h.1]
  exact h.2.trans_eq (two_mul _).symm

example : |pfNormLoadExact 100 0.05 80 0.1 none none - pfNormLoad stdNormalCdf 100 0.05 80 0.1| < 2e-55 := by
  have h := pf_norm_load_code_near_closed_form 100 0.05 80 0.1 (by norm_num) (by norm_num)
  exact h.1.trans_lt h.2

/-- The value the code computes stays in [0, 1] — this is about the code's own expression including the subtraction
`load_between_limits − integral(norm.sf)` of the complement branch, for every input whose standardised, clipped limits
are in order (`hlu`; the default limits are). -/
theorem pf_norm_load_code_in_unit_interval (sm ss lm ls : ℝ) (hls : 0 < ls) (lower upper : Option ℝ)
    (hlu : stdLimit (-16) lm ls lower ≤ stdLimit 16 lm ls upper) :
    0 ≤ pfNormLoadExact sm ss lm ls lower upper ∧ pfNormLoadExact sm ss lm ls lower upper ≤ 1 := by
  rw [pf_norm_load_code_eq_window_integral _ _ _ _ hls]
  obtain ⟨h0, h1⟩ := window_integral_mem (Transc.log10 sm - Transc.log10 lm) ss ls hlu
  exact ⟨h0, h1.trans ((sub_le_self _ (stdNormalCdf_nonneg _)).trans (stdNormalCdf_le_one _))⟩

example : 0 ≤ pfNormLoadExact 80 0.05 100 0.1 none none ∧ pfNormLoadExact 80 0.05 100 0.1 none none ≤ 1 :=
  pf_norm_load_code_in_unit_interval 80 0.05 100 0.1 (by norm_num) none none (by simp only [stdLimit]; norm_num)

/-- `load_std = 0` (a deterministic load, the code's own branch): with the default limits the code returns
`pf_simple_load`, which is also the value of the closed form there (`pf_zero_scatter_eq_simple_load`). -/
theorem pf_norm_load_code_zero_scatter (sm ss lm : ℝ) (hss : 0 < ss) :
    pfNormLoadExact sm ss lm 0 none none = pfSimpleLoad stdNormalCdf sm ss lm ∧
    pfNormLoadExact sm ss lm 0 none none = pfNormLoad stdNormalCdf sm ss lm 0 := by
  have h : pfNormLoadExact sm ss lm 0 none none = pfSimpleLoad stdNormalCdf sm ss lm := by
    simp [pfNormLoadExact, pfNormLoadCode, withinLimits, lit_zero]
  exact ⟨h, h.trans (pf_zero_scatter_eq_simple_load stdNormalCdf hss).symm⟩

example : pfNormLoadExact 100 0.05 170 0 none none = pfSimpleLoad stdNormalCdf 100 0.05 170 :=
  (pf_norm_load_code_zero_scatter 100 0.05 170 (by norm_num)).1

/-- Vanishing load scatter, for what the code computes (default limits): eventually within `2·10⁻⁵⁵ + ε` of
`pf_simple_load`, for every `ε > 0`. -/
theorem pf_norm_load_code_limit (sm ss lm : ℝ) (hss : 0 < ss) {ε : ℝ} (hε : 0 < ε) :
    ∀ᶠ ls in nhdsWithin 0 (Set.Ioi 0),
      |pfNormLoadExact sm ss lm ls none none - pfSimpleLoad stdNormalCdf sm ss lm| < 2e-55 + ε := by
  have h := (pf_tends_to_simple_load stdNormalCdf_isDistFn (sm := sm) (lm := lm) hss).mono_left
    (nhdsWithin_le_nhds (s := Set.Ioi (0:ℝ)))
  have hev := (Metric.tendsto_nhds.mp h) ε hε
  filter_upwards [hev, self_mem_nhdsWithin] with ls hd hls
  have hc := pf_norm_load_code_near_closed_form sm ss lm ls hss hls
  rw [Real.dist_eq] at hd
  exact (abs_sub_le _ (pfNormLoad stdNormalCdf sm ss lm ls) _).trans_lt (add_lt_add (hc.1.trans_lt hc.2) hd)

example : ∀ᶠ ls in nhdsWithin 0 (Set.Ioi 0),
    |pfNormLoadExact 100 0.05 80 ls none none - pfSimpleLoad stdNormalCdf 100 0.05 80| < 2e-55 + 1e-12 :=
  pf_norm_load_code_limit 100 0.05 80 (by norm_num) (by norm_num)

/-! ## `pf_arbitrary_load`: the trapezoidal rule on sampled densities -/

/-- On sample points `x_k = a + k (b − a)/N` with density values `pdf x_k`, `pf_arbitrary_load` IS the composite
trapezoidal rule (Mathlib's `trapezoidal_integral`) of `pdf · cdf_S`. -/
theorem pf_arbitrary_eq_trapezoidal_rule (Φ pdf : ℝ → ℝ) (sm ss a b : ℝ) {N : ℕ} (hN : 0 < N) :
    pfArbitraryLoad Φ sm ss ((uniformNodes a b N).map fun x => (x, pdf x))
      = trapezoidal_integral (fun x => pdf x * normCdf Φ x (Transc.log10 sm) ss) N a b :=
  (pfArbitraryLoad_map Φ pdf sm ss (fun x => x) _).trans (trapezoid_uniform _ a b hN)

/-- Uniform grids: second-order error bound and convergence of `pf_arbitrary_load` to `∫ₐᵇ pdf · cdf_S` for every integrand
that is C² on `[a, b]` with `|f''| ≤ ζ`.  Partial with respect to the property "on any refinement sequence covering the load
distribution `pf_arbitrary_load → pf_norm_load`": non-uniform sample points are `pf_arbitrary_nonuniform_error_le`, the
Gaussian integrand and its tails `pf_arbitrary_gaussian_converges`; an explicit ζ for the Gaussian integrand (a rate
instead of mere convergence) and floating-point rounding are not treated. -/
theorem pf_arbitrary_converges_partial (Φ pdf : ℝ → ℝ) (sm ss a b : ℝ)
    (hc2 : ContDiffOn ℝ 2 (fun x => pdf x * normCdf Φ x (Transc.log10 sm) ss) (Set.uIcc a b)) {ζ : ℝ}
    (hζ : ∀ x, |iteratedDerivWithin 2 (fun x => pdf x * normCdf Φ x (Transc.log10 sm) ss) (Set.uIcc a b) x| ≤ ζ) :
    (∀ N : ℕ, 0 < N →
      |pfArbitraryLoad Φ sm ss ((uniformNodes a b N).map fun x => (x, pdf x))
        - ∫ x in a..b, pdf x * normCdf Φ x (Transc.log10 sm) ss| ≤ |b - a| ^ 3 * ζ / (12 * N ^ 2)) ∧
    Filter.Tendsto (fun N : ℕ => pfArbitraryLoad Φ sm ss ((uniformNodes a b N).map fun x => (x, pdf x)))
      Filter.atTop (nhds (∫ x in a..b, pdf x * normCdf Φ x (Transc.log10 sm) ss)) := by
  simp only [pfArbitraryLoad_map Φ pdf sm ss (fun x => x)]
  exact ⟨fun _ hN => trapezoid_uniform_error_le _ a b hc2 hζ hN, trapezoid_uniform_tendsto _ a b hc2 hζ⟩

/-- non-vacuity: a constant integrand satisfies the hypotheses (ζ = 0: the rule is exact) -/
example : Filter.Tendsto (fun N : ℕ => pfArbitraryLoad (fun _ => (1:ℝ)/2) 10 1 ((uniformNodes 0 1 N).map fun x => (x, (1:ℝ))))
    Filter.atTop (nhds (∫ x in (0:ℝ)..1, (1:ℝ) * normCdf (fun _ => (1:ℝ)/2) x (Transc.log10 (10:ℝ)) 1)) := by
  refine (pf_arbitrary_converges_partial (fun _ => (1:ℝ)/2) (fun _ => 1) 10 1 0 1 ?_ (ζ := 0) ?_).2
  · simp only [normCdf]; exact contDiffOn_const
  · intro x; simp [normCdf, iteratedDerivWithin_const]

/-- NON-UNIFORM sample points (what the refinement oracle and the upstream test run): for increasing nodes
`x 0 ≤ … ≤ x n` (repeats allowed) with steps `≤ δ`, and an integrand `pdf · cdf_S` that is C² with `|f''| ≤ ζ` on
`[x 0, x n]`, `pf_arbitrary_load` differs from the integral by at most `Σ hₖ³ ζ/12 ≤ δ² (xₙ − x₀) ζ / 12`. -/
theorem pf_arbitrary_nonuniform_error_le (Φ pdf : ℝ → ℝ) (sm ss : ℝ) (x : ℕ → ℝ) (n : ℕ)
    (hc2 : ContDiff ℝ 2 (fun y => pdf y * normCdf Φ y (Transc.log10 sm) ss))
    (hx : ∀ k < n, x k ≤ x (k + 1)) {ζ : ℝ}
    (hζ : ∀ y ∈ Set.Icc (x 0) (x n), |iteratedDeriv 2 (fun y => pdf y * normCdf Φ y (Transc.log10 sm) ss) y| ≤ ζ)
    {δ : ℝ} (hδ : ∀ k < n, x (k + 1) - x k ≤ δ) :
    |pfArbitraryLoad Φ sm ss ((List.range (n + 1)).map fun k => (x k, pdf (x k)))
        - ∫ y in (x 0)..(x n), pdf y * normCdf Φ y (Transc.log10 sm) ss|
      ≤ ∑ k ∈ Finset.range n, (x (k + 1) - x k) ^ 3 * ζ / 12 ∧
    |pfArbitraryLoad Φ sm ss ((List.range (n + 1)).map fun k => (x k, pdf (x k)))
        - ∫ y in (x 0)..(x n), pdf y * normCdf Φ y (Transc.log10 sm) ss|
      ≤ δ ^ 2 * (x n - x 0) * ζ / 12 := by
  rw [pfArbitraryLoad_map]
  exact ⟨trapezoid_nonuniform_error_le _ hc2 x n hx hζ, trapezoid_nonuniform_error_le_mesh _ hc2 x n hx hζ hδ⟩

/-- non-vacuity: three unequal steps, density 1, a "distribution function" that is the identity (`f y = y`, `ζ = 0`:
the rule is exact) -/
example : |pfArbitraryLoad (fun z => z) 1 1 ((List.range 4).map fun k => ((k:ℝ) ^ 2, (1:ℝ)))
    - ∫ y in ((0:ℕ):ℝ) ^ 2..((3:ℕ):ℝ) ^ 2, (1:ℝ) * normCdf (fun z => z) y (Transc.log10 (1:ℝ)) 1|
      ≤ 5 ^ 2 * (((3:ℕ):ℝ) ^ 2 - ((0:ℕ):ℝ) ^ 2) * 0 / 12 := by
  refine (pf_arbitrary_nonuniform_error_le (fun z => z) (fun _ => 1) 1 1 (fun k => (k:ℝ) ^ 2) 3 ?_ ?_ (ζ := 0) ?_
    (δ := 5) ?_).2
  · simp only [normCdf]; fun_prop
  · intro k hk; gcongr; norm_num
  · intro y _
    have : (fun y : ℝ => (1:ℝ) * normCdf (fun z => z) y (Transc.log10 (1:ℝ)) 1) = fun y => y := by
      funext y; simp [normCdf]
    rw [this]
    simp [iteratedDeriv_succ]
  · intro k hk
    interval_cases k <;> norm_num

/-- THE SAMPLED LOG-NORMAL DENSITY: `pdf y = norm.pdf(y, loc = log10 load_median, scale = load_std)`, strength
distribution function `Φ = stdNormalCdf`.  On ANY refinement sequence of increasing sample points from `a` to `b` whose
largest step tends to zero, `pf_arbitrary_load` converges to the overlap integral over the sampled range `[a, b]`, and
that integral lies below the closed form `pf_norm_load` by at most the load's probability mass outside `[a, b]`
(`< 2·10⁻⁵⁵` for a range of ±16 load standard deviations). -/
theorem pf_arbitrary_gaussian_converges (sm ss lm ls a b : ℝ) (hss : 0 < ss) (hls : 0 < ls) (hab : a ≤ b)
    (x : ℕ → ℕ → ℝ) (n : ℕ → ℕ) (δ : ℕ → ℝ)
    (h0 : ∀ N, x N 0 = a) (hn : ∀ N, x N (n N) = b) (hmono : ∀ N, ∀ k < n N, x N k ≤ x N (k + 1))
    (hstep : ∀ N, ∀ k < n N, x N (k + 1) - x N k ≤ δ N) (hδ : Filter.Tendsto δ Filter.atTop (nhds 0)) :
    Filter.Tendsto
      (fun N => pfArbitraryLoad stdNormalCdf sm ss
        ((List.range (n N + 1)).map fun k => (x N k, normPdf ls (x N k - Transc.log10 lm))))
      Filter.atTop
      (nhds (∫ y in a..b, normPdf ls (y - Transc.log10 lm) * normCdf stdNormalCdf y (Transc.log10 sm) ss)) ∧
    0 ≤ pfNormLoad stdNormalCdf sm ss lm ls
          - ∫ y in a..b, normPdf ls (y - Transc.log10 lm) * normCdf stdNormalCdf y (Transc.log10 sm) ss ∧
    pfNormLoad stdNormalCdf sm ss lm ls
          - ∫ y in a..b, normPdf ls (y - Transc.log10 lm) * normCdf stdNormalCdf y (Transc.log10 sm) ss
      ≤ stdNormalCdf ((a - Transc.log10 lm) / ls) + stdNormalCdf (-((b - Transc.log10 lm) / ls)) := by
  constructor
  · -- the integrand is C², so the trapezoid sums converge
    simp only [pfArbitraryLoad_map stdNormalCdf (fun y => normPdf ls (y - Transc.log10 lm)) sm ss]
    exact trapezoid_nonuniform_tendsto _ (contDiff_gaussian_integrand (Transc.log10 lm) ls (Transc.log10 sm) ss)
      a b x n δ h0 hn hmono hstep hδ
  · rw [pfNormLoad_eq]
    exact window_truncation_loc (Transc.log10 lm) ls (Transc.log10 sm) ss a b hss hls hab

/-- non-vacuity: uniform refinements of the ±16 σ range of a load 80 / 0.1 against a strength 100 / 0.05 -/
example : Filter.Tendsto
    (fun N : ℕ => pfArbitraryLoad stdNormalCdf 100 0.05
      ((List.range (N + 1 + 1)).map fun k : ℕ =>
        ((Transc.log10 (80:ℝ) - 1.6) + (k:ℝ) * (3.2 / ((N:ℝ) + 1)),
          normPdf 0.1 ((Transc.log10 (80:ℝ) - 1.6) + (k:ℝ) * (3.2 / ((N:ℝ) + 1)) - Transc.log10 (80:ℝ)))))
    Filter.atTop
    (nhds (∫ y in (Transc.log10 (80:ℝ) - 1.6)..(Transc.log10 (80:ℝ) + 1.6),
      normPdf 0.1 (y - Transc.log10 (80:ℝ)) * normCdf stdNormalCdf y (Transc.log10 (100:ℝ)) 0.05)) := by
  have hpos : ∀ N : ℕ, (0 : ℝ) < (N : ℝ) + 1 := fun N => by positivity
  refine (pf_arbitrary_gaussian_converges 100 0.05 80 0.1 (Transc.log10 (80:ℝ) - 1.6) (Transc.log10 (80:ℝ) + 1.6)
    (by norm_num) (by norm_num) (by linarith)
    (fun N k => (Transc.log10 (80:ℝ) - 1.6) + (k:ℝ) * (3.2 / ((N:ℝ) + 1))) (fun N => N + 1)
    (fun N => 3.2 / ((N:ℝ) + 1)) ?_ ?_ ?_ ?_ ?_).1
  · intro N
    rw [Nat.cast_zero, zero_mul, add_zero]
  · intro N
    rw [Nat.cast_succ, mul_div_cancel₀ _ (hpos N).ne']
    norm_num
    ring
  · intro N k _
    exact add_le_add_right (mul_le_mul_of_nonneg_right (Nat.cast_le.2 k.le_succ) (div_pos (by norm_num) (hpos N)).le) _
  · intro N k _
    rw [Nat.cast_succ, add_sub_add_left_eq_sub, ← sub_mul, add_sub_cancel_left, one_mul]
  · exact ((tendsto_natCast_atTop_atTop.atTop_add tendsto_const_nhds).const_div_atTop _)
end PylifeVerif.C15
