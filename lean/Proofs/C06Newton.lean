/-
C06 — Newton's method for the backward function of the extended Neuber law (`ExtendedNeuber.load`, primary branch only):
`f(L) = _load_implicit(L, σ) = ε(σ) − (L/σ)·K_p·e*(L)` for a fixed stress `σ > 0`.

The derivative the code hands to `scipy.optimize.newton` (`_d_load_implicit`) is `f'`; the expression the code had before
/repo commit c6e709f (`_d_e_star` added `1/(K_p·E)` although `tangential_compliance` already contains `1/E`) is not.
`L·K_p·e*(L)` is convex on `L ≥ 0`, so `f` is concave there, and the iteration started where the code starts it, at the upper
end `K_p·σ` of the bracket, stays above the root and decreases.  (Started at `σ`, where `f` is nearly flat as long as the
plastic strain is small, the first step overshoots.)

`roCompliance` / `dLoadImplicit` / `newtonLoad` are written here from the Python source; they are NOT part of the model the
correspondence check runs (the derivative is not an observable of the property).  What the solver returns stays a measured
fact (oracle + correspondence of `load`).  The bare `example` at the end states the hypotheses of
`neuber_backward_newton_monotone` not at the material of `exAdm` but at that of the corpus case
`C06/neuber_backward_unconverged.json` (cast steel, `R_m = 200`, `K'` rounded; `333.42` is the stress of its load `800`).
-/
import Proofs.C06
import Mathlib.Analysis.Convex.SpecificFunctions.Basic
import Mathlib.Analysis.Convex.Deriv
import Mathlib.Analysis.Convex.Mul

namespace PylifeVerif.C06
open PylifeVerif.Notch Set

variable {m : Mat ℝ}

/-- `RambergOsgood.tangential_compliance` for a positive stress: `1/E + 1/(n' K') · (σ/K')^(1/n' − 1)`.  rambgood.py takes
`np.abs(stress)` first; the `abs` is left out here, so the lemmas about it carry `0 < x` (with the `abs` it is `C16L.compl`; `MaterialLaws.roCompliance` of
`Model/MaterialLaws.lean` is the model of the same method over any carrier). -/
noncomputable def roCompliance (m : Mat ℝ) (s : ℝ) : ℝ := 1 / m.E + 1 / (m.n * m.K) * (s / m.K) ^ (1 / m.n - 1)

/-- `ExtendedNeuber._d_load_implicit(L, σ)` (`σ ≠ 0`), `_d_e_star(L) = tangential_compliance(L/K_p)/K_p` -/
noncomputable def dLoadImplicit (m : Mat ℝ) (L s : ℝ) : ℝ :=
  -(1 / s) * m.Kp * eStar m L - L / s * m.Kp * (roCompliance m (L / m.Kp) / m.Kp)

/-- the same with `_d_e_star` as coded before /repo commit c6e709f: `1/(K_p·E) + tangential_compliance(L/K_p)/K_p` -/
noncomputable def dLoadImplicitUnrepaired (m : Mat ℝ) (L s : ℝ) : ℝ :=
  -(1 / s) * m.Kp * eStar m L - L / s * m.Kp * (1 / (m.Kp * m.E) + roCompliance m (L / m.Kp) / m.Kp)

/-- Newton's method for `f(L) = 0` started at `K_p·σ` (`ExtendedNeuber.load`, without the stopping rule of
`scipy.optimize.newton`) -/
noncomputable def newtonLoad (m : Mat ℝ) (s : ℝ) : ℕ → ℝ
  | 0 => m.Kp * s
  | k + 1 => newtonLoad m s k - stressImplicit m s (newtonLoad m s k) / dLoadImplicit m (newtonLoad m s k) s

theorem roCompliance_eq_compl (m : Mat ℝ) {x : ℝ} (hx : 0 < x) :
    roCompliance m x = C16L.compl m.E m.K (1 / m.n) x := by
  rw [roCompliance, C16L.compl, abs_of_pos hx, div_div]

theorem roCompliance_pos (h : m.Adm) {x : ℝ} (hx : 0 < x) : 0 < roCompliance m x :=
  roCompliance_eq_compl m hx ▸ C16L.compl_pos h.E_pos h.K_pos h.p_pos

/-- `G'(L)` for the Neuber product `G(L) = L·K_p·e*(L)` -/
noncomputable def neuberProductDeriv (m : Mat ℝ) (L : ℝ) : ℝ :=
  m.Kp * eStar m L + L * m.Kp * (roCompliance m (L / m.Kp) / m.Kp)

theorem neuberProduct_hasDerivAt (h : m.Adm) {L : ℝ} (hL : 0 < L) :
    HasDerivAt (neuberProduct m) (neuberProductDeriv m L) L := by
  have h1 : HasDerivAt (fun L : ℝ => L * m.Kp) m.Kp L := by
    simpa using (hasDerivAt_id L).mul_const m.Kp
  have h3 : HasDerivAt (roStrain m ∘ fun L : ℝ => L / m.Kp) (roCompliance m (L / m.Kp) * (1 / m.Kp)) L :=
    HasDerivAt.comp L (roCompliance_eq_compl m (div_pos hL h.Kp_pos) ▸ roStrain_hasDerivAt h _)
      ((hasDerivAt_id L).div_const m.Kp)
  rw [neuberProductDeriv, ← mul_one_div]
  exact h1.mul h3

theorem neuberProductDeriv_pos (h : m.Adm) {L : ℝ} (hL : 0 < L) : 0 < neuberProductDeriv m L :=
  add_pos (mul_pos h.Kp_pos (eStar_pos h hL))
    (mul_pos (mul_pos hL h.Kp_pos) (div_pos (roCompliance_pos h (div_pos hL h.Kp_pos)) h.Kp_pos))

theorem dLoadImplicit_eq (m : Mat ℝ) (L s : ℝ) : dLoadImplicit m L s = -(neuberProductDeriv m L / s) := by
  unfold dLoadImplicit neuberProductDeriv; ring

/-- **`_d_load_implicit` is the derivative of `_load_implicit`** (`σ > 0`, `L > 0`). -/
theorem neuber_dload_is_derivative (h : m.Adm) {s L : ℝ} (hs : 0 < s) (hL : 0 < L) :
    HasDerivAt (fun L' => stressImplicit m s L') (dLoadImplicit m L s) L := by
  have hd := (hasDerivAt_const L (roStrain m s)).sub ((neuberProduct_hasDerivAt h hL).div_const s)
  rw [zero_sub, ← dLoadImplicit_eq] at hd
  exact hd.congr_of_eventuallyEq (Filter.Eventually.of_forall fun L' => stressImplicit_of_ne m hs.ne' L')

/-- **The expression coded before c6e709f is not the derivative**: it is off by `−L/(σ·E)`. -/
theorem neuber_dload_unrepaired_is_not (h : m.Adm) {s L : ℝ} (hs : 0 < s) (hL : 0 < L) :
    dLoadImplicitUnrepaired m L s = dLoadImplicit m L s - L / (s * m.E) ∧
    ¬ HasDerivAt (fun L' => stressImplicit m s L') (dLoadImplicitUnrepaired m L s) L := by
  have hKp := h.Kp_pos
  have e : dLoadImplicitUnrepaired m L s = dLoadImplicit m L s - L / (s * m.E) := by
    unfold dLoadImplicitUnrepaired dLoadImplicit; field_simp; ring
  refine ⟨e, fun hd => ?_⟩
  have := hd.unique (neuber_dload_is_derivative h hs hL)
  rw [e, sub_eq_self] at this
  exact (div_pos hL (mul_pos hs h.E_pos)).ne' this

theorem neuberProduct_convexOn (h : m.Adm) : ConvexOn ℝ (Ici 0) (neuberProduct m) := by
  have hKp := h.Kp_pos
  have hK := h.K_pos
  have hp : 1 ≤ 1 + 1 / m.n := by linarith [h.p_pos]
  have hc1 : ConvexOn ℝ (Ici (0 : ℝ)) fun x : ℝ => (1 / m.E) • x ^ (2 : ℕ) :=
    ((convexOn_pow 2).smul (one_div_pos.mpr h.E_pos).le)
  have hb : 0 ≤ m.Kp / (m.Kp * m.K) ^ (1 / m.n) := div_nonneg hKp.le (Real.rpow_nonneg (mul_pos hKp hK).le _)
  have hc2 : ConvexOn ℝ (Ici (0 : ℝ)) fun x : ℝ => (m.Kp / (m.Kp * m.K) ^ (1 / m.n)) • x ^ (1 + 1 / m.n) :=
    (convexOn_rpow hp).smul hb
  refine (hc1.add hc2).congr ?_
  intro L hL
  have hL0 : 0 ≤ L := hL
  -- on `L ≥ 0` the product is `L²/E + K_p/(K_p·K')^(1/n')·L^(1+1/n')`: two convex powers
  show (1 / m.E) • L ^ (2 : ℕ) + (m.Kp / (m.Kp * m.K) ^ (1 / m.n)) • L ^ (1 + 1 / m.n) = neuberProduct m L
  unfold neuberProduct
  rw [eStar_eq, roStrain_of_nonneg h (div_nonneg hL0 hKp.le)]
  have e1 : L / m.Kp / m.K = L / (m.Kp * m.K) := by rw [div_div]
  rw [e1, Real.div_rpow hL0 (mul_pos hKp hK).le, Real.rpow_one_add' hL0 (by linarith [h.p_pos] : 1 + 1 / m.n ≠ 0)]
  rw [smul_eq_mul, smul_eq_mul, mul_add]
  congr 1
  · field_simp
  · ring

/-- one Newton step for `g(L) = c` with a convex `g` from a point right of the root: stays right of the root, moves left -/
theorem newton_step_convex {g : ℝ → ℝ} {S : Set ℝ} (hconv : ConvexOn ℝ S g) {r x g' c : ℝ} (hr : r ∈ S) (hx : x ∈ S)
    (hrx : r ≤ x) (hroot : g r = c) (hd : HasDerivAt g g' x) (hpos : 0 < g') (hge : c ≤ g x) :
    r ≤ x - (g x - c) / g' ∧ x - (g x - c) / g' ≤ x := by
  constructor
  · rcases hrx.eq_or_lt with rfl | hlt
    · rw [hroot]; simp
    · have hs := hconv.slope_le_of_hasDerivAt hr hx hlt hd
      rw [slope_def_field, div_le_iff₀ (sub_pos.mpr hlt), hroot] at hs
      have : (g x - c) / g' ≤ x - r := by rw [div_le_iff₀ hpos]; linarith
      linarith
  · have : 0 ≤ (g x - c) / g' := div_nonneg (sub_nonneg.mpr hge) hpos.le
    linarith

/-- **Newton's method for the backward function is monotone**: started at `K_p·σ` all iterates stay in
`[root, K_p·σ]` and decrease. -/
theorem neuber_backward_newton_monotone (h : m.Adm) {s : ℝ} (hs : 0 < s) :
    ∃ r, s ≤ r ∧ r ≤ m.Kp * s ∧ stressImplicit m s r = 0 ∧
      ∀ k, r ≤ newtonLoad m s (k + 1) ∧ newtonLoad m s (k + 1) ≤ newtonLoad m s k ∧ newtonLoad m s k ≤ m.Kp * s := by
  obtain ⟨⟨r, hr1, hr2, hroot⟩, _⟩ := neuber_load_inverse h hs
  have hr0 : 0 < r := lt_of_lt_of_le hs hr1
  have hrootG : neuberProduct m r = s * roStrain m s := ((stressImplicit_eq_zero_iff m hs.ne' r).mp hroot).symm
  refine ⟨r, hr1, hr2, hroot, ?_⟩
  -- one step from any `x ≥ r`
  have key : ∀ x, r ≤ x →
      r ≤ x - stressImplicit m s x / dLoadImplicit m x s ∧ x - stressImplicit m s x / dLoadImplicit m x s ≤ x := by
    intro x hx
    have hx0 : 0 < x := lt_of_lt_of_le hr0 hx
    have hg' := neuberProductDeriv_pos h hx0
    have hge : s * roStrain m s ≤ neuberProduct m x :=
      hrootG ▸ (neuberProduct_strictMonoOn h).monotoneOn (mem_Ioi.mpr hr0) (mem_Ioi.mpr hx0) hx
    have hstep := newton_step_convex (neuberProduct_convexOn h) (mem_Ici.mpr hr0.le) (mem_Ici.mpr hx0.le) hx hrootG
      (neuberProduct_hasDerivAt h hx0) hg' hge
    -- the Newton step of `F(σ, ·)` is the Newton step of `G(·) = σ·ε(σ)`
    have e : stressImplicit m s x / dLoadImplicit m x s
        = (neuberProduct m x - s * roStrain m s) / neuberProductDeriv m x := by
      rw [stressImplicit_of_ne m hs.ne', dLoadImplicit_eq]
      field_simp
      ring
    rw [e]; exact hstep
  -- invariant: r ≤ x_k ≤ K_p σ
  have inv : ∀ k, r ≤ newtonLoad m s k ∧ newtonLoad m s k ≤ m.Kp * s := by
    intro k
    induction k with
    | zero => exact ⟨hr2, le_refl _⟩
    | succ k ih =>
      obtain ⟨h1, h2⟩ := key _ ih.1
      exact ⟨h1, le_trans h2 ih.2⟩
  intro k
  obtain ⟨h1, h2⟩ := key _ (inv k).1
  exact ⟨h1, h2, (inv k).2⟩

example : (⟨206000, 383.84, 0.176, 3.5⟩ : Mat ℝ).Adm ∧ (0 : ℝ) < 333.42 := by
  refine ⟨by constructor <;> norm_num, by norm_num⟩

end PylifeVerif.C06
