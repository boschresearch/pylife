/-
C01 for the literal model: the stack model `fpProcess` (continues from the stored residual stack) and the
literal model of `FourPointDetector.process` + `fourpoint_loop` (`Model/Rainflow/Literal.lean`:
array indices, `ri` cursor, re-scan of `residuals[:-1] ++ new turns ++ [last sample]` from `i = 2`
on every chunk) agree on everything observable, for every list of non-empty chunks.

The attributes of the literal detector are a function `Lit.litOf` of the state of the stack model
(`Lit.fpRunLit_eq`; why the re-scan is harmless: head of `Proofs/Lemmas/FpLiteral.lean`).
-/
import Proofs.Lemmas.FpLiteral
import Proofs.C01Core

namespace PylifeVerif.C01
open PylifeVerif.Rainflow PylifeVerif.Rainflow.Lit

/-- **Literal four-point model = stack model**, all observable attributes: recorded cycles with
their indices (in order), `residuals`, the `residual_index` property, the recorder's chunk sizes,
and the `_new_turns` bookkeeping (`_sample_tail`, `_head_index`). -/
theorem fourPoint_literal_eq (cs : List (List Int)) (hne : ∀ c ∈ cs, c ≠ []) :
    (fpRunLit cs).cycles = (fpRun cs).cycles ∧
      (fpRunLit cs).residuals = (fpRun cs).residuals ∧
      (fpRunLit cs).residualIndexProp = (fpRun cs).residualIndex ∧
      (fpRunLit cs).chunks = (fpRun cs).chunks ∧
      (fpRunLit cs).ts = (fpRun cs).ts := by
  rw [fpRunLit_eq cs hne, fpRun_eq cs hne]
  exact ⟨rfl, rfl, litOf_residualIndexProp _ _, rfl, rfl⟩

/-- Consequence: the literal model is chunk independent (everything but the recorder's chunk sizes). -/
theorem fourPointLit_chunk_independent (cs : List (List Int)) (hne : ∀ c ∈ cs, c ≠ []) (h0 : cs ≠ []) :
    let a := fpRunLit cs; let b := fpRunLit [cs.flatten]
    a.cycles = b.cycles ∧ a.residuals = b.residuals ∧ a.residualIndexProp = b.residualIndexProp ∧
      a.ts = b.ts ∧ a.chunks = cs.map List.length := by
  have hs : cs.flatten ≠ [] := chunks_flatten_ne_nil hne h0
  intro a b
  obtain ⟨a1, a2, a3, a4, a5⟩ := fourPoint_literal_eq cs hne
  obtain ⟨b1, b2, b3, _, b5⟩ := fourPoint_literal_eq [cs.flatten] (by simpa using hs)
  obtain ⟨c1, _, _, c4, c5, c6, c7⟩ := fourPoint_chunk_independent cs hne h0
  exact ⟨a1.trans (c1.trans b1.symm), a2.trans (c5.trans b2.symm), a3.trans (c6.trans b3.symm),
    a5.trans (c4.trans b5.symm), a4.trans c7⟩

/-- The invariant behind the equality: every stack the four-point model ever
stores is irreducible - re-examining it, as the code does on every chunk, finds nothing. -/
theorem fourPoint_stack_irreducible (cs : List (List Int)) (hne : ∀ c ∈ cs, c ≠ []) :
    Irr (fpRun cs).stack ∧ fpFeed [] (fpRun cs).stack.reverse = ([], (fpRun cs).stack) := by
  have hI : Irr (fpRun cs).stack := by rw [fpRun_eq cs hne]; exact fpCanon_stack_irr _ _
  exact ⟨hI, fpFeed_rescan _ hI⟩

/-- Non-vacuity.  Three chunks; the stored residuals `0, 3, 1` are re-scanned by chunk 3, which then closes the cycle
`(3,1)-(4,2)` -/
example : (fpRunLit [[0, 3, 3], [1, 2], [2, -1, 4]]).cycles = [((3, 1), (4, 2))] := by decide +kernel
example : (fpRunLit [[0, 3, 3], [1, 2], [2, -1, 4]]).residuals = [0, 3, -1, 4] := by decide +kernel
example : (fpRunLit [[0, 3, 3], [1, 2], [2, -1, 4]]).residualIndexProp = [0, 1, 6, 7] := by decide +kernel
example := fourPoint_literal_eq [[0, 3, 3], [1, 2], [2, -1, 4]] (by decide)
example := fourPointLit_chunk_independent [[0, 3, 3], [1, 2], [2, -1, 4]] (by decide) (by decide)
/-- a longer stored residual (four points) that is re-scanned -/
example : (fpRunLit [[0, 8, -9, 7, -6], [5, -4, 3]]).residuals = [0, 8, -9, 7, -6, 5, -4, 3] := by
  decide +kernel
example : (fpRunLit [[0, 5, 5, 2], [4, 4, 1, 6], [6, 0]]).cycles = [((3, 2), (4, 4)), ((1, 5), (6, 1))] := by
  decide +kernel
/-- outside the quantifier: on an empty chunk the code - and the literal model - drop the
provisional last sample, the stack model leaves the state unchanged -/
example : (fpRunLit [[1, 3, 2], []]).residuals = [1, 3] ∧ (fpRun [[1, 3, 2], []]).residuals = [1, 3, 2] := by
  decide +kernel

end PylifeVerif.C01

section AxiomCheck
#print axioms PylifeVerif.C01.fourPoint_literal_eq
#print axioms PylifeVerif.C01.fourPointLit_chunk_independent
#print axioms PylifeVerif.C01.fourPoint_stack_irreducible
end AxiomCheck
