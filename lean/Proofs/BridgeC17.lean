/-
Bridge C17: `mises` as /verif/translate/closedform.py regenerates it from the CURRENT source of
  src/pylife/stress/equistress.py   (Generated/Equistress.lean)
is, over ℝ, the hand-written `Equistress.mises` (`Model/Equistress.lean`) that the theorems of `Proofs/C17.lean` are
about: the square root of the same radicand.  Editing a coefficient of the radicand in the source changes the generated
definition and this proof stops compiling; re-ordering its summands does not.
The source first multiplies every component by the python float `1.0` (`np.asarray(x) * 1.0`: promotes
integer / unsigned / bool components to float64, leaves floating ones alone) and writes every square as `np.square`:
the translator renders these as `s * 1.0` and `x * x`; over ℝ the factor `1.0` disappears in the proof below (`bridge`).
(A source that writes `x ** 2` is translated to `Transc.pow x 2.0`, i.e. the real power `x ^ (2:ℝ) = x * x` - that is what
`rpow_two_lit` / `transc_pow` are for; on the source as it stands they are unused simp lemmas and stay for such an edit.)
The eigenvalue based functions (`eigenval`, `tresca`, `principals`, the sign functions) call `np.linalg.eigvalsh` and
mutate arrays: outside the translator's straight-line subset, tied by the correspondence run (K).
`Generated.EquistressStatus` is imported only to be built: it fails when the translator could not translate `mises`.
-/
import Model.Equistress
import Proofs.BridgeTactics
import Generated.Equistress
import Generated.EquistressStatus

-- the `<;> bridge` below has one goal to work on, and the `x ** 2` lemmas do not fire on `np.square` (header)
set_option linter.unnecessarySeqFocus false
set_option linter.unusedSimpArgs false

namespace PylifeVerif.Bridge
open PylifeVerif PylifeVerif.Equistress

theorem rpow_two_lit (x : ℝ) : x ^ (2.0 : ℝ) = x * x := by
  rw [lit_two, Real.rpow_two, _root_.sq]

/-- the generated `mises` (regenerated from the source on every check) is the model's `mises`: the square root of the same radicand -/
theorem mises_eq (v : Voigt ℝ) :
    Generated.mises v.s11 v.s22 v.s33 v.s12 v.s13 v.s23 = Equistress.mises v := by
  (simp only [Generated.mises, Equistress.mises, misesRadicand, Equistress.sq, transc_sqrt, transc_pow,
    rpow_two_lit]) <;> bridge

end PylifeVerif.Bridge
