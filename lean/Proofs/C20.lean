/-
C20 — VMAP export followed by import returns the same mesh and fields; reading is repeatable; filtering by
a stored set returns exactly its members; a failed export leaves no partial geometry or variable; a valid
export succeeds; identifiers outside int32 are refused; stored element types follow the table; variables,
groups and sets persist; the importer's join steps hold on any session state.

The theorems are about the model `Model/Vmap.lean` of `VMAPExport` / `VMAPImport` (abstract file; HDF5 is a
store that returns what was written; ids are the integers the format stores).  `byElement rows` is the frame
ordered by element id with the row order inside every element kept; `roundtrip_mesh` proves exactly that
characterisation, so the later theorems can state "the frame read back is `byElement` of the exported frame".
A *valid mesh frame* has pairwise distinct (element_id, node_id) pairs (`(rows.map Row.key).Nodup`); the
hypothesis is stated where the clause has it (in `roundtrip_element_nodal_variable` it follows from the others).  Meshes with a collapsed element (a node repeated in one element's connectivity) have
non-distinct keys: they are NOT covered by the element nodal theorems (nor by pyLife's own importer, whose joins multiply such
rows); what the exporter writes for them is checked on the file by the harness only.

The round trips, the success theorems and the persistence / step theorems carry an argument: the read-back order is a stable
sort (`byElement`), the index the importer rebuilds for element nodal values is the exporter's target order for EVERY row order
of the variable's frame (`varIndex_eq_enTarget`, `enTarget_any_row_order`), and the link `ExportedFrom` between a stored
geometry and its frame survives any later history of calls (`After.persists`).  Near-definitional are `import_repeatable`
(`make_mesh` overwrites the whole session), the `failed_*` / `refused_*` theorems (the model's error branches return the file
they were given or delete the entry they appended: `addEntry`) and the `filter_*` theorems (look-up of an appended set): for
those clauses the tie to the real code is the correspondence check and the oracle (dump of the whole HDF5 file before/after
every failing call, including storage failures injected after data were written), not the proof.
-/
import Proofs.Lemmas.Vmap

namespace PylifeVerif.C20
open PylifeVerif.Vmap

variable {V : Type}

/-! ### The link `ExportedFrom` between a stored geometry and its frame

A successful `add_geometry` establishes it; every later exporter call keeps it, so the variable theorems apply after any
history of calls that follows the export of the geometry (`After.persists`). -/

theorem exported_after_addGeometry [Cell V] (f : File V) (name : String) (fr : Frame V)
    (h : (addGeometry f name fr).2 = none) :
    ∃ g idx, (addGeometry f name fr).1.geoms.lookup name = some g ∧ ExportedFrom g fr idx := by
  obtain ⟨g, hb, hg⟩ := addGeometry_ok h
  obtain ⟨idx, hx⟩ := buildGeometry_exported hb
  exact ⟨g, idx, hg, hx⟩

theorem exported_persists_addGeometry [Cell V] (f : File V) (name : String) (fr' : Frame V)
    (geom : String) (g : Geometry V) (hg : f.geoms.lookup geom = some g) :
    (addGeometry f name fr').1.geoms.lookup geom = some g := by
  rw [addGeometry_eq]
  exact lookup_addEntry_of_some hg

/-- `add_variable` leaves the stored geometries alone, and with them every `ExportedFrom` link. -/
theorem exported_persists_addVariable [Cell V] (f : File V) (state gname var : String) (fr' : Frame V)
    (cols : Option (List String)) (loc : Option Nat) :
    (addVariable f state gname var fr' cols loc).1.geoms = f.geoms := by
  rcases addVariable_file f state gname var fr' cols loc with hf | ⟨b, hf⟩ <;> rw [hf]
  exact ensureGroup_geoms f state gname

theorem addSet_lookup (f : File V) (kind : Nat) (gname : String) (ids : List Int) (fr' : Frame V) (nameOk : Bool)
    (name : String) {geom : String} {g : Geometry V} (hg : f.geoms.lookup geom = some g) :
    (addSet f kind gname ids fr' nameOk name).1.geoms.lookup geom = some g ∨
    geom = gname ∧ (addSet f kind gname ids fr' nameOk name).1.geoms.lookup geom
      = some { g with sets := g.sets ++ [⟨kind, name, ids⟩] } := by
  rcases addSet_cases f kind gname ids fr' nameOk name with ⟨e, he⟩ | ⟨g0, hg0, _, he⟩ <;> rw [he]
  · exact Or.inl hg
  · by_cases hn : geom = gname
    · subst hn
      obtain rfl := Option.some.inj (hg.symm.trans hg0)
      exact Or.inr ⟨rfl, lookup_setKey_self hg⟩
    · exact Or.inl ((lookup_setKey_ne _ hn).trans hg)

theorem exported_persists_addSet [Cell V] (f : File V) (kind : Nat) (gname : String) (ids : List Int) (fr' : Frame V)
    (nameOk : Bool) (name : String) (geom : String) (g : Geometry V) (fr : Frame V) (idx : List Nat)
    (hg : f.geoms.lookup geom = some g) (hx : ExportedFrom g fr idx) :
    ∃ g', (addSet f kind gname ids fr' nameOk name).1.geoms.lookup geom = some g' ∧ ExportedFrom g' fr idx := by
  rcases addSet_lookup f kind gname ids fr' nameOk name hg with h | ⟨_, h⟩
  · exact ⟨g, h, hx⟩
  · -- every field the link speaks of is as before
    exact ⟨_, h, ⟨hx.mesh, hx.ids, hx.coords, hx.ncoord, hx.ncoord_len, hx.cidx, hx.elems⟩⟩

/-! ### Round trips: mesh, coordinates, node and element nodal variables; the join steps they are made of -/

/-- **Round trip of the mesh.**  After a successful `add_geometry(name, frame)`, `make_mesh(name).to_frame()`
on any importer state returns the rows of the frame ordered by element id (3rd line), with the node order of
every element preserved (4th line); nothing is lost or duplicated (5th line). -/
theorem roundtrip_mesh [Cell V] (f : File V) (name : String) (fr : Frame V)
    (h : (addGeometry f name fr).2 = none) (s : Session V) (st : Option String) :
    (readFrame (addGeometry f name fr).1 s [.makeMesh name st]).2
        = .ok ([], (byElement fr.rows).map (fun r => (r.key, []))) ∧
      (byElement fr.rows).Pairwise (fun a b => a.eid ≤ b.eid) ∧
      (∀ e, (byElement fr.rows).filter (fun r => r.eid == e) = fr.rows.filter (fun r => r.eid == e)) ∧
      (byElement fr.rows).Perm fr.rows := by
  obtain ⟨g, idx, hg, hx⟩ := exported_after_addGeometry f name fr h
  refine ⟨?_, byElement_sorted _, fun e => byElement_filter _ e, byElement_perm _⟩
  simp only [readFrame, runChain, impStep_makeMesh hg, toFrame, hx.mesh, List.map_map]
  rfl

/-- join_coordinates on ANY session state of geometry `geom` (after filters, after other joins): every mesh row gets the
coordinates stored for its node. -/
theorem joinCoords_step [Cell V] (f : File V) (geom : String) (g : Geometry V) (fr : Frame V) (cidx : List Nat)
    (hg : f.geoms.lookup geom = some g) (hx : ExportedFrom g fr cidx)
    (s : Session V) (labels : List String) (rows : MeshRows V) (hs : s.mesh = some (labels, rows)) (hgeo : s.geometry = geom)
    (hdisj : (coordNames fr).any (fun l => labels.contains l) = false)
    (hrows : ∀ r ∈ rows, r.1.2 ∈ nodeIds fr) :
    impStep f s .joinCoords = ({ s with mesh := some (labels ++ coordNames fr,
        rows.map (fun r => (r.1, r.2 ++ (nodeValue fr.rows cidx r.1.2).map some))) }, none) := by
  subst hgeo
  have hmap : rows.map (fun r => (r.1, r.2 ++ cellsOf g.ncoord (coordAt g r.1.2)))
      = rows.map (fun r => (r.1, r.2 ++ (nodeValue fr.rows cidx r.1.2).map some)) :=
    List.map_congr_left fun r hr => by rw [coordAt_exported hx (hrows r hr)]; rfl
  simp only [impStep, hs, hg, joinBlock, hx.ncoord, hdisj, Bool.false_eq_true, if_false, hmap]

/-- **Round trip of the coordinates.**  `make_mesh(name).join_coordinates().to_frame()` returns, for every
exported row (ordered as in `roundtrip_mesh`), the coordinate cells stored for its node
(`groupby('node_id').first()`: per column the first non-missing cell of the node's rows), under the column
labels the exporter found (x, y and z if present). -/
theorem roundtrip_coordinates [Cell V] (f : File V) (name : String) (fr : Frame V)
    (h : (addGeometry f name fr).2 = none) (s : Session V) (st : Option String) :
    ∃ idx, colIdx fr.cols (coordNames fr) = some idx ∧
      (readFrame (addGeometry f name fr).1 s [.makeMesh name st, .joinCoords]).2
        = .ok (coordNames fr,
            (byElement fr.rows).map (fun r => (r.key, (nodeValue fr.rows idx r.nid).map some))) := by
  obtain ⟨g, idx, hg, hx⟩ := exported_after_addGeometry f name fr h
  have hstep := joinCoords_step _ name g fr idx hg hx ⟨some ([], (meshIndex g).map (fun k => (k, []))), name, st⟩ [] _
    rfl rfl (by simp) fun r hr => by
      obtain ⟨k, hk, rfl⟩ := List.mem_map.1 hr
      rw [hx.mesh] at hk
      obtain ⟨a, ha, rfl⟩ := List.mem_map.1 hk
      exact nid_mem_nodeIds (mem_byElement.1 ha)
  refine ⟨idx, hx.cidx, ?_⟩
  rw [readFrame_makeMesh_step hg hstep rfl, List.nil_append,
    map_meshIndex_exported hx fun k => (nodeValue fr.rows idx k.2).map some]
  rfl

/-- For a nodal field (every selected column has the same cell in all rows of a node) the value stored for a node is
every one of its rows' own cells. -/
theorem node_value_is_own_cells [Cell V] (rows : List (Row V)) (idx : List Nat)
    (hcons : ∀ r ∈ rows, ∀ r' ∈ rows, r.nid = r'.nid → ∀ i ∈ idx, r.vals[i]? = r'.vals[i]?)
    {r : Row V} (hr : r ∈ rows) : nodeValue rows idx r.nid = selRow idx r := by
  refine List.filterMap_congr fun i hi => ?_
  -- every cell of the node in column `i` is `r`'s cell
  have hall : ∀ x ∈ (nodeRows rows r.nid).filterMap (fun r' => r'.vals[i]?), some x = r.vals[i]? := by
    intro x hx
    obtain ⟨r', hr', hx⟩ := List.mem_filterMap.1 hx
    obtain ⟨hr', hn⟩ := List.mem_filter.1 hr'
    rw [← hx]
    exact hcons r' hr' r hr (eq_of_beq hn) i hi
  cases hc : r.vals[i]? with
  | none =>
    rw [nodeCell, List.eq_nil_iff_forall_not_mem.2 fun x hx => Option.some_ne_none x ((hall x hx).trans hc)]
    rfl
  | some c =>
    refine firstValid_const (List.ne_nil_of_mem (List.mem_filterMap.2 ⟨r, List.mem_filter.2 ⟨hr, beq_self_eq_true _⟩, hc⟩))
      fun x hx => Option.some.inj ((hall x hx).trans hc)

/-- join_variable of a NODE variable stored earlier from `fr` (any calls may have followed), on any session state of that
geometry.  The stored record in `hv` is `buildVariable 2 g' fr idx` for every geometry `g'` (`buildVariable_two`). -/
theorem joinVar_step_node_stored [Cell V] (f : File V) (state geom var : String) (fr : Frame V) (idx : List Nat)
    (g : Geometry V) (hg : f.geoms.lookup geom = some g)
    (hv : f.vars.lookup (state, geom, var)
      = some ⟨2, idx.length, nodeIds fr, (nodeIds fr).map (nodeValue fr.rows idx)⟩) (hgrp : (state, geom) ∈ f.groups)
    (s : Session V) (labels : List String) (rows : MeshRows V) (hs : s.mesh = some (labels, rows)) (hgeo : s.geometry = geom)
    (st : Option String) (hst : pickState st s.state = some state) (newLabels : List String)
    (hdisj : newLabels.any (fun l => labels.contains l) = false) (hlen : newLabels.length = idx.length) :
    impStep f s (.joinVar var st (some newLabels))
      = ({ s with state := some state, mesh := some (labels ++ newLabels, rows.map (fun r => (r.1, r.2 ++
          cellsOf idx.length (if r.1.2 ∈ nodeIds fr then some (nodeValue fr.rows idx r.1.2) else none)))) }, none) := by
  subst hgeo
  rw [impStep_joinVar hs hst hg hgrp hv hlen (by simp) hdisj]
  simp only [varAt_node]

/-- the same for an ELEMENT_NODAL variable stored from a frame `vfr` (any row order; it may differ from the geometry's
frame `fr`): a mesh row whose (element, node) key is one of the stored pairs of the elements occurring in `vfr`
(`enTarget g vfr`) gets the cells of THE ROW OF `vfr` WITH THAT KEY; other mesh rows get NaN cells. -/
theorem joinVar_step_element_nodal_stored [Cell V] (f : File V) (state geom var : String) (fr vfr : Frame V)
    (idx : List Nat) (g : Geometry V) (cidx : List Nat) (v : Variable V)
    (hg : f.geoms.lookup geom = some g) (hx : ExportedFrom g fr cidx)
    (hb : buildVariable 6 g vfr idx = some v)
    (hv : f.vars.lookup (state, geom, var) = some v) (hgrp : (state, geom) ∈ f.groups)
    (s : Session V) (labels : List String) (rows : MeshRows V) (hs : s.mesh = some (labels, rows)) (hgeo : s.geometry = geom)
    (st : Option String) (hst : pickState st s.state = some state) (newLabels : List String)
    (hdisj : newLabels.any (fun l => labels.contains l) = false) (hlen : newLabels.length = idx.length) :
    impStep f s (.joinVar var st (some newLabels))
      = ({ s with state := some state, mesh := some (labels ++ newLabels, rows.map (fun r => (r.1, r.2 ++
          cellsOf idx.length (if r.1 ∈ enTarget g vfr then (rowAt vfr.rows r.1).map (selRow idx) else none)))) },
         none) := by
  subst hgeo
  -- the index the importer rebuilds is the order in which the exporter wrote the values
  obtain ⟨hloc, hnc, hlenv, hat⟩ := varAt_element_nodal hx hb
  rw [impStep_joinVar hs hst hg hgrp hv (hlen.trans hnc.symm) (by rw [hloc]; exact hlenv) hdisj, hnc]
  simp only [hat]

/-- **The stored order does not depend on the row order of the variable's frame**: when the keys of `vfr` are a
rearrangement of the keys of the geometry's frame `fr`, the (element, node) pairs the values are written for are the mesh
index of the geometry (`roundtrip_mesh`), whatever the order of `vfr`'s rows. -/
theorem enTarget_any_row_order [Cell V] (g : Geometry V) (fr vfr : Frame V) (cidx : List Nat) (hx : ExportedFrom g fr cidx)
    (hperm : (vfr.rows.map Row.key).Perm (fr.rows.map Row.key)) :
    enTarget g vfr = (byElement fr.rows).map Row.key ∧ enTarget g vfr = meshIndex g := by
  have h := (enTarget_of_covering hx (eids_of_keys_perm hperm)).2
  exact ⟨h, h.trans hx.mesh.symm⟩

/-- Remark to `joinVar_step_element_nodal*` and the round trip: in a frame with distinct (element, node) pairs the look-up
finds the frame row with that key. -/
theorem find_own_row {fr : Frame V} (hvalid : (fr.rows.map Row.key).Nodup) {r : Row V} (hr : r ∈ fr.rows)
    {k : Int × Int} (hk : k = r.key) : rowAt fr.rows k = some r := by
  subst hk
  obtain ⟨r', hf, hmem, hkey⟩ := rowAt_of_mem (List.mem_map_of_mem hr)
  rw [hf, List.inj_on_of_nodup_map hvalid hmem hr hkey]

/-- join_variable of a NODE variable just exported from `fr`, on any session state of that geometry. -/
theorem joinVar_step_node [Cell V] (f : File V) (state geom var : String) (fr : Frame V) (cols : Option (List String))
    (loc : Option Nat)
    (h : (addVariable f state geom var fr cols loc).2 = none) (hloc : resolveLoc var loc = some 2)
    (s : Session V) (labels : List String) (rows : MeshRows V) (hs : s.mesh = some (labels, rows)) (hgeo : s.geometry = geom)
    (st : Option String) (hst : pickState st s.state = some state) (newLabels : List String)
    (hdisj : newLabels.any (fun l => labels.contains l) = false) :
    ∃ names idx, resolveCols var cols = some names ∧ colIdx fr.cols names = some idx ∧
      (newLabels.length = names.length →
        impStep (addVariable f state geom var fr cols loc).1 s (.joinVar var st (some newLabels))
          = ({ s with state := some state, mesh := some (labels ++ newLabels, rows.map (fun r => (r.1, r.2 ++
              cellsOf idx.length (if r.1.2 ∈ nodeIds fr then some (nodeValue fr.rows idx r.1.2) else none)))) }, none)) := by
  obtain ⟨g, names, l, idx, v, hg, hc, hl, _, hidx, hb, hgrp, hv⟩ := addVariable_ok h
  obtain rfl := Option.some.inj (hloc.symm.trans hl)
  obtain rfl := Option.some.inj hb
  refine ⟨names, idx, hc, hidx, fun hlen => ?_⟩
  exact joinVar_step_node_stored _ state geom var fr idx g
    ((exported_persists_addVariable f state geom var fr cols loc).symm ▸ hg) hv hgrp
    s labels rows hs hgeo st hst newLabels hdisj (hlen.trans (colIdx_length hidx).symm)

/-- join_variable of an ELEMENT_NODAL variable just exported from a frame `vfr` (any row order, possibly only some whole
elements of the geometry), on any session state of that geometry. -/
theorem joinVar_step_element_nodal [Cell V] (f : File V) (state geom var : String) (fr vfr : Frame V)
    (cols : Option (List String)) (loc : Option Nat) (g : Geometry V) (cidx : List Nat)
    (hg : f.geoms.lookup geom = some g) (hx : ExportedFrom g fr cidx)
    (h : (addVariable f state geom var vfr cols loc).2 = none) (hloc : resolveLoc var loc = some 6)
    (s : Session V) (labels : List String) (rows : MeshRows V) (hs : s.mesh = some (labels, rows)) (hgeo : s.geometry = geom)
    (st : Option String) (hst : pickState st s.state = some state) (newLabels : List String)
    (hdisj : newLabels.any (fun l => labels.contains l) = false) :
    ∃ names idx, resolveCols var cols = some names ∧ colIdx vfr.cols names = some idx ∧
      (newLabels.length = names.length →
        impStep (addVariable f state geom var vfr cols loc).1 s (.joinVar var st (some newLabels))
          = ({ s with state := some state, mesh := some (labels ++ newLabels, rows.map (fun r => (r.1, r.2 ++
              cellsOf idx.length (if r.1 ∈ enTarget g vfr then (rowAt vfr.rows r.1).map (selRow idx) else none)))) },
             none)) := by
  obtain ⟨g', names, l, idx, v, hg', hc, hl, _, hidx, hb, hgrp, hv⟩ := addVariable_ok h
  obtain rfl := Option.some.inj (hg.symm.trans hg')
  obtain rfl := Option.some.inj (hloc.symm.trans hl)
  refine ⟨names, idx, hc, hidx, fun hlen => ?_⟩
  exact joinVar_step_element_nodal_stored _ state geom var fr vfr idx g cidx v
    ((exported_persists_addVariable f state geom var vfr cols loc).symm ▸ hg) hx hb hv hgrp s labels rows hs hgeo st hst newLabels hdisj
    (hlen.trans (colIdx_length hidx).symm)

/-- … and when the keys of `vfr` are a rearrangement of the keys of the geometry's frame: every mesh row of the geometry
gets the cells of the row of `vfr` with its key - for ANY row order of `vfr`. -/
theorem joinVar_step_element_nodal_any_order [Cell V] (f : File V) (state geom var : String) (fr vfr : Frame V)
    (cols : Option (List String)) (loc : Option Nat) (g : Geometry V) (cidx : List Nat)
    (hperm : (vfr.rows.map Row.key).Perm (fr.rows.map Row.key))
    (hg : f.geoms.lookup geom = some g) (hx : ExportedFrom g fr cidx)
    (h : (addVariable f state geom var vfr cols loc).2 = none) (hloc : resolveLoc var loc = some 6)
    (s : Session V) (labels : List String) (rows : MeshRows V) (hs : s.mesh = some (labels, rows)) (hgeo : s.geometry = geom)
    (st : Option String) (hst : pickState st s.state = some state) (newLabels : List String)
    (hdisj : newLabels.any (fun l => labels.contains l) = false)
    (hrows : ∀ r ∈ rows, r.1 ∈ fr.rows.map Row.key) :
    ∃ names idx, resolveCols var cols = some names ∧ colIdx vfr.cols names = some idx ∧
      (newLabels.length = names.length →
        impStep (addVariable f state geom var vfr cols loc).1 s (.joinVar var st (some newLabels))
          = ({ s with state := some state, mesh := some (labels ++ newLabels, rows.map (fun r => (r.1, r.2 ++
              cellsOf idx.length ((rowAt vfr.rows r.1).map (selRow idx))))) }, none)) := by
  obtain ⟨names, idx, h1, h4, hstep⟩ := joinVar_step_element_nodal f state geom var fr vfr cols loc g cidx hg hx h hloc
    s labels rows hs hgeo st hst newLabels hdisj
  refine ⟨names, idx, h1, h4, fun hlen => ?_⟩
  rw [hstep hlen]
  congr 4
  refine List.map_congr_left fun r hr => ?_
  rw [if_pos]
  rw [(enTarget_any_row_order g fr vfr cidx hx hperm).1]
  exact ((byElement_perm fr.rows).map Row.key).mem_iff.2 (hrows r hr)

/-- **Round trip of a nodal variable.**  The geometry `geom` of the file was exported from `fr`
(`ExportedFrom`, provided by `exported_after_addGeometry` and kept by every later call), `add_variable` with location
NODE succeeds: reading the variable back under any column labels of the right length returns, per mesh
row, the value stored for its node (`groupby('node_id').first()`). -/
theorem roundtrip_node_variable [Cell V] (f : File V) (state geom var : String) (fr : Frame V)
    (cols : Option (List String)) (loc : Option Nat) (g : Geometry V) (cidx : List Nat)
    (hg : f.geoms.lookup geom = some g) (hx : ExportedFrom g fr cidx)
    (h : (addVariable f state geom var fr cols loc).2 = none) (hloc : resolveLoc var loc = some 2)
    (s : Session V) (labels : List String) :
    ∃ names idx, resolveCols var cols = some names ∧ colIdx fr.cols names = some idx ∧
      (labels.length = names.length →
        (readFrame (addVariable f state geom var fr cols loc).1 s
            [.makeMesh geom (some state), .joinVar var none (some labels)]).2
          = .ok (labels, (byElement fr.rows).map (fun r => (r.key, (nodeValue fr.rows idx r.nid).map some)))) := by
  obtain ⟨names, idx, h1, h4, hstep⟩ := joinVar_step_node f state geom var fr cols loc h hloc
    ⟨some ([], (meshIndex g).map (fun k => (k, []))), geom, some state⟩ [] _ rfl rfl none rfl labels (by simp)
  refine ⟨names, idx, h1, h4, fun hlen => ?_⟩
  have hg' : (addVariable f state geom var fr cols loc).1.geoms.lookup geom = some g :=
    (exported_persists_addVariable f state geom var fr cols loc).symm ▸ hg
  rw [readFrame_makeMesh_step hg' (hstep hlen) rfl, List.nil_append, map_meshIndex_exported hx fun k =>
    cellsOf idx.length (if k.2 ∈ nodeIds fr then some (nodeValue fr.rows idx k.2) else none)]
  refine congrArg (fun m => Except.ok (labels, m)) (List.map_congr_left fun a ha => ?_)
  rw [if_pos (show a.key.2 ∈ nodeIds fr from nid_mem_nodeIds (mem_byElement.1 ha))]
  rfl

/-- **Round trip of an element nodal variable, for ANY row order of the variable's frame.**  The geometry was exported from
`fr` (valid: distinct (element, node) pairs); the variable is exported from a frame `vfr` whose keys are a permutation of
`fr`'s keys (e.g. `fr.sort_index()`, reversed, shuffled; other columns, other values).  Reading it back returns, for every
row of the mesh (ordered as in `roundtrip_mesh`), the cells of THE ROW OF `vfr` WITH THAT (element, node) KEY
(`roundtrip_element_nodal_row_found`: there is exactly one, so no NaN block appears). -/
theorem roundtrip_element_nodal_variable [Cell V] (f : File V) (state geom var : String) (fr vfr : Frame V)
    (cols : Option (List String)) (loc : Option Nat) (g : Geometry V) (cidx : List Nat)
    (hvalid : (fr.rows.map Row.key).Nodup) (hperm : (vfr.rows.map Row.key).Perm (fr.rows.map Row.key))
    (hg : f.geoms.lookup geom = some g) (hx : ExportedFrom g fr cidx)
    (h : (addVariable f state geom var vfr cols loc).2 = none) (hloc : resolveLoc var loc = some 6)
    (s : Session V) (labels : List String) :
    ∃ names idx, resolveCols var cols = some names ∧ colIdx vfr.cols names = some idx ∧
      (labels.length = names.length →
        (readFrame (addVariable f state geom var vfr cols loc).1 s
            [.makeMesh geom (some state), .joinVar var none (some labels)]).2
          = .ok (labels, (byElement fr.rows).map (fun r =>
              (r.key, cellsOf idx.length ((rowAt vfr.rows r.key).map (selRow idx)))))) := by
  -- `hvalid` is the premise of the property; the proof does not need it (`h` and `hperm` imply it: the exporter refuses
  -- duplicate keys); it is what makes the partner row unique (`roundtrip_element_nodal_row_found`)
  have _ := hvalid
  obtain ⟨names, idx, h1, h4, hstep⟩ := joinVar_step_element_nodal f state geom var fr vfr cols loc g cidx hg hx h hloc
    ⟨some ([], (meshIndex g).map (fun k => (k, []))), geom, some state⟩ [] _ rfl rfl none rfl labels (by simp)
  refine ⟨names, idx, h1, h4, fun hlen => ?_⟩
  have hg' : (addVariable f state geom var vfr cols loc).1.geoms.lookup geom = some g :=
    (exported_persists_addVariable f state geom var vfr cols loc).symm ▸ hg
  rw [readFrame_makeMesh_step hg' (hstep hlen) rfl, List.nil_append, map_meshIndex_exported hx fun k =>
    cellsOf idx.length (if k ∈ enTarget g vfr then (rowAt vfr.rows k).map (selRow idx) else none)]
  refine congrArg (fun m => Except.ok (labels, m)) (List.map_congr_left fun a ha => ?_)
  rw [if_pos]
  rw [(enTarget_any_row_order g fr vfr cidx hx hperm).1]
  exact List.mem_map_of_mem ha

/-- Corollary to `roundtrip_element_nodal_variable`: under its hypotheses every row `r` of the geometry's frame has exactly
one partner in the variable's frame - the look-up `rowAt vfr.rows r.key` returns it - so the frame read back contains no
NaN block. -/
theorem roundtrip_element_nodal_row_found (fr vfr : Frame V)
    (hvalid : (fr.rows.map Row.key).Nodup) (hperm : (vfr.rows.map Row.key).Perm (fr.rows.map Row.key))
    (r : Row V) (hr : r ∈ fr.rows) :
    ∃ r', rowAt vfr.rows r.key = some r' ∧ r' ∈ vfr.rows ∧ r'.key = r.key ∧
      ∀ r'' ∈ vfr.rows, r''.key = r.key → r'' = r' := by
  obtain ⟨r', h1, h2, h3⟩ := rowAt_of_mem (hperm.mem_iff.2 (List.mem_map_of_mem hr))
  refine ⟨r', h1, h2, h3, fun r'' h4 h5 => ?_⟩
  exact List.inj_on_of_nodup_map (hperm.nodup_iff.2 hvalid) h4 h2 (h5.trans h3.symm)

/-- **Round trip of an element nodal variable exported from the geometry's own frame** (valid frame: distinct (element, node)
pairs).  Reading the variable back returns every exported row's own cells. -/
theorem roundtrip_element_nodal_variable_same_frame [Cell V] (f : File V) (state geom var : String) (fr : Frame V)
    (cols : Option (List String)) (loc : Option Nat) (g : Geometry V) (cidx : List Nat)
    (hvalid : (fr.rows.map Row.key).Nodup)
    (hg : f.geoms.lookup geom = some g) (hx : ExportedFrom g fr cidx)
    (h : (addVariable f state geom var fr cols loc).2 = none) (hloc : resolveLoc var loc = some 6)
    (s : Session V) (labels : List String) :
    ∃ names idx, resolveCols var cols = some names ∧ colIdx fr.cols names = some idx ∧
      (labels.length = names.length →
        (readFrame (addVariable f state geom var fr cols loc).1 s
            [.makeMesh geom (some state), .joinVar var none (some labels)]).2
          = .ok (labels, (byElement fr.rows).map (fun r => (r.key, (selRow idx r).map some)))) := by
  obtain ⟨names, idx, h1, h4, hread⟩ := roundtrip_element_nodal_variable f state geom var fr fr cols loc g cidx hvalid
    (List.Perm.refl _) hg hx h hloc s labels
  refine ⟨names, idx, h1, h4, fun hlen => ?_⟩
  rw [hread hlen]
  refine congrArg (fun m => Except.ok (labels, m)) (List.map_congr_left fun a ha => ?_)
  rw [find_own_row hvalid (mem_byElement.1 ha) rfl]
  rfl

/-! ### Reading is repeatable; filtering by a stored set -/

/-- **Reading is repeatable.**  A call chain that starts with `make_mesh` returns the same frame (or raises
the same exception at the same call) whatever the importer object went through before - in particular when
the same chain is run again on the same object. -/
theorem import_repeatable (f : File V) (s s' : Session V) (geom : String) (st : Option String)
    (ops : List ImpOp) :
    (readFrame f s (.makeMesh geom st :: ops)).2 = (readFrame f s' (.makeMesh geom st :: ops)).2 ∧
      (readFrame f (readFrame f s (.makeMesh geom st :: ops)).1 (.makeMesh geom st :: ops)).2
        = (readFrame f s (.makeMesh geom st :: ops)).2 := by
  have key : ∀ s s' : Session V,
      (readFrame f s (.makeMesh geom st :: ops)).2 = (readFrame f s' (.makeMesh geom st :: ops)).2 := by
    intro s s'
    unfold readFrame runChain
    cases hl : f.geoms.lookup geom with
    | none => simp [impStep, hl]
    | some g => simp [impStep, hl]
  exact ⟨key s s', key _ _⟩

/-- **Filtering by a stored node set returns exactly its members**: after a successful `add_node_set`, the
set is listed and `filter_node_set(name)` keeps exactly the mesh rows whose node is a member - on any session
state of that geometry.  (The importer looks sets up by name: a set of the same kind and name stored EARLIER
in the same geometry is replaced by this one in look-ups; sets under other names, of the other kind or of other
geometries keep answering as before - `sets_persist_addSet`.) -/
theorem filter_returns_set (f : File V) (geom : String) (ids : List Int) (fr : Frame V) (name : String)
    (h : (addSet f 0 geom ids fr true name).2 = none)
    (s : Session V) (labels : List String) (rows : MeshRows V)
    (hs : s.mesh = some (labels, rows)) (hgeo : s.geometry = geom) :
    impStep (addSet f 0 geom ids fr true name).1 s (.filterNodes name)
        = ({ s with mesh := some (labels, rows.filter (fun r => ids.contains r.1.2)) }, none) ∧
      (∀ r, r ∈ rows.filter (fun r => ids.contains r.1.2) ↔ r ∈ rows ∧ r.1.2 ∈ ids) ∧
      ∃ g', (addSet f 0 geom ids fr true name).1.geoms.lookup geom = some g' ∧ name ∈ setNames g' 0 := by
  obtain ⟨g, hg'⟩ := addSet_ok h
  subst hgeo
  exact ⟨impStep_filterNodes hs hg' (setIds_append_self g 0 name ids), fun r => by simp, _, hg',
    mem_setNames_append g 0 name ids⟩

/-- The same for element sets and `filter_element_set`. -/
theorem filter_returns_element_set (f : File V) (geom : String) (ids : List Int) (fr : Frame V) (name : String)
    (h : (addSet f 1 geom ids fr true name).2 = none)
    (s : Session V) (labels : List String) (rows : MeshRows V)
    (hs : s.mesh = some (labels, rows)) (hgeo : s.geometry = geom) :
    impStep (addSet f 1 geom ids fr true name).1 s (.filterElems name)
        = ({ s with mesh := some (labels, rows.filter (fun r => ids.contains r.1.1)) }, none) ∧
      (∀ r, r ∈ rows.filter (fun r => ids.contains r.1.1) ↔ r ∈ rows ∧ r.1.1 ∈ ids) ∧
      ∃ g', (addSet f 1 geom ids fr true name).1.geoms.lookup geom = some g' ∧ name ∈ setNames g' 1 := by
  obtain ⟨g, hg'⟩ := addSet_ok h
  subst hgeo
  exact ⟨impStep_filterElems hs hg' (setIds_append_self g 1 name ids), fun r => by simp, _, hg',
    mem_setNames_append g 1 name ids⟩

/-! ### Failed and refused exporter calls -/

/-- **A failed `add_geometry` leaves the file unchanged** (the group created before the failure is deleted
again; the name check precedes the creation). -/
theorem failed_addGeometry_leaves_file_unchanged [Cell V] (f : File V) (name : String) (fr : Frame V)
    (e : Err) (h : (addGeometry f name fr).2 = some e) : (addGeometry f name fr).1 = f := by
  rw [addGeometry_eq] at h ⊢
  rw [addEntry_err h]

/-- **A failed `add_variable` leaves no partial variable**: geometries and variable groups are exactly those
of the input file.  (In the model the empty state / geometry groups created before the failure may remain.  The code
creates them only after its own checks, so there they remain only when writing the data sets fails.  They hold no variable
and are not compared.) -/
theorem failed_addVariable_leaves_no_partial_variable [Cell V] (f : File V) (state geom var : String) (fr : Frame V)
    (cols : Option (List String)) (loc : Option Nat) (e : Err)
    (h : (addVariable f state geom var fr cols loc).2 = some e) :
    (addVariable f state geom var fr cols loc).1.geoms = f.geoms ∧
      (addVariable f state geom var fr cols loc).1.vars = f.vars ∧
      ∀ p ∈ (addVariable f state geom var fr cols loc).1.groups, p ∈ f.groups ∨ p = (state, geom) := by
  rcases addVariable_file f state geom var fr cols loc with hf | ⟨b, hf⟩
  · rw [hf]; exact ⟨rfl, rfl, fun p hp => Or.inl hp⟩
  · rw [hf] at h ⊢
    exact ⟨ensureGroup_geoms f state geom, addEntry_err h, fun p => mem_ensureGroup.1⟩

/-- **A failed `add_node_set` / `add_element_set` leaves the file unchanged.** -/
theorem failed_addSet_leaves_file_unchanged (f : File V) (kind : Nat) (geom : String) (ids : List Int)
    (fr : Frame V) (nameOk : Bool) (name : String) (e : Err)
    (h : (addSet f kind geom ids fr nameOk name).2 = some e) : (addSet f kind geom ids fr nameOk name).1 = f := by
  rcases addSet_cases f kind geom ids fr nameOk name with ⟨e', he⟩ | ⟨g, _, _, he⟩
  · rw [he]
  · rw [he] at h; cases h

/-- A call that is refused for its arguments (unknown geometry, no column names / location, ids that do not fit) leaves the
file exactly as it was - not even an empty group. -/
theorem refused_addVariable_creates_nothing [Cell V] (f : File V) (state geom var : String) (fr : Frame V)
    (cols : Option (List String)) (loc : Option Nat)
    (h : f.geoms.lookup geom = none ∨ resolveCols var cols = none ∨ resolveLoc var loc = none ∨
         (∃ l, resolveLoc var loc = some l ∧ ((l ≠ 2 ∧ l ≠ 6) ∨ varIdsFit l fr = false))) :
    (addVariable f state geom var fr cols loc).1 = f ∧ (addVariable f state geom var fr cols loc).2 ≠ none := by
  rcases addVariable_cases f state geom var fr cols loc with hrefused | ⟨g, names, l, hg, hc, hl, hl26, hfit, _⟩
  · exact hrefused
  · exfalso
    rcases h with h | h | h | ⟨l', hl', h⟩
    · rw [hg] at h; cases h
    · rw [hc] at h; cases h
    · rw [hl] at h; cases h
    · rw [hl] at hl'
      obtain rfl := Option.some.inj hl'
      rcases h with h | h
      · omega
      · rw [hfit] at h; cases h

/-! ### A valid export succeeds -/

/-- What `add_geometry` checks of a frame (`addGeometry_ok_iff`).  Not the *valid mesh frame* of the header: distinct keys are
not among the checks. -/
def ValidMesh [Cell V] (fr : Frame V) : Prop :=
  (∀ r ∈ fr.rows, fits32 r.eid = true ∧ fits32 r.nid = true) ∧
  (fr.cols.contains "z" = true → fr.rows ≠ []) ∧
  (∀ c ∈ coordNames fr, c ∈ fr.cols ∧ c ∉ fr.objCols) ∧
  (∀ c ∈ connectivity fr.rows, (elemType (ownDim fr) c.2.length).isSome = true)

theorem addGeometry_ok_iff [Cell V] (f : File V) (name : String) (fr : Frame V) :
    (addGeometry f name fr).2 = none ↔ f.geoms.lookup name = none ∧ ValidMesh fr := by
  rw [addGeometry_eq]
  refine ⟨fun h => ?_, fun ⟨hname, h1, h2, h3, h4⟩ => ?_⟩
  · obtain ⟨g, hfree, hb, _⟩ := addEntry_ok h
    obtain ⟨hp, he, _⟩ := buildGeometry_some hb
    obtain ⟨⟨h1, h2, h3⟩, _⟩ := buildPoints_ok hp
    obtain ⟨⟨h4, h5⟩, _⟩ := buildElements_ok he
    exact ⟨hfree, fun r hr => ⟨h4 r hr, h1 r hr⟩, h2, h3, h5⟩
  · obtain ⟨idx, hbp⟩ := buildPoints_succeeds (fun r hr => (h1 r hr).2) h2 h3
    have hbe := buildElements_succeeds (dim := ownDim fr) (fun r hr => (h1 r hr).1) h4
    rw [addEntry_of_free hname (buildGeometry_of_ok hbp hbe)]

theorem addGeometry_succeeds [Cell V] (f : File V) (name : String) (fr : Frame V)
    (hname : f.geoms.lookup name = none) (hv : ValidMesh fr) : (addGeometry f name fr).2 = none :=
  (addGeometry_ok_iff f name fr).2 ⟨hname, hv⟩

/-- The outcome of `add_geometry` does not depend on what was exported (or refused) before: same verdict and same stored
geometry for any two files in which the name is free.  (No sticky dimension.) -/
theorem addGeometry_history_independent [Cell V] (f f' : File V) (name : String) (fr : Frame V)
    (h : f.geoms.lookup name = none) (h' : f'.geoms.lookup name = none) :
    (addGeometry f name fr).2 = (addGeometry f' name fr).2 ∧
      (addGeometry f name fr).1.geoms.lookup name = (addGeometry f' name fr).1.geoms.lookup name := by
  rw [addGeometry_eq, addGeometry_eq]
  cases hb : buildGeometry fr with
  | none => simp only [addEntry, h, h', and_self]
  | some g =>
    rw [addEntry_of_free h rfl, addEntry_of_free h' rfl]
    exact ⟨rfl, (lookup_append_self h).trans (lookup_append_self h').symm⟩

/-- **A valid `add_variable` succeeds** (general form): the geometry exists, the variable name is free under (state,
geometry), column names and location resolve, the ids fit, the columns exist and can be stored; for ELEMENT_NODAL the keys of
the frame are distinct and are a rearrangement of the stored (element, node) pairs of the elements that occur in the frame
(whole elements of the geometry, in any row order). -/
theorem addVariable_succeeds_of_target [Cell V] (f : File V) (state geom var : String) (vfr : Frame V)
    (cols : Option (List String)) (loc : Option Nat) (names : List String) (l : Nat) (g : Geometry V)
    (hg : f.geoms.lookup geom = some g) (hfree : f.vars.lookup (state, geom, var) = none)
    (hc : resolveCols var cols = some names) (hl : resolveLoc var loc = some l) (hl26 : l = 2 ∨ l = 6)
    (hids : varIdsFit l vfr = true) (hcols : ∀ c ∈ names, c ∈ vfr.cols ∧ c ∉ vfr.objCols)
    (hen : l = 6 → (vfr.rows.map Row.key).Nodup ∧ (vfr.rows.map Row.key).Perm (enTarget g vfr)) :
    (addVariable f state geom var vfr cols loc).2 = none := by
  have hb : ∃ v, buildVariable l g vfr (names.map (fun n => vfr.cols.idxOf n)) = some v := by
    rcases hl26 with rfl | rfl
    · exact ⟨_, rfl⟩
    · exact ⟨_, buildVariable_six_of_perm _ (hen rfl).1 (hen rfl).2⟩
  obtain ⟨v, hb⟩ := hb
  have hfill : fillVariable l g vfr names = some v := by
    simp only [fillVariable, colIdx_eq_some_iff.2 ⟨fun c hc => (hcols c hc).1, rfl⟩,
      any_objCols_false fun c hc => (hcols c hc).2,
      Bool.false_eq_true, if_false, hb]
  rw [addVariable_of_resolved hg hc hl hl26 hids, addVariableCore_eq,
    addEntry_of_free ((ensureGroup_vars f state geom).symm ▸ hfree) hfill]

/-- **A valid `add_variable` succeeds**: as above; for ELEMENT_NODAL the geometry was exported from a valid frame `fr`
(distinct (element, node) pairs) and the keys of the variable's frame are a permutation of `fr`'s keys - ANY row order. -/
theorem addVariable_succeeds [Cell V] (f : File V) (state geom var : String) (vfr : Frame V)
    (cols : Option (List String)) (loc : Option Nat) (names : List String) (l : Nat) (g : Geometry V)
    (hg : f.geoms.lookup geom = some g) (hfree : f.vars.lookup (state, geom, var) = none)
    (hc : resolveCols var cols = some names) (hl : resolveLoc var loc = some l) (hl26 : l = 2 ∨ l = 6)
    (hids : varIdsFit l vfr = true) (hcols : ∀ c ∈ names, c ∈ vfr.cols ∧ c ∉ vfr.objCols)
    (hen : l = 6 → ∃ fr cidx, ExportedFrom g fr cidx ∧ (fr.rows.map Row.key).Nodup ∧
      (vfr.rows.map Row.key).Perm (fr.rows.map Row.key)) :
    (addVariable f state geom var vfr cols loc).2 = none := by
  apply addVariable_succeeds_of_target f state geom var vfr cols loc names l g hg hfree hc hl hl26 hids hcols
  intro h6
  obtain ⟨fr, cidx, hx, hvalid, hperm⟩ := hen h6
  exact keys_nodup_perm_enTarget hx hvalid hperm

theorem addSet_succeeds (f : File V) (kind : Nat) (geom : String) (ids : List Int) (fr : Frame V) (name : String)
    (hg : (f.geoms.lookup geom).isSome = true) (hsub : ∀ i ∈ ids, i ∈ idsOf kind fr) (hfit : ∀ i ∈ ids, fits32 i = true) :
    (addSet f kind geom ids fr true name).2 = none := by
  have h1 := List.all_eq_true.2 fun i hi => List.contains_iff_mem.2 (hsub i hi)
  obtain ⟨g, hg⟩ := Option.isSome_iff_exists.1 hg
  unfold addSet
  simp only [h1, List.all_eq_true.2 hfit, hg, Bool.not_true, Bool.false_eq_true, if_false]

/-! ### Identifiers outside int32 are refused; stored element types -/

theorem addGeometry_ok_ids_fit [Cell V] (f : File V) (name : String) (fr : Frame V) (h : (addGeometry f name fr).2 = none) :
    ∀ r ∈ fr.rows, fits32 r.eid = true ∧ fits32 r.nid = true :=
  ((addGeometry_ok_iff f name fr).1 h).2.1

theorem addGeometry_refuses_overflow [Cell V] (f : File V) (name : String) (fr : Frame V) (r : Row V) (hr : r ∈ fr.rows)
    (h : fits32 r.eid = false ∨ fits32 r.nid = false) :
    (addGeometry f name fr).2 ≠ none ∧ (addGeometry f name fr).1 = f := by
  have hne : (addGeometry f name fr).2 ≠ none := by
    intro hok
    have := addGeometry_ok_ids_fit f name fr hok r hr
    rcases h with h | h
    · rw [this.1] at h; cases h
    · rw [this.2] at h; cases h
  obtain ⟨e, he⟩ := Option.ne_none_iff_exists'.1 hne
  exact ⟨hne, failed_addGeometry_leaves_file_unchanged f name fr e he⟩

theorem addSet_refuses_overflow (f : File V) (kind : Nat) (geom : String) (ids : List Int) (fr : Frame V)
    (nameOk : Bool) (name : String) (i : Int) (hi : i ∈ ids) (h : fits32 i = false) :
    (addSet f kind geom ids fr nameOk name).2 ≠ none ∧ (addSet f kind geom ids fr nameOk name).1 = f := by
  rcases addSet_cases f kind geom ids fr nameOk name with ⟨e, he⟩ | ⟨g, _, hfit, _⟩
  · rw [he]; exact ⟨Option.some_ne_none e, rfl⟩
  · rw [List.all_eq_true.1 hfit i hi] at h; cases h

/-- `add_variable` refuses identifiers outside int32 as well (nodes for NODE, elements for ELEMENT_NODAL). -/
theorem addVariable_ok_ids_fit [Cell V] (f : File V) (state geom var : String) (fr : Frame V)
    (cols : Option (List String)) (loc : Option Nat) (h : (addVariable f state geom var fr cols loc).2 = none) :
    ∃ l, resolveLoc var loc = some l ∧ varIdsFit l fr = true := by
  obtain ⟨_, _, l, _, _, _, _, hl, hfit, _⟩ := addVariable_ok h
  exact ⟨l, hl, hfit⟩

/-- `elemType` read backwards: the (dimension, node count) of a type number. -/
theorem elemType_eq_some {d n t : Nat} (h : elemType d n = some t) :
    (d, n) = [(2, 3), (2, 6), (2, 4), (2, 8), (3, 4), (3, 10), (3, 6), (3, 15), (3, 8), (3, 20)].getD t (0, 0) := by
  unfold elemType at h
  split at h <;> cases h <;> rfl

theorem elemType_injective {d d' n n' t : Nat} (h : elemType d n = some t) (h' : elemType d' n' = some t) :
    d = d' ∧ n = n' :=
  Prod.mk.inj ((elemType_eq_some h).trans (elemType_eq_some h').symm)

/-- After a successful add_geometry every stored element has the type the table gives for the frame's OWN dimension and its
node count. -/
theorem stored_element_types [Cell V] (f : File V) (name : String) (fr : Frame V) (h : (addGeometry f name fr).2 = none) :
    ∃ g, (addGeometry f name fr).1.geoms.lookup name = some g ∧
      g.elements = (connectivity fr.rows).map (fun c => (c.1, (elemType (ownDim fr) c.2.length).getD 0, c.2)) ∧
      ∀ el ∈ g.elements, elemType (ownDim fr) el.2.2.length = some el.2.1 := by
  obtain ⟨g, hb, hg⟩ := addGeometry_ok h
  obtain ⟨⟨_, hall⟩, hels⟩ := buildElements_ok (buildGeometry_some hb).2.1
  refine ⟨g, hg, hels, fun el hel => ?_⟩
  rw [hels, List.mem_map] at hel
  obtain ⟨c, hc, rfl⟩ := hel
  obtain ⟨t, ht⟩ := Option.isSome_iff_exists.1 (hall c hc)
  simp only [ht, Option.getD_some]

/-! ### Variables, groups and sets persist; `After` -/

/-- `add_geometry` touches neither variables nor groups (in both outcomes). -/
theorem addGeometry_keeps_vars_groups [Cell V] (f : File V) (name : String) (fr : Frame V) :
    (addGeometry f name fr).1.vars = f.vars ∧ (addGeometry f name fr).1.groups = f.groups := by
  rw [addGeometry_eq]
  exact ⟨rfl, rfl⟩

theorem vars_persist_addGeometry [Cell V] (f : File V) (name : String) (fr : Frame V) (k : String × String × String)
    (v : Variable V) (h : f.vars.lookup k = some v) : (addGeometry f name fr).1.vars.lookup k = some v := by
  rw [(addGeometry_keeps_vars_groups f name fr).1]; exact h

theorem groups_persist_addGeometry [Cell V] (f : File V) (name : String) (fr : Frame V) :
    ∀ p ∈ f.groups, p ∈ (addGeometry f name fr).1.groups := by
  rw [(addGeometry_keeps_vars_groups f name fr).2]; exact fun _ hp => hp

/-- A successful `add_variable` appends a NEW key; a failed one leaves the variables as they were. -/
theorem vars_persist_addVariable [Cell V] (f : File V) (state geom var : String) (fr : Frame V)
    (cols : Option (List String)) (loc : Option Nat) (k : String × String × String) (v : Variable V)
    (h : f.vars.lookup k = some v) : (addVariable f state geom var fr cols loc).1.vars.lookup k = some v := by
  rcases addVariable_file f state geom var fr cols loc with hf | ⟨b, hf⟩ <;> rw [hf]
  · exact h
  · exact lookup_addEntry_of_some h

theorem groups_persist_addVariable [Cell V] (f : File V) (state geom var : String) (fr : Frame V)
    (cols : Option (List String)) (loc : Option Nat) :
    ∀ p ∈ f.groups, p ∈ (addVariable f state geom var fr cols loc).1.groups := by
  intro p hp
  rcases addVariable_file f state geom var fr cols loc with hf | ⟨b, hf⟩ <;> rw [hf]
  · exact hp
  · exact mem_ensureGroup.2 (Or.inl hp)

theorem vars_persist_addSet (f : File V) (kind : Nat) (geom : String) (ids : List Int) (fr : Frame V)
    (nameOk : Bool) (name : String) :
    (addSet f kind geom ids fr nameOk name).1.vars = f.vars ∧ (addSet f kind geom ids fr nameOk name).1.groups = f.groups := by
  rcases addSet_cases f kind geom ids fr nameOk name with ⟨e, he⟩ | ⟨g, _, _, he⟩ <;> rw [he] <;> exact ⟨rfl, rfl⟩

/-- Sets are only appended: every geometry keeps its sets as a prefix, and a look-up by (kind', name') other than the one just
stored gives what it gave before. -/
theorem sets_persist_addSet (f : File V) (kind : Nat) (gname : String) (ids : List Int) (fr' : Frame V)
    (nameOk : Bool) (name : String) (geom : String) (g : Geometry V) (hg : f.geoms.lookup geom = some g) :
    ∃ g', (addSet f kind gname ids fr' nameOk name).1.geoms.lookup geom = some g' ∧ (∃ extra, g'.sets = g.sets ++ extra) ∧
      ∀ kind' name', (geom, kind', name') ≠ (gname, kind, name) → setIds g' kind' name' = setIds g kind' name' := by
  rcases addSet_lookup f kind gname ids fr' nameOk name hg with h | ⟨rfl, h⟩
  · exact ⟨g, h, ⟨[], (List.append_nil _).symm⟩, fun _ _ _ => rfl⟩
  · refine ⟨_, h, ⟨_, rfl⟩, fun kind' name' hne => ?_⟩
    exact setIds_append_ne g kind kind' name name' ids fun heq => hne (by rw [(Prod.mk.inj heq).1, (Prod.mk.inj heq).2])

/-- Sets survive `add_variable`: no stored geometry changes.  (For `add_geometry`: `exported_persists_addGeometry`, the
stored geometry is the same object.) -/
theorem sets_persist_addVariable [Cell V] (f : File V) (state gname var : String) (fr' : Frame V)
    (cols : Option (List String)) (loc : Option Nat) (geom : String) :
    (addVariable f state gname var fr' cols loc).1.geoms.lookup geom = f.geoms.lookup geom := by
  rw [exported_persists_addVariable]

/-- `f'` is the file `f` after further exporter calls.  Refused calls are calls too: nothing has to be known about the verdicts. -/
inductive After [Cell V] (f : File V) : File V → Prop
  | refl : After f f
  | addGeometry {f'} (h : After f f') (name : String) (fr : Frame V) : After f (addGeometry f' name fr).1
  | addVariable {f'} (h : After f f') (state geom var : String) (fr : Frame V) (cols : Option (List String))
      (loc : Option Nat) : After f (addVariable f' state geom var fr cols loc).1
  | addSet {f'} (h : After f f') (kind : Nat) (geom : String) (ids : List Int) (fr : Frame V) (nameOk : Bool)
      (name : String) : After f (addSet f' kind geom ids fr nameOk name).1

/-- What no history of exporter calls undoes: the link of a geometry to its frame, the stored variables, the groups - the
hypotheses of `joinCoords_step` and of the `joinVar_step_*_stored` theorems.  (Not the set look-ups: a later set of the same
kind and name replaces an earlier one, `sets_persist_addSet`.) -/
theorem After.persists [Cell V] {f f' : File V} (h : After f f') :
    (∀ geom g fr idx, f.geoms.lookup geom = some g → ExportedFrom g fr idx →
      ∃ g', f'.geoms.lookup geom = some g' ∧ ExportedFrom g' fr idx) ∧
    (∀ k v, f.vars.lookup k = some v → f'.vars.lookup k = some v) ∧ ∀ p ∈ f.groups, p ∈ f'.groups := by
  induction h with
  | refl => exact ⟨fun _ g _ _ hg hx => ⟨g, hg, hx⟩, fun _ _ hv => hv, fun _ hp => hp⟩
  | addGeometry _ name fr' ih =>
    refine ⟨fun geom g fr idx hg hx => ?_, fun k v hv => vars_persist_addGeometry _ name fr' k v (ih.2.1 k v hv),
      fun p hp => groups_persist_addGeometry _ name fr' p (ih.2.2 p hp)⟩
    obtain ⟨g', hg', hx'⟩ := ih.1 geom g fr idx hg hx
    exact ⟨g', exported_persists_addGeometry _ name fr' geom g' hg', hx'⟩
  | addVariable _ state gname var fr' cols loc ih =>
    refine ⟨fun geom g fr idx hg hx => ?_,
      fun k v hv => vars_persist_addVariable _ state gname var fr' cols loc k v (ih.2.1 k v hv),
      fun p hp => groups_persist_addVariable _ state gname var fr' cols loc p (ih.2.2 p hp)⟩
    rw [exported_persists_addVariable]
    exact ih.1 geom g fr idx hg hx
  | @addSet f' _ kind gname ids fr' nameOk name ih =>
    have e := vars_persist_addSet f' kind gname ids fr' nameOk name
    rw [e.1, e.2]
    refine ⟨fun geom g fr idx hg hx => ?_, ih.2⟩
    obtain ⟨g', hg', hx'⟩ := ih.1 geom g fr idx hg hx
    exact exported_persists_addSet f' kind gname ids fr' nameOk name geom g' fr idx hg' hx'

/-! ### Non-vacuity

A mixed-type 2D mesh (a triangle and a quadrilateral) with element ids out of order, interleaved rows and id gaps.
Cells are `ExV` (a NaN and numbers, IEEE comparison).  Column `d`: node 1 has NaN in its FIRST row and 10 in its second;
column `p` is a free (element nodal) column; column `q` is a nodal field that is NaN at node 3. -/

inductive ExV | nan | v (n : Nat) deriving DecidableEq

instance : Cell ExV where
  beq a b := match a, b with | .v m, .v n => m == n | _, _ => false     -- IEEE: NaN ≠ NaN
  isNull a := match a with | .nan => true | _ => false

deriving instance DecidableEq for Variable

open ExV in
def exFrame : Frame ExV :=
  ⟨["x", "y", "z", "d", "p", "q"], [],
   [⟨7, 1, [v 0, v 0, v 0, nan, v 100, v 1]⟩, ⟨2, 5, [v 1, v 0, v 0, v 50, v 101, v 5]⟩,
    ⟨7, 2, [v 1, v 1, v 0, v 20, v 102, v 2]⟩, ⟨2, 1, [v 0, v 0, v 0, v 10, v 103, v 1]⟩,
    ⟨7, 3, [v 0, v 1, v 0, v 30, v 104, nan]⟩, ⟨2, 3, [v 0, v 1, v 0, v 30, v 105, nan]⟩,
    ⟨2, 4, [v 2, v 2, v 0, v 40, v 106, v 4]⟩]⟩

/-- a tetrahedron (3D: the z values differ) -/
def exTet : Frame ExV :=
  ⟨["x", "y", "z"], [],
   [⟨1, 1, [.v 0, .v 0, .v 0]⟩, ⟨1, 2, [.v 1, .v 0, .v 0]⟩, ⟨1, 3, [.v 0, .v 1, .v 0]⟩, ⟨1, 4, [.v 0, .v 0, .v 1]⟩]⟩

/-- a frame with a node id one above int32 -/
def exBig : Frame ExV :=
  ⟨["x", "y"], [], [⟨1, 1, [.v 0, .v 0]⟩, ⟨1, 2147483648, [.v 1, .v 0]⟩, ⟨1, 3, [.v 0, .v 1]⟩]⟩

/-- a frame with an element of two nodes (not in the table) and one with an object column -/
def exLine : Frame ExV := ⟨["x", "y"], [], [⟨1, 1, [.v 0, .v 0]⟩, ⟨1, 2, [.v 1, .v 0]⟩]⟩
def exObj : Frame ExV := { exFrame with objCols := ["y", "d"] }

def exFile : File ExV := (addGeometry File.empty "g" exFrame).1

/-- `exFrame.sort_index()`: the same (element, node) pairs sorted, another column, other values -/
def exSorted : Frame ExV :=
  ⟨["s"], [],
   [⟨2, 1, [.v 201]⟩, ⟨2, 3, [.v 203]⟩, ⟨2, 4, [.v 204]⟩, ⟨2, 5, [.v 205]⟩, ⟨7, 1, [.v 701]⟩, ⟨7, 2, [.v 702]⟩,
    ⟨7, 3, [.v 703]⟩]⟩
def exRev : Frame ExV := { exFrame with rows := exFrame.rows.reverse }
/-- a row missing (2, 1); an extra row (7, 4); an extra row of an unknown element; a duplicate key (7, 3); element 7 only -/
def exMissing : Frame ExV := { exSorted with rows := exSorted.rows.drop 1 }
def exExtra : Frame ExV := { exSorted with rows := exSorted.rows ++ [⟨7, 4, [.v 704]⟩] }
def exExtraElem : Frame ExV := { exSorted with rows := exSorted.rows ++ [⟨9, 1, [.v 901]⟩] }
def exDup : Frame ExV := { exSorted with rows := exSorted.rows ++ [⟨7, 3, [.v 999]⟩] }
def exOnly7 : Frame ExV := { exSorted with rows := exSorted.rows.drop 4 }

open ExV in
/-- what `add_geometry` stores for `exFrame`: nodes ascending with their first valid coordinates, element 2 (a
quadrilateral, type 2) before element 7 (a triangle, type 0) -/
def exGeom : Geometry ExV :=
  ⟨[1, 2, 3, 4, 5], 3, [[v 0, v 0, v 0], [v 1, v 1, v 0], [v 0, v 1, v 0], [v 2, v 2, v 0], [v 1, v 0, v 0]],
   [(2, 2, [5, 1, 3, 4]), (7, 0, [1, 2, 3])], []⟩

theorem exExport : addGeometry (File.empty : File ExV) "g" exFrame = (⟨[("g", exGeom)], [], []⟩, none) := rfl

-- Fixtures are unfolded by `rw`, here and below: left to unification, `exFile =?= (addGeometry …).1` reduces the projection
-- first, i.e. evaluates the exporter call.
theorem exFile_eq : exFile = ⟨[("g", exGeom)], [], []⟩ := by
  rw [exFile, exExport]

theorem exFile_exported : ∃ g idx, exFile.geoms.lookup "g" = some g ∧ ExportedFrom g exFrame idx := by
  rw [exFile]
  exact exported_after_addGeometry File.empty "g" exFrame (congrArg Prod.snd exExport)

-- hypotheses of roundtrip_mesh / roundtrip_coordinates / exported_after_addGeometry / stored_element_types /
-- addGeometry_ok_ids_fit
example : (addGeometry (File.empty : File ExV) "g" exFrame).2 = none := congrArg Prod.snd exExport
example : ownDim exFrame = 2 ∧ ownDim exTet = 3 := by decide
-- … and what is read back: element 2 (a quadrilateral) first, node order 5 1 3 4 kept
example : (readFrame exFile Session.init [.makeMesh "g" none, .joinCoords]).2
    = .ok (["x", "y", "z"],
        [((2, 5), [some (.v 1), some (.v 0), some (.v 0)]), ((2, 1), [some (.v 0), some (.v 0), some (.v 0)]),
         ((2, 3), [some (.v 0), some (.v 1), some (.v 0)]), ((2, 4), [some (.v 2), some (.v 2), some (.v 0)]),
         ((7, 1), [some (.v 0), some (.v 0), some (.v 0)]), ((7, 2), [some (.v 1), some (.v 1), some (.v 0)]),
         ((7, 3), [some (.v 0), some (.v 1), some (.v 0)])]) := by
  rw [exFile_eq]
  rfl
-- the stored element types: quadrilateral (2) and triangle (0) in one geometry
example : (exFile.geoms.lookup "g").map (·.elements) = some [(2, 2, [5, 1, 3, 4]), (7, 0, [1, 2, 3])] := by
  rw [exFile_eq]
  decide
example : elemType 2 4 = some 2 ∧ elemType 3 4 = some 4 := by decide
-- `groupby('node_id').first()` skips the NaN of node 1's first row in column d …
example : nodeValue exFrame.rows [3] 1 = [.v 10] := by decide
-- … and the nodal fields x, y, z, q satisfy the hypothesis of node_value_is_own_cells (q is NaN in all rows of node 3)
example : ∀ r ∈ exFrame.rows, ∀ r' ∈ exFrame.rows, r.nid = r'.nid → ∀ i ∈ [0, 1, 2, 5], r.vals[i]? = r'.vals[i]? := by
  decide
example : nodeValue exFrame.rows [5] 3 = [.nan] := by decide
-- hypotheses of addGeometry_succeeds (and of addGeometry_history_independent: the name is free in two different files;
-- a 2D mesh after a 3D one and the other way round: no sticky dimension)
example : ValidMesh exFrame :=
  ⟨by decide, fun _ h => by simp [exFrame] at h, by decide, by decide⟩
example : ValidMesh exTet :=
  ⟨by decide, fun _ h => by simp [exTet] at h, by decide, by decide⟩
example : exFile.geoms.lookup "h" = none ∧ (File.empty : File ExV).geoms.lookup "h" = none := by
  rw [exFile_eq]
  decide
example : (addGeometry (addGeometry File.empty "t" exTet).1 "g" exFrame).2 = none
    ∧ (addGeometry exFile "t" exTet).2 = none := by
  rw [exFile_eq]
  decide
-- hypotheses of the variable theorems
example : (exFrame.rows.map Row.key).Nodup := by decide
example : (addVariable exFile "s" "g" "N" exFrame (some ["d"]) (some 2)).2 = none := by
  rw [exFile_eq]
  decide
example : (addVariable exFile "s" "g" "STRESS_CAUCHY" exFrame (some ["p", "d"]) none).2 = none
    ∧ resolveLoc "STRESS_CAUCHY" none = some 6 := by
  rw [exFile_eq]
  decide
example : (readFrame (addVariable exFile "s" "g" "EN" exFrame (some ["p"]) (some 6)).1 Session.init
    [.makeMesh "g" (some "s"), .joinVar "EN" none (some ["q"])]).2
    = .ok (["q"], [((2, 5), [some (.v 101)]), ((2, 1), [some (.v 103)]), ((2, 3), [some (.v 105)]),
        ((2, 4), [some (.v 106)]), ((7, 1), [some (.v 100)]), ((7, 2), [some (.v 102)]), ((7, 3), [some (.v 104)])]) := by
  rw [exFile_eq]
  rfl
-- ANY ROW ORDER: hypotheses of roundtrip_element_nodal_variable / addVariable_succeeds (l = 6) for the sorted frame, the
-- reversed frame and the frame itself …
example : (exSorted.rows.map Row.key).Perm (exFrame.rows.map Row.key)
    ∧ (exRev.rows.map Row.key).Perm (exFrame.rows.map Row.key) := by decide
example : (addVariable exFile "s" "g" "ENS" exSorted (some ["s"]) (some 6)).2 = none
    ∧ (addVariable exFile "s" "g" "ENR" exRev (some ["p"]) (some 6)).2 = none
    ∧ varIdsFit 6 exSorted = true ∧ colIdx exSorted.cols ["s"] = some [0] := by
  rw [exFile_eq]
  decide
-- … the frame read back has each key's own value (mesh order: element 2 with nodes 5 1 3 4, then element 7) …
example : (readFrame (addVariable exFile "s" "g" "ENS" exSorted (some ["s"]) (some 6)).1 Session.init
    [.makeMesh "g" (some "s"), .joinVar "ENS" none (some ["q"])]).2
    = .ok (["q"], [((2, 5), [some (.v 205)]), ((2, 1), [some (.v 201)]), ((2, 3), [some (.v 203)]),
        ((2, 4), [some (.v 204)]), ((7, 1), [some (.v 701)]), ((7, 2), [some (.v 702)]), ((7, 3), [some (.v 703)])]) := by
  rw [exFile_eq]
  rfl
-- … the reversed frame gives the same file content and the same frame read back as the frame itself …
example : (addVariable exFile "s" "g" "EN" exRev (some ["p"]) (some 6)).1.vars
    = (addVariable exFile "s" "g" "EN" exFrame (some ["p"]) (some 6)).1.vars := by
  rw [exFile_eq]
  decide
example : (readFrame (addVariable exFile "s" "g" "EN" exRev (some ["p"]) (some 6)).1 Session.init
    [.makeMesh "g" (some "s"), .joinVar "EN" none (some ["q"])]).2
    = .ok (["q"], [((2, 5), [some (.v 101)]), ((2, 1), [some (.v 103)]), ((2, 3), [some (.v 105)]),
        ((2, 4), [some (.v 106)]), ((7, 1), [some (.v 100)]), ((7, 2), [some (.v 102)]), ((7, 3), [some (.v 104)])]) := by
  rw [exFile_eq]
  rfl
-- … a frame with a row missing / an extra row (known or unknown element) / a duplicate key is refused and the file keeps
-- its variables (here: none; a file with variables: below, `exF2`) …
example : (addVariable exFile "s" "g" "V" exMissing (some ["s"]) (some 6)).2 = some .exportErr
    ∧ (addVariable exFile "s" "g" "V" exExtra (some ["s"]) (some 6)).2 = some .exportErr
    ∧ (addVariable exFile "s" "g" "V" exExtraElem (some ["s"]) (some 6)).2 = some .exportErr
    ∧ (addVariable exFile "s" "g" "V" exDup (some ["s"]) (some 6)).2 = some .exportErr := by
  rw [exFile_eq]
  decide
example : (addVariable exFile "s" "g" "V" exMissing (some ["s"]) (some 6)).1.vars = exFile.vars
    ∧ (addVariable exFile "s" "g" "V" exExtra (some ["s"]) (some 6)).1.vars = exFile.vars
    ∧ (addVariable exFile "s" "g" "V" exDup (some ["s"]) (some 6)).1.vars = exFile.vars := by
  rw [exFile_eq]
  decide
-- … and whole elements of the geometry are accepted (element 7 only): the rows of element 2 read back as NaN cells
example : (readFrame (addVariable exFile "s" "g" "E7" exOnly7 (some ["s"]) (some 6)).1 Session.init
    [.makeMesh "g" (some "s"), .joinVar "E7" none (some ["q"])]).2
    = .ok (["q"], [((2, 5), [none]), ((2, 1), [none]), ((2, 3), [none]),
        ((2, 4), [none]), ((7, 1), [some (.v 701)]), ((7, 2), [some (.v 702)]), ((7, 3), [some (.v 703)])]) := by
  rw [exFile_eq]
  rfl
-- hypotheses of refused_addVariable_creates_nothing: unknown geometry, no default columns, no default location, a location
-- that is no member, ids that do not fit; nothing is created (compare the colIdx failure below, where the MODEL leaves the group)
example : exFile.geoms.lookup "nogeo" = none ∧ resolveCols "V" none = none ∧ resolveLoc "V" none = none
    ∧ resolveLoc "V" (some 5) = some 5 ∧ varIdsFit 2 exBig = false := by
  rw [exFile_eq]
  decide
example : (addVariable exFile "s" "g" "V" exBig (some ["x"]) (some 2)).1.groups = []
    ∧ (addVariable exFile "s" "g" "V" exFrame none (some 2)).1.groups = []
    ∧ (addVariable exFile "s" "g" "V" exFrame (some ["d"]) (some 5)).1.groups = [] := by
  rw [exFile_eq]
  decide
-- hypotheses of addVariable_succeeds
example : (exFile.geoms.lookup "g").isSome = true ∧ exFile.vars.lookup ("s", "g", "N") = none
    ∧ resolveCols "N" (some ["d", "q"]) = some ["d", "q"] ∧ resolveLoc "N" (some 2) = some 2
    ∧ varIdsFit 2 exFrame = true ∧ ∀ c ∈ ["d", "q"], c ∈ exFrame.cols ∧ c ∉ exFrame.objCols := by
  rw [exFile_eq]
  decide
-- hypotheses of the filter theorems and of addSet_succeeds
example : (addSet exFile 0 "g" [3, 1] exFrame true "FIX").2 = none := by
  rw [exFile_eq]
  decide
example : (addSet exFile 1 "g" [7] exFrame true "").2 = none := by
  rw [exFile_eq]
  decide
example : (∀ i ∈ [3, 1], i ∈ idsOf 0 exFrame) ∧ ∀ i ∈ [3, 1], fits32 i = true := by decide
-- failing calls exist for each failed_* theorem: duplicate name, unsupported node count (roll-back branch),
-- object coordinate column, missing column (roll-back branch), object data column, unknown geometry, members
-- outside the mesh, non-string name
example : (addGeometry exFile "g" exFrame).2 = some .key := by
  rw [exFile_eq]
  decide
example : (addGeometry exFile "h" exLine).2 = some .exportErr := by
  rw [exFile_eq]
  decide
example : (addGeometry exFile "h" exObj).2 = some .exportErr := by
  rw [exFile_eq]
  decide
example : (addVariable exFile "s" "g" "V" exFrame (some ["nope"]) (some 6)).2 = some .exportErr := by
  rw [exFile_eq]
  decide
example : (addVariable exFile "s" "g" "V" exObj (some ["d"]) (some 6)).2 = some .exportErr := by
  rw [exFile_eq]
  decide
example : (addVariable exFile "s" "nogeo" "V" exFrame (some ["d"]) (some 2)).2 = some .key := by
  rw [exFile_eq]
  decide
example : (addSet exFile 0 "g" [99] exFrame true "A").2 = some .key := by decide
example : (addSet exFile 0 "g" [1] exFrame false "A").2 = some .typeErr := by decide
-- the model's failed add_variable can leave the empty group it created (outside the statement; the code refuses a missing
-- column before it creates any group: header of `Model/Vmap.lean`)
example : (addVariable exFile "s" "g" "V" exFrame (some ["nope"]) (some 6)).1.groups = [("s", "g")] := by
  rw [exFile_eq]
  decide
-- hypotheses of the *_refuses_overflow theorems: an id one above int32, in a geometry, a variable and a set
example : fits32 2147483648 = false ∧ fits32 2147483647 = true ∧ fits32 (-2147483648) = true
    ∧ fits32 (-2147483649) = false := by decide
example : (⟨1, 2147483648, [.v 1, .v 0]⟩ : Row ExV) ∈ exBig.rows := by simp [exBig]
example : (addGeometry exFile "h" exBig).2 = some .exportErr := by
  rw [exFile_eq]
  decide
example : (addVariable exFile "s" "g" "V" exBig (some ["x"]) (some 2)).2 = some .exportErr := by
  rw [exFile_eq]
  decide
example : (addSet exFile 0 "g" [2147483648] exBig true "A").2 = some .overflow := by decide

/-! A later history: variables `N` (node) and `EN` (element nodal), then another geometry, a refused geometry, a set, a
refused variable.  The hypotheses of the `*_stored` step theorems hold in the final file, and a chain of a shape other
than `[makeMesh, joinVar]` (filter, coordinates, two variables) reads what the step theorems say. -/

/-- what the two variables of the history below store -/
def exN : Variable ExV := ⟨2, 2, nodeIds exFrame, (nodeIds exFrame).map (nodeValue exFrame.rows [3, 5])⟩
def exEN : Variable ExV :=
  ⟨6, 1, [2, 7], [[.v 101], [.v 103], [.v 105], [.v 106], [.v 100], [.v 102], [.v 104]]⟩

/-- `exEN` is what `add_variable` builds from column `p` of `exFrame` for ANY geometry exported from `exFrame` (whatever
sets were added to it since). -/
theorem exEN_built (g : Geometry ExV) (cidx : List Nat) (hx : ExportedFrom g exFrame cidx) :
    buildVariable 6 g exFrame [4] = some exEN := by
  rw [buildVariable_six_exported hx (by decide) (List.Perm.refl _)]
  decide

def exF1 : File ExV := (addVariable exFile "s" "g" "N" exFrame (some ["d", "q"]) (some 2)).1
def exF2 : File ExV := (addVariable exF1 "s" "g" "EN" exFrame (some ["p"]) (some 6)).1
def exF3 : File ExV := (addGeometry exF2 "t" exTet).1
def exF4 : File ExV := (addGeometry exF3 "bad" exLine).1
def exF5 : File ExV := (addSet exF4 0 "g" [3, 1] exFrame true "FIX").1
def exFile2 : File ExV := (addVariable exF5 "s" "g" "V" exFrame (some ["nope"]) (some 6)).1

open ExV in
/-- what `add_geometry` stores for `exTet` -/
def exTetGeom : Geometry ExV :=
  ⟨[1, 2, 3, 4], 3, [[v 0, v 0, v 0], [v 1, v 0, v 0], [v 0, v 1, v 0], [v 0, v 0, v 1]], [(1, 4, [1, 2, 3, 4])], []⟩

theorem exF2_eq : exF2 = ⟨[("g", exGeom)], [("s", "g")], [(("s", "g", "N"), exN), (("s", "g", "EN"), exEN)]⟩ := by
  rw [exF2, exF1, exFile_eq]
  rfl

/-- The file after the whole history: the refused geometry `bad` and the refused variable `V` have left nothing. -/
theorem exFile2_eq : exFile2 = ⟨[("g", { exGeom with sets := [⟨0, "FIX", [3, 1]⟩] }), ("t", exTetGeom)], [("s", "g")],
    [(("s", "g", "N"), exN), (("s", "g", "EN"), exEN)]⟩ := by
  rw [exFile2, exF5, exF4, exF3, exF2_eq]
  rfl

-- the verdicts of the six calls
example : (addVariable exFile "s" "g" "N" exFrame (some ["d", "q"]) (some 2)).2 = none
    ∧ (addVariable exF1 "s" "g" "EN" exFrame (some ["p"]) (some 6)).2 = none
    ∧ (addGeometry exF2 "t" exTet).2 = none ∧ (addGeometry exF3 "bad" exLine).2 = some .exportErr
    ∧ (addSet exF4 0 "g" [3, 1] exFrame true "FIX").2 = none
    ∧ (addVariable exF5 "s" "g" "V" exFrame (some ["nope"]) (some 6)).2 = some .exportErr := by
  rw [exF5, exF4, exF3, exF2_eq, exF1, exFile_eq]
  decide

theorem exFile2_after {f : File ExV} (h : After f exF2) : After f exFile2 := by
  rw [exFile2, exF5, exF4, exF3]
  exact (((h.addGeometry "t" exTet).addGeometry "bad" exLine).addSet 0 "g" [3, 1] exFrame true "FIX").addVariable
    "s" "g" "V" exFrame (some ["nope"]) (some 6)

/-- The geometry `g` of the final file is still linked to `exFrame` (`After.persists`, not evaluation). -/
theorem exFile2_exported : ∃ g idx, exFile2.geoms.lookup "g" = some g ∧ ExportedFrom g exFrame idx := by
  obtain ⟨g, idx, hg, hx⟩ := exFile_exported
  have h : After exFile exF2 := by
    rw [exF2, exF1]
    exact (After.refl.addVariable "s" "g" "N" exFrame (some ["d", "q"]) (some 2)).addVariable
      "s" "g" "EN" exFrame (some ["p"]) (some 6)
  obtain ⟨g', hg', hx'⟩ := (exFile2_after h).persists.1 "g" g exFrame idx hg hx
  exact ⟨g', idx, hg', hx'⟩

/-- … and the variables written at the beginning are still there. -/
theorem exFile2_vars : exFile2.vars.lookup ("s", "g", "N") = some exN
    ∧ exFile2.vars.lookup ("s", "g", "EN") = some exEN ∧ ("s", "g") ∈ exFile2.groups := by
  have h := (exFile2_after After.refl).persists.2
  refine ⟨h.1 _ _ ?_, h.1 _ _ ?_, h.2 _ ?_⟩ <;> rw [exF2_eq]
  · rfl
  · rfl
  · exact List.mem_singleton_self _

/-- The step theorems apply in the final file to ANY session state of geometry `g`. -/
example (s : Session ExV) (labels : List String) (rows : MeshRows ExV) (hs : s.mesh = some (labels, rows))
    (hgeo : s.geometry = "g") (hst : pickState none s.state = some "s")
    (hd : ["dd", "qq"].any (fun l => labels.contains l) = false) :
    impStep exFile2 s (.joinVar "N" none (some ["dd", "qq"]))
      = ({ s with state := some "s", mesh := some (labels ++ ["dd", "qq"], rows.map (fun r => (r.1, r.2 ++
          cellsOf 2 (if r.1.2 ∈ nodeIds exFrame then some (nodeValue exFrame.rows [3, 5] r.1.2) else none)))) }, none) := by
  obtain ⟨g, _, hg, _⟩ := exFile2_exported
  exact joinVar_step_node_stored exFile2 "s" "g" "N" exFrame [3, 5] g hg exFile2_vars.1 exFile2_vars.2.2 s labels rows
    hs hgeo none hst _ hd rfl

example (s : Session ExV) (labels : List String) (rows : MeshRows ExV) (hs : s.mesh = some (labels, rows))
    (hgeo : s.geometry = "g") (hd : ["pp"].any (fun l => labels.contains l) = false) :
    impStep exFile2 s (.joinVar "EN" (some "s") (some ["pp"]))
      = ({ s with state := some "s", mesh := some (labels ++ ["pp"], rows.map (fun r => (r.1, r.2 ++
          cellsOf 1 (if r.1 ∈ (byElement exFrame.rows).map Row.key
            then (rowAt exFrame.rows r.1).map (selRow [4]) else none)))) }, none) := by
  obtain ⟨g, cidx, hg, hx⟩ := exFile2_exported
  rw [← (enTarget_any_row_order g exFrame exFrame cidx hx (List.Perm.refl _)).1]
  exact joinVar_step_element_nodal_stored exFile2 "s" "g" "EN" exFrame exFrame [4] g cidx exEN hg hx (exEN_built g cidx hx)
    exFile2_vars.2.1 exFile2_vars.2.2 s labels rows hs hgeo (some "s") rfl _ hd rfl

example (s : Session ExV) (labels : List String) (rows : MeshRows ExV) (hs : s.mesh = some (labels, rows))
    (hgeo : s.geometry = "g") (hd : (coordNames exFrame).any (fun l => labels.contains l) = false)
    (hrows : ∀ r ∈ rows, r.1.2 ∈ nodeIds exFrame) :
    ∃ cidx, colIdx exFrame.cols (coordNames exFrame) = some cidx ∧
      impStep exFile2 s .joinCoords = ({ s with mesh := some (labels ++ coordNames exFrame,
        rows.map (fun r => (r.1, r.2 ++ (nodeValue exFrame.rows cidx r.1.2).map some))) }, none) := by
  obtain ⟨g, cidx, hg, hx⟩ := exFile2_exported
  exact ⟨cidx, hx.cidx, joinCoords_step exFile2 "g" g exFrame cidx hg hx s labels rows hs hgeo hd hrows⟩

-- the success / refusal theorems applied
example : (addGeometry exFile "t" exTet).2 = none :=
  addGeometry_succeeds exFile "t" exTet (by rw [exFile_eq]; rfl) ⟨by decide, fun _ h => by simp [exTet] at h, by decide, by decide⟩
example : (addVariable exFile "s" "g" "N" exFrame (some ["d", "q"]) (some 2)).2 = none := by
  obtain ⟨g, _, hg, _⟩ := exFile_exported
  exact addVariable_succeeds exFile "s" "g" "N" exFrame _ _ ["d", "q"] 2 g hg (by rw [exFile_eq]; rfl) rfl rfl (Or.inl rfl)
    (by decide) (by decide) (fun h => absurd h (by decide))
-- ELEMENT_NODAL from the SORTED frame: accepted because its keys are a permutation of the geometry frame's keys …
example : (addVariable exFile "s" "g" "ENS" exSorted (some ["s"]) (some 6)).2 = none := by
  obtain ⟨g, cidx, hg, hx⟩ := exFile_exported
  exact addVariable_succeeds exFile "s" "g" "ENS" exSorted _ _ ["s"] 6 g hg (by rw [exFile_eq]; rfl) rfl rfl (Or.inr rfl)
    (by decide) (by decide) (fun _ => ⟨exFrame, cidx, hx, by decide, by decide⟩)
-- … and the round-trip theorem applied to it, on any importer state: every mesh row gets the cells of the row of the SORTED
-- frame with its key
example (s : Session ExV) :
    (readFrame (addVariable exFile "s" "g" "ENS" exSorted (some ["s"]) (some 6)).1 s
        [.makeMesh "g" (some "s"), .joinVar "ENS" none (some ["q"])]).2
      = .ok (["q"], (byElement exFrame.rows).map (fun r =>
          (r.key, cellsOf 1 ((rowAt exSorted.rows r.key).map (selRow [0]))))) := by
  obtain ⟨g, cidx, hg, hx⟩ := exFile_exported
  obtain ⟨names, idx, h1, h4, hread⟩ := roundtrip_element_nodal_variable exFile "s" "g" "ENS" exFrame exSorted
    (some ["s"]) (some 6) g cidx (by decide) (by decide) hg hx (by rw [exFile_eq]; decide) rfl s ["q"]
  cases h1
  have h4' : colIdx exSorted.cols ["s"] = some [0] := by decide
  rw [h4'] at h4
  cases h4
  exact hread rfl
-- the values behind those look-ups, and the partner row the corollary promises
example : (byElement exFrame.rows).map (fun r => (r.key, cellsOf 1 ((rowAt exSorted.rows r.key).map (selRow [0]))))
    = [((2, 5), [some (.v 205)]), ((2, 1), [some (.v 201)]), ((2, 3), [some (.v 203)]),
        ((2, 4), [some (.v 204)]), ((7, 1), [some (.v 701)]), ((7, 2), [some (.v 702)]), ((7, 3), [some (.v 703)])] := by
  decide
example : ∃ r', rowAt exSorted.rows (2, 5) = some r' ∧ r' ∈ exSorted.rows ∧ r'.key = (2, 5) ∧
    ∀ r'' ∈ exSorted.rows, r''.key = (2, 5) → r'' = r' :=
  roundtrip_element_nodal_row_found exFrame exSorted (by decide) (by decide) ⟨2, 5, [.v 1, .v 0, .v 0, .v 50, .v 101, .v 5]⟩
    (by simp [exFrame])
-- a refused frame leaves the variables of a file that has some (the `N` and `EN` of `exF2`)
example : (addVariable exF2 "s" "g" "V" exMissing (some ["s"]) (some 6)).2 = some .exportErr
    ∧ (addVariable exF2 "s" "g" "V" exMissing (some ["s"]) (some 6)).1.vars.lookup ("s", "g", "EN") = some exEN
    ∧ (addVariable exF2 "s" "g" "V" exDup (some ["s"]) (some 6)).1.vars.lookup ("s", "g", "N") = some exN
    ∧ ((addVariable exF2 "s" "g" "V" exDup (some ["s"]) (some 6)).1.vars.map (·.1)) = exF2.vars.map (·.1) := by
  rw [exF2_eq]
  decide
example (f : File ExV) : (addVariable f "s" "g" "V" exBig (some ["x"]) (some 2)).1 = f
    ∧ (addVariable f "s" "g" "V" exBig (some ["x"]) (some 2)).2 ≠ none :=
  refused_addVariable_creates_nothing f "s" "g" "V" exBig _ _ (Or.inr (Or.inr (Or.inr ⟨2, rfl, Or.inr (by decide)⟩)))
example : (addSet exFile 0 "g" [3, 1] exFrame true "FIX").2 = none :=
  addSet_succeeds exFile 0 "g" [3, 1] exFrame "FIX" (by rw [exFile_eq]; rfl) (by decide) (by decide)
example (f : File ExV) (name : String) : (addGeometry f name exBig).2 ≠ none ∧ (addGeometry f name exBig).1 = f :=
  addGeometry_refuses_overflow f name exBig ⟨1, 2147483648, [.v 1, .v 0]⟩ (by simp [exBig]) (Or.inr (by decide))
example (f : File ExV) (fr : Frame ExV) :
    (addSet f 0 "g" [1, 2147483648] fr true "A").2 ≠ none ∧ (addSet f 0 "g" [1, 2147483648] fr true "A").1 = f :=
  addSet_refuses_overflow f 0 "g" [1, 2147483648] fr true "A" 2147483648 (by simp) (by decide)

example : exFile2.vars.lookup ("s", "g", "N") = some exN
    ∧ exFile2.vars.lookup ("s", "g", "EN") = some exEN
    ∧ ("s", "g") ∈ exFile2.groups ∧ (exFile2.geoms.lookup "g").isSome = true
    ∧ colIdx exFrame.cols ["d", "q"] = some [3, 5] := by
  rw [exFile2_eq]
  decide
example : (readFrame exFile2 Session.init
    [.makeMesh "g" (some "s"), .filterNodes "FIX", .joinCoords, .joinVar "N" none (some ["dd", "qq"]),
     .joinVar "EN" (some "s") (some ["pp"])]).2
    = .ok (["x", "y", "z", "dd", "qq", "pp"],
        [((2, 1), [some (.v 0), some (.v 0), some (.v 0), some (.v 10), some (.v 1), some (.v 103)]),
         ((2, 3), [some (.v 0), some (.v 1), some (.v 0), some (.v 30), some .nan, some (.v 105)]),
         ((7, 1), [some (.v 0), some (.v 0), some (.v 0), some (.v 10), some (.v 1), some (.v 100)]),
         ((7, 3), [some (.v 0), some (.v 1), some (.v 0), some (.v 30), some .nan, some (.v 104)])]) := by
  rw [exFile2_eq]
  rfl
-- hypotheses `hdisj` / `hst` of the step theorems on a session that already has joined columns
example : (["dd", "qq"].any (fun l => ["x", "y", "z"].contains l)) = false
    ∧ pickState none (some "s") = some "s" ∧ pickState (some "s") none = some "s" := by decide
-- sets_persist_addSet: a second set of the same kind under another name leaves the first look-up alone
example : ((addSet exFile2 0 "g" [5] exFrame true "LOAD").1.geoms.lookup "g").bind (fun g => setIds g 0 "FIX")
    = some [3, 1] := by
  rw [exFile2_eq]
  decide

end PylifeVerif.C20
