/-
Bridge C08: the definitions that /verif/translate/closedform.py regenerates from the CURRENT source of
  src/pylife/utils/functions.py             (Generated/Functions.lean:   scattering_range_to_std, std_to_scattering_range)
  src/pylife/materiallaws/woehlercurve.py   (Generated/WoehlerCurve.lean: the `k_2` assignments of miner_original /
                                             miner_elementary / miner_haibach)
are equal, over ℝ, to the hand-written model `Model/Woehler.lean` that the theorems of `Proofs/C08.lean` are about
(`std_range_inverse`, `std_range_literals`, `SD90_over_SD10`, `N90_over_N10…`, `miner_variants…`).  Editing a literal
or a coefficient in the source changes the generated definition and these proofs stop compiling.
`basquin_cycles` / `basquin_load` / `_make_k` / `transform_to_failure_probability` are array glue (masked assignment,
broadcast, scipy ppf) outside the translator's straight-line subset: they stay tied by the correspondence run (K).
-/
import Model.Woehler
import Proofs.BridgeTactics
import Generated.Functions
import Generated.FunctionsStatus
import Generated.WoehlerCurve
import Generated.WoehlerCurveStatus

-- `bridge` / `bridge_leaf` try alternatives of which some are unreachable or do nothing on a given goal
-- (`unusedTactic`, `unreachableTactic`); one `simp only` list serves several goals (`unusedSimpArgs`)
set_option linter.unusedTactic false
set_option linter.unreachableTactic false
set_option linter.unusedSimpArgs false

namespace PylifeVerif.Bridge
open PylifeVerif PylifeVerif.Woehler

/-- generated `Ext` (a number or `np.inf`) as the hand model's `Woehler.Life` -/
def woehlerLifeOfExt : Generated.Ext ℝ → Woehler.Life ℝ
  | .fin x => .finite x
  | .posInf => .inf

theorem scattering_range_to_std_eq (T : ℝ) :
    Generated.scattering_range_to_std T = scatteringRangeToStd T := by
  (simp only [Generated.scattering_range_to_std, scatteringRangeToStd, scatteringRangeToStdWith, cRange,
    transc_log10]) <;> bridge

theorem std_to_scattering_range_eq (s : ℝ) :
    Generated.std_to_scattering_range s = stdToScatteringRange s := by
  (simp only [Generated.std_to_scattering_range, stdToScatteringRange, stdToScatteringRangeWith, cStd,
    transc_pow]) <;> bridge

/-- the three Miner modifiers: only `k_2` is assigned on the copy, with the model's value -/
theorem miner_k2_eq (w : Curve ℝ) :
    woehlerLifeOfExt (Generated.WoehlerCurve.miner_original_k_2 w.k1) = (minerOriginal w).k2 ∧
    woehlerLifeOfExt (Generated.WoehlerCurve.miner_elementary_k_2 w.k1) = (minerElementary w).k2 ∧
    woehlerLifeOfExt (Generated.WoehlerCurve.miner_haibach_k_2 w.k1) = (minerHaibach w).k2 := by
  refine ⟨?_, ?_, ?_⟩ <;>
    (simp only [Generated.WoehlerCurve.miner_original_k_2, Generated.WoehlerCurve.miner_elementary_k_2,
      Generated.WoehlerCurve.miner_haibach_k_2, minerOriginal, minerElementary, minerHaibach, woehlerLifeOfExt,
      Life.finite.injEq]) <;> bridge

end PylifeVerif.Bridge
