/-
C06 — (a) the strains the laws return, (b) bisection on the bracket, the iteration of the Seeger-Beste solver.

(a) `law.strain(σ, L)` / `law.strain_secondary_branch(Δσ, ΔL)` (`Model/Notch.lean: lawStrain, lawStrainSec`) are the
Ramberg-Osgood strain of the stress (Masing-doubled on the secondary branch).  At a root of the law's defining equation
this strain IS the right-hand side of the equation (`L/σ · K_p · e*(L)`, for Seeger-Beste times the middle term): the
stress / strain pair the law returns satisfies the defining equation "with the Ramberg-Osgood strain".  The strain is odd and
strictly increasing in the stress (`law_strain_odd_strictMono`); oddness and monotonicity in the load it then has from the root
(`C07Neuber.IsNeuberStress.strain_odd_strictMono`).  The bare `example` at
the end of (a) states the hypotheses of `seegerBeste_strain_at_root` at one instance.

(b) `Model/Notch.lean: bisect` is the halving loop of `SeegerBeste._root_in_bracket` without its stopping rule (interval
below 5 % of `tol + rtol·|root|`) and without the final linear interpolation (which is clipped to the last interval and
therefore obeys the same bound): the function is evaluated at interior points only, never at the bracket ends (where the
coded quotient form takes its `np.divide` fall-back values).  `bisect_encloses_root` is about any function with the sign
structure `f x < 0 ↔ x < r` INSIDE the interval; `seegerBeste_bisection_converges` / `seegerBeste_backward_bisection_converges`
instantiate it with the coded Seeger-Beste quotient form on `(L/K_p, L)` resp. `(σ, K_p σ)`: after `n` halvings the value is
within `(width of the bracket) / 2^(n+1)` of THE root in the bracket.  An iteration of this kind cannot leave the bracket,
cannot land on one of the spurious roots outside of it and reaches every tolerance.  `seegerBeste_implicit_limit_at_load` is
the value `_stress_implicit_limit` that the code's interpolation uses for the end `σ = L` in place of the fall-back value there.
-/
import Proofs.C06SeegerBeste

namespace PylifeVerif.C06
open PylifeVerif.Notch Set

variable {m : Mat ℝ}

/-! ## (a) the strains -/

/-- what `strain` / `strain_secondary_branch` compute: the Ramberg-Osgood strain of the stress, `2·ε(Δσ/2)` on the secondary
branch; the load argument does not enter -/
theorem law_strain_rambergOsgood (m : Mat ℝ) (s L L' ds dL dL' : ℝ) :
    lawStrain m s L = roStrain m s ∧ lawStrain m s L = lawStrain m s L' ∧
    lawStrainSec m ds dL = 2 * roStrain m (ds / 2) ∧ lawStrainSec m ds dL = lawStrainSec m ds dL' := by
  exact ⟨rfl, rfl, roDeltaStrain_eq m ds, rfl⟩

/-- **extended Neuber: at a root the returned strain is the right-hand side of the defining equation** (all arguments) -/
theorem neuber_strain_at_root (m : Mat ℝ) (s L ds dL : ℝ) :
    (stressImplicit m s L = 0 ↔ lawStrain m s L = neuberStrain m s L) ∧
    (stressSecImplicit m ds dL = 0 ↔ lawStrainSec m ds dL = neuberStrainSec m ds dL) := by
  unfold stressImplicit stressSecImplicit lawStrain lawStrainSec
  exact ⟨sub_eq_zero, sub_eq_zero⟩

/-- **Seeger-Beste: at a root in the open bracket the returned strain is middle term × Neuber term** (eq. 2.8-42 / 2.8-43) -/
theorem seegerBeste_strain_at_root (h : m.Adm) (hKp : 1 < m.Kp) :
    (∀ {s L : ℝ}, 0 < L → L / m.Kp < s → s < L →
      (sbStressImplicit m s L = 0 ↔ lawStrain m s L = middleTerm m s L * neuberStrain m s L)) ∧
    (∀ {ds dL : ℝ}, 0 < dL → dL / m.Kp < ds → ds < dL →
      (sbStressSecImplicit m ds dL = 0 ↔ lawStrainSec m ds dL = middleTerm m ds dL * neuberStrainSec m ds dL)) := by
  refine ⟨fun hL h1 h2 => (seegerBeste_root_iff_partial h hKp hL h1 h2).2.2.2, fun hL h1 h2 => ?_⟩
  -- the secondary clause is the primary clause of the material `m.masing`
  rw [sbStressSecImplicit_eq_masing h, lawStrainSec, roDeltaStrain_eq_masing h, neuberStrainSec_eq_masing h]
  exact (seegerBeste_root_iff_partial h.masing hKp hL h1 h2).2.2.2

/-- **the strain is odd and strictly increasing in the stress** (both branches) -/
theorem law_strain_odd_strictMono (h : m.Adm) (L : ℝ) :
    (∀ s, lawStrain m (-s) (-L) = -lawStrain m s L) ∧ StrictMono (fun s => lawStrain m s L) ∧
    (∀ ds, lawStrainSec m (-ds) (-L) = -lawStrainSec m ds L) ∧ StrictMono (fun ds => lawStrainSec m ds L) := by
  have h2 := And.intro (roStrain_neg m.masing) (roStrain_strictMono h.masing)
  rw [← roDeltaStrain_eq_masing h] at h2
  exact ⟨roStrain_neg m, roStrain_strictMono h, h2.1, h2.2⟩

example : (⟨206000, 1184, 0.187, 3.5⟩ : Mat ℝ).Adm ∧ (1 : ℝ) < (⟨206000, 1184, 0.187, 3.5⟩ : Mat ℝ).Kp ∧
    (400 : ℝ) / 3.5 < 300 ∧ (300 : ℝ) < 400 := by
  refine ⟨exAdm, by norm_num, by norm_num, by norm_num⟩

/-! ## (b) bisection on the bracket -/

/-- **Bisection encloses the root**: if inside `(lo, hi)` the function is negative exactly below `r ∈ [lo, hi]`, the value
after `n` halvings is within `(hi − lo) / 2^(n+1)` of `r`.  The function is only evaluated at interior points. -/
theorem bisect_encloses_root (f : ℝ → ℝ) (r : ℝ) (n : ℕ) :
    ∀ lo hi : ℝ, lo < hi → lo ≤ r → r ≤ hi → (∀ x, lo < x → x < hi → (f x < 0 ↔ x < r)) →
      |bisect f n lo hi - r| ≤ (hi - lo) / 2 ^ (n + 1) := by
  induction n with
  | zero =>
    intro lo hi _ h1 h2 _
    simp only [bisect, lit_two]
    rw [zero_add, pow_one, abs_le]
    constructor <;> linarith
  | succ n ih =>
    intro lo hi hlt h1 h2 hs
    have hm1 : lo < (lo + hi) / 2 := by linarith
    have hm2 : (lo + hi) / 2 < hi := by linarith
    have hsign := hs _ hm1 hm2
    -- either half has width `(hi − lo) / 2`
    have half : ∀ x : ℝ, x / 2 / 2 ^ (n + 1) = x / 2 ^ (n + 1 + 1) := fun x => by rw [div_div, ← pow_succ']
    simp only [bisect, lit_two, lit_zero]
    split_ifs with hneg
    · have := ih ((lo + hi) / 2) hi hm2 (hsign.mp hneg).le h2 (fun x hx1 hx2 => hs x (hm1.trans hx1) hx2)
      rwa [show hi - (lo + hi) / 2 = (hi - lo) / 2 by ring, half] at this
    · have := ih lo ((lo + hi) / 2) hm1 h1 (not_lt.mp (fun hc => hneg (hsign.mpr hc)))
        (fun x hx1 hx2 => hs x hx1 (hx2.trans hm2))
      rwa [show (lo + hi) / 2 - lo = (hi - lo) / 2 by ring, half] at this

/-- **Forward direction of the Seeger-Beste solver**: bisection of the coded quotient form on `[L/K_p, L]` converges
to the root in the open bracket, with the error bound `(L − L/K_p) / 2^(n+1)` after `n` halvings. -/
theorem seegerBeste_bisection_converges (h : m.Adm) (hKp : 1 < m.Kp) {L : ℝ} (hL : 0 < L) :
    ∃ r, L / m.Kp < r ∧ r < L ∧ sbStressImplicit m r L = 0 ∧
      ∀ n, |bisect (fun s => sbStressImplicit m s L) n (L / m.Kp) L - r| ≤ (L - L / m.Kp) / 2 ^ (n + 1) := by
  obtain ⟨r, hr1, hr2, hroot, _⟩ := seegerBeste_exists_unique_root h hKp hL
  refine ⟨r, hr1, hr2, hroot, fun n => ?_⟩
  have hmono := (seegerBeste_strictMono_in_stress h hKp hL).2
  refine bisect_encloses_root _ r n _ _ (div_lt_self hL hKp) hr1.le hr2.le (fun x hx1 hx2 => ?_)
  have := hmono.lt_iff_lt ⟨hx1, hx2⟩ ⟨hr1, hr2⟩
  rwa [hroot] at this

/-- **Backward direction**: bisection of `L ↦ −sbStressImplicit m σ L` on `[σ, K_p σ]` converges to the load whose root is `σ`.
The sign comes from `sbG` (`seegerBeste_pos_iff_G`, `sbG_strictAntiOn_load`), not as in the forward direction from the quotient
form: that the quotient form is strictly monotone in the load is not proved. -/
theorem seegerBeste_backward_bisection_converges (h : m.Adm) (hKp : 1 < m.Kp) {s : ℝ} (hs : 0 < s) :
    ∃ L, s < L ∧ L < m.Kp * s ∧ sbStressImplicit m s L = 0 ∧
      ∀ n, |bisect (fun L' => -sbStressImplicit m s L') n s (m.Kp * s) - L| ≤ (m.Kp * s - s) / 2 ^ (n + 1) := by
  obtain ⟨L, hL, hG0⟩ := sbG_exists_root_load h hKp hs
  refine ⟨L, hL.1, hL.2, (seegerBeste_root_iff_G h hKp (hs.trans hL.1) ((load_mem_iff hKp).mp hL)).mpr hG0, fun n => ?_⟩
  refine bisect_encloses_root _ L n _ _ (lt_mul_of_one_lt_left hs hKp) hL.1.le hL.2.le (fun x hx1 hx2 => ?_)
  rw [neg_lt_zero, seegerBeste_pos_iff_G h hKp (hs.trans hx1) ((load_mem_iff hKp).mp ⟨hx1, hx2⟩), ← hG0]
  exact (sbG_strictAntiOn_load h hKp hs).lt_iff_gt hL ⟨hx1, hx2⟩

/-- **The end value the solver uses at `σ = L`** (`SeegerBeste._stress_implicit_limit`): the coded quotient form tends to
`ε(L) / (K_p·e*(L)) − 1` for `σ → L⁻` (`seegerBeste_bracket_quotient`), and this limit is `≥ 0`: the sign the bisection
assumes above the root.  (The VALUE of the coded function at `σ = L` is `ε/0 − 1`, not this limit.) -/
theorem seegerBeste_implicit_limit_at_load (h : m.Adm) (hKp : 1 < m.Kp) {L : ℝ} (hL : 0 < L) :
    Filter.Tendsto (fun s => sbStressImplicit m s L) (nhdsWithin L (Set.Iio L))
      (nhds (roStrain m L / (m.Kp * eStar m L) - 1)) ∧
    0 ≤ roStrain m L / (m.Kp * eStar m L) - 1 := by
  obtain ⟨_, hlim, hpos⟩ := seegerBeste_bracket_quotient h hKp hL
  exact ⟨hlim, hpos.le⟩

/-- non-vacuity: the bound at a concrete material, load and number of halvings -/
example : ∃ r : ℝ, 400 / 3.5 < r ∧ r < 400 ∧
    |bisect (fun s => sbStressImplicit (⟨206000, 1184, 0.187, 3.5⟩ : Mat ℝ) s 400) 30 (400 / 3.5) 400 - r|
      ≤ (400 - 400 / 3.5) / 2 ^ 31 := by
  obtain ⟨r, h1, h2, _, hb⟩ := seegerBeste_bisection_converges exAdm (by norm_num) (by norm_num : (0 : ℝ) < 400)
  exact ⟨r, h1, h2, hb 30⟩

end PylifeVerif.C06
