/-
C03: NaN samples at DETECTOR level (`Model/Rainflow/Literal.lean`, part 2).

Samples are `Option Int` (`none` = NaN).  `newTurnsNan` is `_new_turns` with NaNs inside
`_sample_tail` (index bookkeeping in original coordinates), `fpRunNan` the four-point detector on
such chunks (the first sample of the first chunk and the last sample of every chunk enter
`turns_np` unfiltered; every comparison with a NaN operand is false).  `_new_turns`, and the FKM
detector, which sees the samples through it only, need no guard on the NaN positions; the four-point
detector needs the first and the last sample of the signal not NaN (examples at the end).
Not covered: the three-point detector on NaN samples (no model).
-/
import Proofs.Lemmas.FpNan
import Proofs.C02FourPoint

namespace PylifeVerif.C03
open PylifeVerif.Rainflow PylifeVerif.Rainflow.Nan

/-- Feeding chunks with NaNs to `_new_turns`: final bookkeeping state and all reported turns. -/
def turnsRunNan (cs : List (List (Option Int))) : TurnStateNan × List Pt :=
  cs.foldl (fun acc c => let r := newTurnsNan acc.1 c; (r.1, acc.2 ++ r.2)) ({}, [])

/-- **`_new_turns` with NaNs, any chunking, NaNs anywhere.**  The reported turns are the turning
points of the cleaned signal, at their original positions (`findTurnsNan_reindex`), the tail is the
original signal from the last reported turn on. -/
theorem newTurnsNan_chunked (cs : List (List (Option Int))) (hne : ∀ c ∈ cs, c ≠ []) :
    turnsRunNan cs = (canonNanTs cs.flatten, findTurnsNan cs.flatten) ∧
      (turnsRunNan cs).2 =
        (findTurns (cs.flatten.filterMap id)).map (fun p => (origIndex cs.flatten p.1, p.2)) := by
  have h1 : turnsRunNan cs = (canonNanTs cs.flatten, findTurnsNan cs.flatten) := by
    have := foldl_canon
      (fun (acc : TurnStateNan × List Pt) c =>
        ((newTurnsNan acc.1 c).1, acc.2 ++ (newTurnsNan acc.1 c).2))
      (fun p _ => (canonNanTs p, findTurnsNan p))
      (fun p c _ hc => by
        have := newTurnsNan_canon p c [] hc
        rw [List.append_nil] at this
        simp only [findTurnsNan_append, this]) cs hne
    rwa [canonNanTs_nil] at this
  refine ⟨h1, ?_⟩
  rw [h1]
  exact findTurnsNan_reindex _

theorem newTurnsNan_chunk_independent (cs : List (List (Option Int))) (hne : ∀ c ∈ cs, c ≠ [])
    (h0 : cs ≠ []) : turnsRunNan cs = turnsRunNan [cs.flatten] := by
  have hs : cs.flatten ≠ [] := chunks_flatten_ne_nil hne h0
  rw [(newTurnsNan_chunked cs hne).1, (newTurnsNan_chunked [cs.flatten] (by simpa using hs)).1]
  simp

/-- **Four-point detector on chunks with NaNs.**  Guard: no chunk is empty, the first sample of
the first chunk is not NaN, the last sample of the last chunk is not NaN.  Then the detector has the
cycle / residual VALUES of the one-piece run on the cleaned signal, every reported index is
`origIndex` of the clean index, and the recorder has the chunk sizes.  NaNs may sit anywhere else: at
chunk ends (then the provisional residual is NaN and nothing is closed provisionally), whole chunks
of NaN, NaNs inside the tail. -/
theorem fourPoint_nan_chunked (cs : List (List (Option Int))) (hne : ∀ c ∈ cs, c ≠ [])
    (x0 xl : Int) (hfirst : cs.flatten.head? = some (some x0))
    (hlast : cs.flatten.getLast? = some (some xl)) :
    let flat := cs.flatten
    let a := fpRunNan cs
    let b := fpRun [flat.filterMap id]
    a.cycles = b.cycles.map (reidxCycle (origIndex flat)) ∧
      a.residuals = b.residuals.map some ∧
      a.residualIndex = b.residualIndex.map (fun i => ((origIndex flat i.toNat : Nat) : Int)) ∧
      a.chunks = cs.map List.length := by
  intro flat a b
  have ha : a =
      { ts := canonNanTs flat, stack := b.stack.map (liftPt (origIndex flat)),
        last := some (some xl), cycles := b.cycles.map (reidxCycle (origIndex flat)),
        chunks := cs.map List.length } := fpRunNan_eq cs hne x0 xl hfirst hlast
  obtain ⟨A, hA⟩ : ∃ A, flat = A ++ [some xl] := List.getLast?_eq_some_iff.mp hlast
  have hcl : clean flat = clean A ++ [xl] := by rw [hA, clean_append]; rfl
  have hb : b = fpCanon (clean flat) [(clean flat).length] :=
    C01.fpRun_singleton (clean flat) (by rw [hcl]; simp)
  have hbl : b.last = some xl := by rw [hb, fpCanon_last, hcl]; simp
  have hbh : b.ts.head = (clean A).length + 1 := by rw [hb, fpCanon_ts, canonTs_head, hcl]; simp
  refine ⟨by rw [ha], ?_, ?_, by rw [ha]⟩
  · simp only [ha, DetStateNan.residuals, DetState.residuals, hbl]
    simp [liftPt, Function.comp_def]
  · simp only [ha, DetStateNan.residualIndex, DetState.residualIndex, hbl, hbh, canonNanTs]
    have hlast' : origIndex flat (clean A).length = A.length := by
      rw [hA]; exact Sym.origIndex_at A xl []
    have hfl : flat.length = A.length + 1 := by rw [hA]; simp
    have e : ((((clean A).length + 1 : Nat) : Int) - 1).toNat = (clean A).length := by omega
    simp only [List.map_append, List.map_map, List.map_reverse, List.map_cons, List.map_nil, hfl, e,
      hlast']
    simp [liftPt, Function.comp_def]

/-- Consequence: with the guard of `fourPoint_nan_chunked`, cycles, residuals and residual indices
do not depend on the chunking. -/
theorem fourPoint_nan_chunk_independent (cs : List (List (Option Int))) (hne : ∀ c ∈ cs, c ≠ [])
    (x0 xl : Int) (hfirst : cs.flatten.head? = some (some x0))
    (hlast : cs.flatten.getLast? = some (some xl)) :
    let a := fpRunNan cs; let b := fpRunNan [cs.flatten]
    a.cycles = b.cycles ∧ a.residuals = b.residuals ∧ a.residualIndex = b.residualIndex := by
  have hs : cs.flatten ≠ [] := by
    intro h; rw [h] at hfirst; simp at hfirst
  obtain ⟨a1, a2, a3, _⟩ := fourPoint_nan_chunked cs hne x0 xl hfirst hlast
  obtain ⟨b1, b2, b3, _⟩ := fourPoint_nan_chunked [cs.flatten] (by simpa using hs) x0 xl
    (by simpa using hfirst) (by simpa using hlast)
  simp only [List.flatten_cons, List.flatten_nil, List.append_nil] at b1 b2 b3
  exact ⟨a1.trans b1.symm, a2.trans b2.symm, a3.trans b3.symm⟩

/-- Consequence: every cycle end point reported on a signal with NaNs addresses, in the ORIGINAL
signal, a sample with the reported value. -/
theorem fourPoint_nan_index_valid (cs : List (List (Option Int))) (hne : ∀ c ∈ cs, c ≠ [])
    (x0 xl : Int) (hfirst : cs.flatten.head? = some (some x0))
    (hlast : cs.flatten.getLast? = some (some xl))
    (h2 : 2 ≤ (cs.flatten.filterMap id).length) :
    ∀ c ∈ (fpRunNan cs).cycles,
      cs.flatten[c.1.1]? = some (some c.1.2) ∧ cs.flatten[c.2.1]? = some (some c.2.2) := by
  obtain ⟨a1, _, _, _⟩ := fourPoint_nan_chunked cs hne x0 xl hfirst hlast
  intro c hc
  rw [a1] at hc
  obtain ⟨c0, hc0, rfl⟩ := List.mem_map.mp hc
  have hv := C02.fourPoint_index_valid (cs.flatten.filterMap id) h2
  have hm : ∀ q, q = c0.1 ∨ q = c0.2 →
      q ∈ (fpRun [cs.flatten.filterMap id]).cycles.flatMap (fun c => [c.1, c.2]) ++
        C02.residualPts (fpRun [cs.flatten.filterMap id]) := fun q hq =>
    List.mem_append_left _ (List.mem_flatMap.mpr ⟨c0, hc0, by simpa using hq⟩)
  simp only [reidxCycle, reidxPt]
  exact ⟨Sym.getElem?_origIndex _ _ _ (hv _ (hm _ (Or.inl rfl))),
    Sym.getElem?_origIndex _ _ _ (hv _ (hm _ (Or.inr rfl)))⟩

theorem fkmRunNan_eq (cs : List (List (Option Int))) :
    fkmRunNan cs = { ts := (turnsRunNan cs).1,
                     core := (turnsRunNan cs).2.foldl (fun s p => fkmTurn s p.2) {} } :=
  foldl_reported fkmProcessNan newTurnsNan
    (fun (t : TurnStateNan) (l : List Pt) => { ts := t, core := l.foldl (fun s (p : Pt) => fkmTurn s p.2) {} })
    (fun t l c => by simp only [fkmProcessNan, List.foldl_append])
    cs {} []

/-- **FKM detector on chunks with NaNs** (NaNs anywhere, also at the two ends; no chunk empty): the
recorded cycles, the residuals, `ir` and the running maximum are those of the one-piece run on the
cleaned signal; `residual_index` is `[0, n - 1]` with `n` the ORIGINAL number of samples. -/
theorem fkm_nan_chunked (cs : List (List (Option Int))) (hne : ∀ c ∈ cs, c ≠ []) :
    let a := fkmRunNan cs
    let b := fkmRun [cs.flatten.filterMap id]
    a.core.cycles = b.cycles ∧ a.core.res = b.res ∧ a.core.ir = b.ir ∧
      a.core.maxTurn = b.maxTurn ∧ a.residualIndex = [0, (cs.flatten.length : Int) - 1] := by
  intro a b
  have ha : a = { ts := canonNanTs cs.flatten,
                  core := (findTurns (cs.flatten.filterMap id)).foldl (fun s p => fkmTurn s p.2) {} } := by
    show fkmRunNan cs = _
    rw [fkmRunNan_eq, (newTurnsNan_chunked cs hne).1]
    simp only [findTurnsNan_eq, List.foldl_map, reidxPt]
  have hb : b = { (findTurns (cs.flatten.filterMap id)).foldl (fun s p => fkmTurn s p.2) {} with
                  ts := canonTs (cs.flatten.filterMap id) } := by
    show fkmRun _ = _
    rw [C01.fkmRun_canon, List.flatten_singleton, List.foldl_map]
  rw [ha, hb]
  exact ⟨rfl, rfl, rfl, rfl, by simp [FkmStateNan.residualIndex, canonNanTs]⟩

/-- NaN at a chunk end (provisional residual NaN), an all-NaN chunk, NaN inside the tail -/
def exNan : List (List (Option Int)) :=
  [[some 0, none, some 3, some 3], [some 1, none], [none], [some 2, some 2, none, some (-1), some 4]]

example := fourPoint_nan_chunked exNan (by decide) 0 4 (by decide) (by decide)
example := fourPoint_nan_chunk_independent exNan (by decide) 0 4 (by decide) (by decide)
example := fourPoint_nan_index_valid exNan (by decide) 0 4 (by decide) (by decide) (by decide)
example := newTurnsNan_chunked exNan (by decide)
example : (fpRunNan exNan).cycles = [((4, 1), (7, 2))] := by decide +kernel
example : (fpRunNan exNan).residuals = [some 0, some 3, some (-1), some 4] := by decide +kernel
example : (fpRunNan exNan).residualIndex = [0, 2, 10, 11] := by decide +kernel
example : (fpRun [exNan.flatten.filterMap id]).cycles = [((3, 1), (4, 2))] := by decide +kernel
example : (fpRun [exNan.flatten.filterMap id]).residualIndex = [0, 1, 6, 7] := by decide +kernel
example : (turnsRunNan exNan).2 = [(2, 3), (4, 1), (7, 2), (10, -1)] := by decide +kernel
/-- after the second chunk the provisional residual is NaN -/
example : (fpRunNan (exNan.take 2)).residuals = [some 0, some 3, none] := by decide +kernel

example := fkm_nan_chunked exNan (by decide)
/-- FKM needs no guard on the ends -/
example := fkm_nan_chunked [[none, some 0, some 3], [some 1, none, some 2], [some 0, none, some 5]] (by decide)
example : (fkmRunNan [[none, some 0, some 3], [some 1, none, some 2], [some 0, none, some 5]]).core.cycles =
    [(1, 2)] := by decide +kernel
example : (fkmRunNan [[none, some 0, some 3], [some 1, none, some 2], [some 0, none, some 5]]).residualIndex =
    [0, 8] := by decide +kernel

/-- the guards are necessary: first sample NaN - the NaN stays the first residual for ever -/
example : (fpRunNan [[none, some 0, some 3, some 1, some 2, some 0]]).residuals =
    [none, some 3, some 0] ∧
    (fpRun [[0, 3, 1, 2, 0]]).residuals = [0, 3, 0] := by decide +kernel
/-- last sample NaN - nothing is closed provisionally and the last residual is NaN -/
example : (fpRunNan [[some 0, some 3, some 1, some 2, some 0, none]]).residuals =
    [some 0, some 3, some 1, some 2, none] ∧
    (fpRun [[0, 3, 1, 2, 0]]).residuals = [0, 3, 0] := by decide +kernel

end PylifeVerif.C03

section AxiomCheck
#print axioms PylifeVerif.C03.newTurnsNan_chunked
#print axioms PylifeVerif.C03.newTurnsNan_chunk_independent
#print axioms PylifeVerif.C03.fourPoint_nan_chunked
#print axioms PylifeVerif.C03.fourPoint_nan_chunk_independent
#print axioms PylifeVerif.C03.fourPoint_nan_index_valid
#print axioms PylifeVerif.C03.fkm_nan_chunked
end AxiomCheck
