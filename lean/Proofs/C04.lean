/- C04: second HCM pass = steady-state hystereses of the repeated sequence. -/
import Model.HCMSpec
import Proofs.C04Basic
import Proofs.C04Periodic
import Proofs.C04Insert
import Proofs.C04Pass2
import Proofs.C04Code
import Proofs.C04InsertCode
import Proofs.C04PrependCode
