/-
C10 — FKM-nonlinear assessment with P_RAM (`Model/Assessment.lean`): batch independence with per-point load
maxima (also with the look-up tables built per point: `…_tables`), insensitivity to non-reversal samples (inserted,
appended, prepended - and the prepended sample that IS a reversal), N_10 ≤ N_50 ≤ N_90, monotonicity in roughness,
failure probability and load scale.  The monotonicity theorems are partial: `RowsOk` and `Regime` are their hypotheses.

The HCM facts that other slices prove about `Model/HCM.lean` enter the `…_of_hcm_…` theorems as explicit hypotheses
(`HcmBatchEqSingle`, `HcmInsertInterior`, `HcmAppendNonreversal`: the statements of `tools/stmts/HCM.lean` about
`twoPass`, the code).  They are discharged by `C05.hcm_batch_eq_single_code`, `C04.hcm_insert_nonreversal_interior_code`
and `C04.hcm_append_nonreversal_code`, which gives the unconditional `assessment_batch_independent_PRAM` and
`assessment_sample_insensitive`.
-/
import Proofs.Lemmas.Assessment
import Proofs.C04InsertCode
import Proofs.C04PrependCode
import Proofs.C05Code
import Proofs.Lemmas.FkmRoughness

namespace PylifeVerif.C10
open PylifeVerif.HCM PylifeVerif.FkmNl PylifeVerif.Assess

/-! ## the statements about the HCM model that the assessment rests on (proved in `C04InsertCode`, `C05Code`) -/

/-- `C05.SignPreserving`, word for word (the two unfold to the same term: `Proofs/PRAJ.lean` hands `signPreserving_lawOwn` to
a statement written with the C05 predicate) -/
def SignPreserving (law : Law) : Prop :=
  ∀ d : Int, (0 < d → 0 < law.dsigma d ∧ 0 < law.deps (law.dsigma d) d) ∧
             (d < 0 → law.dsigma d < 0 ∧ law.deps (law.dsigma d) d < 0) ∧
             (d = 0 → law.dsigma d = 0 ∧ law.deps (law.dsigma d) d = 0)

/-- statement of `C05.hcm_batch_eq_single_code` (`projK` = `C05.proj`) -/
def HcmBatchEqSingle : Prop :=
  ∀ (law : Law), SignPreserving law → ∀ (L cs : List Int), (∀ c ∈ cs, 0 < c) → ∀ k : Nat, k < cs.length →
    ((twoPass law (L.map fun l => cs.map (· * l))).recs.map (projK k)) =
      ((twoPass law (L.map fun l => [cs.getD k 1 * l])).recs.map (projK 0))

/-- `C04.one`, word for word: a load sequence for one point -/
def one (s : List Int) : List Vec := s.map fun x => [x]

/-- statement of `C04.hcm_insert_nonreversal_interior_code` -/
def HcmInsertInterior : Prop :=
  ∀ (law : Law) (pre post : List Int) (x y v : Int), ((x ≤ v ∧ v ≤ y) ∨ (y ≤ v ∧ v ≤ x)) →
    (twoPass law (one (pre ++ x :: v :: y :: post))).recs = (twoPass law (one (pre ++ x :: y :: post))).recs

/-- statement of `C04.hcm_append_nonreversal_code` -/
def HcmAppendNonreversal : Prop :=
  ∀ (law : Law) (s : List Int) (a z v : Int), s.head? = some a → s.getLast? = some z →
    ((a ≤ v ∧ v ≤ z) ∨ (z ≤ v ∧ v ≤ a)) → (v ≠ a ∨ v = z) →
    (twoPass law (one (s ++ [v]))).recs = (twoPass law (one s)).recs

theorem signPreserving_lawOwn (n : Nat) (M : Int) (t : Tables) (ht : t.SecPos) : SignPreserving (lawOwn n M t) := by
  obtain ⟨h1, h2, h3, h4⟩ := ht
  intro d
  simp only [lawOwn, lawBatch]
  have a := tval_sign t.dsig h1 h3 (classQ n M (1 * d) 1 (2 * n)) d
  have b := tval_sign t.deps h2 h4 (classQ n M (1 * d) 1 (2 * n)) d
  exact ⟨fun hd => ⟨a.1 hd, b.1 hd⟩, fun hd => ⟨a.2.1 hd, b.2.1 hd⟩, fun hd => ⟨a.2.2 hd, b.2.2 hd⟩⟩

/-! ## batch independence and sample insensitivity (any carrier) -/

section generic
variable {α : Type} [Add α] [Sub α] [Mul α] [Div α] [Neg α] [OfScientific α]
  [LT α] [LE α] [DecidableLT α] [DecidableLE α] [Transc α]

/-- **Batch independence (P_RAM).**  Points with proportional load sequences `c·l` (`c > 0`) are assessed in one call
with per-point load maxima: per-point look-up tables, the class of every look-up and every HCM decision taken from the
FIRST point.  Point `k` gets the infinite-life verdict and the lifetime it gets when it is assessed alone – for any
number of points, any positive ratios and any per-point parameters (`p` holds the point's own stress gradient).
Valid for every numeric carrier (ℝ and `Float` alike): the equality is structural.
From: `HcmBatchEqSingle` (hypothesis), `classQ_first_eq_own` (the first point's class in the first point's grid
is the point's own class in its own grid), `maxAbsI_scale`. -/
theorem assessment_batch_independent_PRAM_of_hcm_batch (hb : HcmBatchEqSingle) (conv : Int → α) (n : Nat)
    (p : Params α) (t : Tables) (ht : t.SecPos) (L cs : List Int) (hc : ∀ c ∈ cs, 0 < c) (k : Nat) (hk : k < cs.length) :
    assessBatch conv n p t L cs k = assessSingle conv n p t L (cs.getD k 1) ∧
    ∀ beta, nMaxBearable conv p k
        (twoPass (lawBatch n (maxAbsI (L.map (cs.headD 1 * ·))) (cs.headD 1) (cs.getD k 1) t) (batchLoads L cs)).recs beta
      = nMaxSingle conv n p t L (cs.getD k 1) beta := by
  have hlaw := lawBatch_ratios n t L cs hc k hk
  have hrecs := hb (lawOwn n (maxAbsI (L.map (cs.getD k 1 * ·))) t) (signPreserving_lawOwn _ _ t ht) L cs hc k hk
  have hsingle := map_single_scale (cs.getD k 1) L
  constructor
  · simp only [assessBatch, assessSingle, assessRecs, rowsOf, batchLoads, hlaw, hsingle, hrecs]
  · intro beta
    simp only [nMaxSingle, nMaxBearable, rowsOf, batchLoads, hlaw, hsingle, hrecs]

/-- **Sample insensitivity (P_RAM).**  A sample between its neighbours (an intermediate point, a repeated value), or a
sample appended at the end between the last and the first sample, changes neither the verdict nor the lifetime: the
maximum absolute load (hence the class grid) is unchanged and the recorded hystereses are unchanged
(`HcmInsertInterior`, `HcmAppendNonreversal`: hypotheses). -/
theorem assessment_sample_insensitive_of_hcm_insert (hi : HcmInsertInterior) (ha : HcmAppendNonreversal)
    (conv : Int → α) (n : Nat) (p : Params α) (t : Tables) :
    (∀ (pre post : List Int) (x y v : Int), ((x ≤ v ∧ v ≤ y) ∨ (y ≤ v ∧ v ≤ x)) →
      assessSingle conv n p t (pre ++ x :: v :: y :: post) 1 = assessSingle conv n p t (pre ++ x :: y :: post) 1) ∧
    (∀ (s : List Int) (a z v : Int), s.head? = some a → s.getLast? = some z →
      ((a ≤ v ∧ v ≤ z) ∨ (z ≤ v ∧ v ≤ a)) → (v ≠ a ∨ v = z) →
      assessSingle conv n p t (s ++ [v]) 1 = assessSingle conv n p t s 1) := by
  constructor
  · intro pre post x y v hv
    simp only [assessSingle, map_one_mul, maxAbsI_insert pre post x y v hv]
    exact congrArg (assessRecs conv p 0) (hi _ pre post x y v hv)
  · intro s a z v hs hz hv hne
    simp only [assessSingle, map_one_mul, maxAbsI_append s a z v hs hz hv]
    exact congrArg (assessRecs conv p 0) (ha _ s a z v hs hz hv hne)

/-- **Batch independence (P_RAM), unconditional**: `assessment_batch_independent_PRAM_of_hcm_batch` with
`C05.hcm_batch_eq_single_code` (a theorem about `twoPass`, the code). -/
theorem assessment_batch_independent_PRAM (conv : Int → α) (n : Nat)
    (p : Params α) (t : Tables) (ht : t.SecPos) (L cs : List Int) (hc : ∀ c ∈ cs, 0 < c) (k : Nat) (hk : k < cs.length) :
    assessBatch conv n p t L cs k = assessSingle conv n p t L (cs.getD k 1) ∧
    ∀ beta, nMaxBearable conv p k
        (twoPass (lawBatch n (maxAbsI (L.map (cs.headD 1 * ·))) (cs.headD 1) (cs.getD k 1) t) (batchLoads L cs)).recs beta
      = nMaxSingle conv n p t L (cs.getD k 1) beta :=
  assessment_batch_independent_PRAM_of_hcm_batch C05.hcm_batch_eq_single_code conv n p t ht L cs hc k hk

/-- **Sample insensitivity (P_RAM), unconditional**: `assessment_sample_insensitive_of_hcm_insert` with
`C04.hcm_insert_nonreversal_interior_code` and `C04.hcm_append_nonreversal_code` (theorems about `twoPass`, the code). -/
theorem assessment_sample_insensitive (conv : Int → α) (n : Nat) (p : Params α) (t : Tables) :
    (∀ (pre post : List Int) (x y v : Int), ((x ≤ v ∧ v ≤ y) ∨ (y ≤ v ∧ v ≤ x)) →
      assessSingle conv n p t (pre ++ x :: v :: y :: post) 1 = assessSingle conv n p t (pre ++ x :: y :: post) 1) ∧
    (∀ (s : List Int) (a z v : Int), s.head? = some a → s.getLast? = some z →
      ((a ≤ v ∧ v ≤ z) ∨ (z ≤ v ∧ v ≤ a)) → (v ≠ a ∨ v = z) →
      assessSingle conv n p t (s ++ [v]) 1 = assessSingle conv n p t s 1) :=
  assessment_sample_insensitive_of_hcm_insert C04.hcm_insert_nonreversal_interior_code C04.hcm_append_nonreversal_code
    conv n p t

/-- **Sample insensitivity (P_RAM), sample in front.**  The first pass of the HCM run starts at load 0 and the sequence is
repeated, so the first sample has TWO predecessors: the initial load 0 and the last sample.  A prepended sample that lies
between the first sample and both of them (no reversal of the first pass, no reversal at the junction of the repetition)
changes neither the verdict nor the lifetime.  (`C04.hcm_prepend_nonreversal_code`, a theorem about `twoPass`, the code.)
A sample between the last and the first sample that is NOT between 0 and the first sample is a reversal of the first pass:
`prepend_between_last_and_first_changes_records`. -/
theorem assessment_sample_insensitive_prepend (conv : Int → α) (n : Nat) (p : Params α) (t : Tables)
    (s : List Int) (a z v : Int) (hs : s.head? = some a) (hz : s.getLast? = some z)
    (h0 : (0 ≤ v ∧ v ≤ a) ∨ (a ≤ v ∧ v ≤ 0)) (hl : (z ≤ v ∧ v ≤ a) ∨ (a ≤ v ∧ v ≤ z)) :
    assessSingle conv n p t (v :: s) 1 = assessSingle conv n p t s 1 := by
  simp only [assessSingle, map_one_mul, maxAbsI_prepend s a v hs h0]
  exact congrArg (assessRecs conv p 0) (C04.hcm_prepend_nonreversal_code _ s a z v hs hz h0 hl)

theorem colMaxAbs_batchLoads (L cs : List Int) (k : Nat) (hk : k < cs.length) :
    colMaxAbs (batchLoads L cs) k = maxAbsI (L.map (cs.getD k 1 * ·)) := by
  unfold colMaxAbs batchLoads
  rw [List.map_map]
  congr 1
  apply List.map_congr_left
  intro l _
  simp only [Function.comp, List.getD_eq_getElem?_getD, List.getElem?_map, List.getElem?_eq_getElem hk, Option.map_some,
    Option.getD_some]

/-- **Batch independence (P_RAM) including the construction of the look-up tables.**  `tab M` is the look-up table that
`Binned` builds for a point whose maximum absolute load is `M` (the values of the notch law at the class edges `i/n·M`: a
function of the point's own maximum only - C07).  In a call for all points the table of the point at position `k` is built
from the maximum of column `k` of the load sequence (`colMaxAbs`: maxima matched to the points by position), alone from the
maximum of its own sequence: these are the same number (`colMaxAbs_batchLoads`), hence the same table, and the point gets
the same verdict and lifetime.  (`assessment_batch_independent_PRAM` takes ONE table for both sides; this form discharges
"the table built for point k inside the batch is the table built for it alone" for the position-matched maxima.) -/
theorem assessment_batch_independent_PRAM_tables (conv : Int → α) (n : Nat) (p : Params α) (tab : Int → Tables)
    (htab : ∀ M, (tab M).SecPos) (L cs : List Int) (hc : ∀ c ∈ cs, 0 < c) (k : Nat) (hk : k < cs.length) :
    assessBatch conv n p (tab (colMaxAbs (batchLoads L cs) k)) L cs k
      = assessSingle conv n p (tab (maxAbsI (L.map (cs.getD k 1 * ·)))) L (cs.getD k 1) := by
  rw [colMaxAbs_batchLoads L cs k hk]
  exact (assessment_batch_independent_PRAM conv n p _ (htab _) L cs hc k hk).1

end generic

/-- The scope of "non-reversal sample" at the head of the sequence is needed: 59 lies between the last sample 60 and the first
sample 1 but not between the initial load 0 and 1 - it is a reversal of the first pass, whose Memory-3 hysteresis becomes ±59
instead of ±1 (the real code: P_RAM lifetime 43.771 -> 43.306 for [10,-600,600] -> [590,10,-600,600]). -/
theorem prepend_between_last_and_first_changes_records :
    (twoPass lawSat (C04.one (59 :: [1, -60, 60]))).recs ≠ (twoPass lawSat (C04.one [1, -60, 60])).recs := by
  decide +kernel

/-! ## monotonicity of the lifetime (carrier ℝ) -/

/-- What the monotonicity theorems assume of the rows of a recorded collective (none of the three is derived for
`rowsOf`): `P_RAM ≥ 0` (a square root or 0), run index 1 or 2, and at least one hysteresis of the second pass has
`P_RAM > 0` (otherwise the code returns the lifetime `inf`) -/
structure RowsOk (rows : List (Row ℝ)) : Prop where
  nonneg : ∀ r ∈ rows, 0 ≤ r.P
  runs : ∀ r ∈ rows, r.run = 1 ∨ r.run = 2
  pos2 : ∃ r ∈ rows, r.run = 2 ∧ 0 < r.P

theorem dam_facts (c : PramCurve ℝ) (h : c.Slopes) (rows : List (Row ℝ)) (ok : RowsOk rows) :
    (∀ q ∈ dam c rows, 0 ≤ q.1) ∧ (∀ q ∈ dam c rows, q.2 = 1 ∨ q.2 = 2) ∧ 0 < sumRun 2 (dam c rows) := by
  have h0 := damages_nonneg c h rows ok.nonneg
  obtain ⟨r, hr, h2, hp⟩ := ok.pos2
  refine ⟨h0, fun q hq => ?_, sumRun_pos 2 _ h0 ⟨(rowD c r, r.run), List.mem_map.mpr ⟨r, hr, rfl⟩, h2, rowD_pos h r hp⟩⟩
  obtain ⟨r, hr, rfl⟩ := List.mem_map.mp hq
  exact ok.runs r hr

/-- The regime hypothesis of the monotonicity theorems: the more damaging configuration does not reach the damage sum one
within the two recorded passes, or the first pass recorded at most one hysteresis more than the second.  (The
early-failure lifetime is an index into ALL recorded hystereses, the regular lifetime a multiple of the number of
second-pass hystereses; without this the two are not comparable.)
The second disjunct is NOT a fact about `twoPass`: growing alternating loads give n1 = 2m − 1, n2 = m
(`Proofs/Lemmas/FkmRegime.lean`: `regime_second_disjunct_refuted`), and there the real code's lifetime does grow across the
early-failure boundary (finding `mono-P_RAM-early-failure-count`: 6.27 -> 7.0 cycles); `Regime` is a genuine hypothesis. -/
def Regime (dsMore dsLess : List (ℝ × Nat)) : Prop :=
  (lifetimeOfDamages dsMore).early = false ∨ countRun 1 dsLess ≤ countRun 2 dsLess + 1

theorem nCycles_le_of_damLE {ds ds' : List (ℝ × Nat)} (hle : DamLE ds ds') (h0 : ∀ q ∈ ds, 0 ≤ q.1)
    (hr : ∀ q ∈ ds, q.2 = 1 ∨ q.2 = 2) (hD2 : 0 < sumRun 2 ds) (hreg : Regime ds' ds) :
    (lifetimeOfDamages ds').nCycles ≤ (lifetimeOfDamages ds).nCycles :=
  nCycles_antitone hle h0 hr (fun _ => hD2) fun _ he' => hreg.resolve_left (by simp [he'])

/-- **Lifetime and verdict are monotone in the position of the component curve** (same slopes): a lower curve
(`P_RAM_Z' ≤ P_RAM_Z`, `P_RAM_D' ≤ P_RAM_D`) never gives a longer lifetime and never turns a finite-life verdict into an
infinite-life one.  Full statement: without `hreg`.  Missing: the comparison of an early failure (lifetime below two
passes) of the lower curve with a regular lifetime of the higher curve when the first pass has more than one hysteresis
more than the second. -/
theorem lifetime_antitone_in_curve_partial (c c' : PramCurve ℝ) (h : c.Adm) (h' : c'.Adm)
    (hd1 : c'.d1 = c.d1) (hd2 : c'.d2 = c.d2) (hPZ : c'.PZ ≤ c.PZ) (hPD : c'.PD ≤ c.PD)
    (rows : List (Row ℝ)) (ok : RowsOk rows) (hreg : Regime (dam c' rows) (dam c rows)) :
    (damagePRAM c' rows).nCycles ≤ (damagePRAM c rows).nCycles ∧
    (isLifeInfinite c' rows = true → isLifeInfinite c rows = true) := by
  constructor
  · obtain ⟨h0, hr, hD2⟩ := dam_facts c h.slopes rows ok
    have hle : DamLE (dam c rows) (dam c' rows) :=
      damLE_of_rows _ _ rows fun r hr => ⟨rowD_anti_PZ c c' h.slopes h'.slopes hd1 hd2 hPZ r (ok.nonneg r hr), rfl⟩
    exact nCycles_le_of_damLE hle h0 hr hD2 hreg
  · rw [isLifeInfinite_iff_le, isLifeInfinite_iff_le]
    exact fun hinf r hr h2 => le_trans (hinf r hr h2) hPD

/-- **Load scale (partial).**  If every hysteresis' `P_RAM` is non-decreasing under the scaling (same hysteresis
structure: same flags and pass numbers, which is the scale invariance of the HCM decisions), the lifetime does not increase
and a finite-life verdict does not become infinite.  Missing for the full statement: (i) that `P_RAM` of every hysteresis
of the binned Masing law is non-decreasing in the load scale, (ii) `hreg` as above. -/
theorem lifetime_antitone_in_load_scale_partial (c : PramCurve ℝ) (h : c.Adm) (rows rows' : List (Row ℝ))
    (ok : RowsOk rows)
    (hsc : List.Forall₂ (fun r r' => r.P ≤ r'.P ∧ r.closed = r'.closed ∧ r.run = r'.run) rows rows')
    (hreg : Regime (dam c rows') (dam c rows)) :
    (damagePRAM c rows').nCycles ≤ (damagePRAM c rows).nCycles ∧
    (isLifeInfinite c rows' = true → isLifeInfinite c rows = true) := by
  constructor
  · obtain ⟨h0, hr, hD2⟩ := dam_facts c h.slopes rows ok
    have hle : DamLE (dam c rows) (dam c rows') := by
      unfold DamLE dam
      rw [List.forall₂_map_left_iff, List.forall₂_map_right_iff]
      exact ((List.forall₂_and_left rows rows').mpr ⟨ok.nonneg, hsc⟩).imp fun r r' hrr =>
        ⟨rowD_mono_P c h.slopes r r' hrr.1 hrr.2.1 hrr.2.2.1, hrr.2.2.2⟩
    exact nCycles_le_of_damLE hle h0 hr hD2 hreg
  · rw [isLifeInfinite_iff_le, isLifeInfinite_iff_le]
    intro hinf q hq h2
    obtain ⟨q', hq', hrr⟩ := forall₂_mem_right hsc.flip q hq
    exact le_trans hrr.1 (hinf q' hq' (hrr.2.2 ▸ h2))

/-! ## N_10 ≤ N_50 ≤ N_90 -/

theorem lifeReduced_antitone (base : LifeResult ℝ) {ds ds' : List (ℝ × Nat)} (h : DamLE ds ds')
    (hD1 : sumRun 1 ds ≤ 1) (hD2 : 0 < sumRun 2 ds) : lifeReduced base ds' ≤ lifeReduced base ds := by
  unfold lifeReduced
  split_ifs
  · exact le_rfl
  · rw [xOf_eq, xOf_eq, lit_one]
    exact h.regular_le hD1 hD2

theorem reducedCurve_PZ (c : PramCurve ℝ) (f25 b : ℝ) :
    (reducedCurve c f25 b).PZ = c.PZ * (10:ℝ) ^ (Real.log f25 / Real.log 10 - (0.8 * b - 2) * 0.08) := by
  simp only [reducedCurve, transc_pow, transc_log10]
  norm_num

theorem reducedCurve_slopes (c : PramCurve ℝ) (hc : c.Slopes) (f25 b : ℝ) : (reducedCurve c f25 b).Slopes :=
  ⟨by rw [reducedCurve_PZ]; exact mul_pos hc.1 (Real.rpow_pos_of_pos (by norm_num) _), hc.2⟩

/-- the exponents `(0.8 β − 2)·s` of the safety factors grow with the safety index -/
theorem safety_exponent_mono {a t s b b' : ℝ} (ha : 0 ≤ a) (hs : 0 ≤ s) (hb : b ≤ b') :
    (a * b - t) * s ≤ (a * b' - t) * s :=
  mul_le_mul_of_nonneg_right (sub_le_sub_right (mul_le_mul_of_nonneg_left hb ha) t) hs

/-- `β(P_A) = −Φ⁻¹(P_A)` is antitone in `P_A` -/
theorem beta_anti {Φ : ℝ → ℝ} (hΦ : StrictMono Φ) {b b' p p' : ℝ} (h : Φ (-b) = p) (h' : Φ (-b') = p')
    (hp : p < p') : b' < b :=
  neg_lt_neg_iff.mp (hΦ.lt_iff_lt.mp (by rw [h, h']; exact hp))

theorem reducedCurve_anti (c : PramCurve ℝ) (hc : c.Slopes) (f25 b b' : ℝ) (hb : b' ≤ b) :
    (reducedCurve c f25 b).PZ ≤ (reducedCurve c f25 b').PZ := by
  rw [reducedCurve_PZ, reducedCurve_PZ]
  exact mul_le_mul_of_nonneg_left (Real.rpow_le_rpow_of_exponent_le (by norm_num)
    (sub_le_sub_left (safety_exponent_mono (by norm_num) (by norm_num) hb) _)) hc.1.le

/-- a larger safety index lowers the reduced curve, so every damage grows -/
theorem dam_reducedCurve_le (c : PramCurve ℝ) (hc : c.Slopes) (f25 : ℝ) (rows : List (Row ℝ)) (hP : ∀ r ∈ rows, 0 ≤ r.P)
    {b b' : ℝ} (hb : b' ≤ b) : DamLE (dam (reducedCurve c f25 b') rows) (dam (reducedCurve c f25 b) rows) :=
  damLE_of_rows _ _ rows fun r hr =>
    ⟨rowD_anti_PZ _ _ (reducedCurve_slopes c hc f25 b') (reducedCurve_slopes c hc f25 b) rfl rfl
      (reducedCurve_anti c hc f25 b b' hb) r (hP r hr), rfl⟩

/-- `N_max_bearable(P_A)` of the model, spelled out -/
theorem nMaxBearable_eq (conv : Int → ℝ) (p : Params ℝ) (k : Nat) (recs : List Hyst) (beta : ℝ) :
    nMaxBearable conv p k recs beta =
      lifeReduced (damagePRAM (componentCurve p) (rowsOf conv (mSigmaOf p.g p.Rm) (consts p.g : Consts ℝ).E k recs))
        (dam (reducedCurve (componentCurve p) (consts p.g : Consts ℝ).f25_RAM beta)
          (rowsOf conv (mSigmaOf p.g p.Rm) (consts p.g : Consts ℝ).E k recs)) := rfl

/-- **N_10 ≤ N_50 ≤ N_90** for the lifetimes `N_max_bearable(P_A)` reported with a P_A = 0.5 assessment.
`β(P_A) = −Φ⁻¹(P_A)` for a strictly increasing distribution function `Φ`; `β` antitone in `P_A` ⇒ the reduction of the
curve antitone ⇒ damages monotone ⇒ lifetime monotone.  Full statement: without `hD1`.  Missing: the case that the
first pass alone exceeds the damage sum one on the 50 % curve although the assessed curve does not reach one in two
passes (then the code's `(1 − D₁)/D₂` is negative and no longer monotone in the damages). -/
theorem N10_le_N50_le_N90_partial (Φ : ℝ → ℝ) (hΦ : StrictMono Φ) (b10 b50 b90 : ℝ)
    (h10 : Φ (-b10) = 0.1) (h50 : Φ (-b50) = 0.5) (h90 : Φ (-b90) = 0.9)
    (c : PramCurve ℝ) (hc : c.Adm) (f25 : ℝ) (rows : List (Row ℝ)) (ok : RowsOk rows)
    (hD1 : sumRun 1 (dam (reducedCurve c f25 b50) rows) ≤ 1) :
    lifeReduced (damagePRAM c rows) (dam (reducedCurve c f25 b10) rows)
      ≤ lifeReduced (damagePRAM c rows) (dam (reducedCurve c f25 b50) rows) ∧
    lifeReduced (damagePRAM c rows) (dam (reducedCurve c f25 b50) rows)
      ≤ lifeReduced (damagePRAM c rows) (dam (reducedCurve c f25 b90) rows) := by
  have hb1 : b50 < b10 := beta_anti hΦ h10 h50 (by norm_num)
  have hb2 : b90 < b50 := beta_anti hΦ h50 h90 (by norm_num)
  have k1 := dam_reducedCurve_le c hc.slopes f25 rows ok.nonneg hb1.le
  have k2 := dam_reducedCurve_le c hc.slopes f25 rows ok.nonneg hb2.le
  exact ⟨lifeReduced_antitone _ k1 hD1 (dam_facts _ (reducedCurve_slopes c hc.slopes f25 b50) rows ok).2.2,
    lifeReduced_antitone _ k2 (le_trans (k2.sumRun_le 1) hD1)
      (dam_facts _ (reducedCurve_slopes c hc.slopes f25 b90) rows ok).2.2⟩

/-! ## roughness and failure probability through the parameter formulas -/

theorem componentCurve_PZ (p : Params ℝ) : (componentCurve p).PZ =
    p.krp * ((gammaM p.beta p.pa05)⁻¹ * (nP (consts p.g) p.Aref p.Asigma p.Rm p.G * pzWS (consts p.g) p.Rm p.pa05)) := by
  simp only [componentCurve, curveOf, fRAM, lit_one, one_div_div]
  ring

theorem componentCurve_PD (p : Params ℝ) : (componentCurve p).PD =
    p.krp * ((gammaM p.beta p.pa05)⁻¹ * (nP (consts p.g) p.Aref p.Asigma p.Rm p.G * pdWS (consts p.g) p.Rm p.pa05)) := by
  simp only [componentCurve, curveOf, fRAM, lit_one, one_div_div]
  ring

theorem scale_le {t t' Z X X' : ℝ} (ht : 0 < t) (htt : t' ≤ t) (e : X = t * Z) (e' : X' = t' * Z) (hpos : 0 < X) :
    X' ≤ X := by
  rw [e] at hpos
  rw [e, e']
  exact mul_le_mul_of_nonneg_right htt ((pos_iff_pos_of_mul_pos hpos).mp ht).le

/-- **A rougher surface never increases the lifetime** (smaller roughness factor `K_R,P`; `K_R,P` as a function of the
roughness `R_z` is antitone: `Assess.kRP_antitone_group` in `Proofs/Lemmas/FkmRoughness.lean`).  Full statement: without `hreg` (see `lifetime_antitone_in_curve_partial`). -/
theorem lifetime_antitone_in_roughness_partial (conv : Int → ℝ) (p : Params ℝ) (krp' : ℝ) (hk0 : 0 < krp') (hk : krp' ≤ p.krp)
    (hA : (componentCurve p).Adm) (hA' : (componentCurve { p with krp := krp' }).Adm) (k : Nat) (recs : List Hyst)
    (ok : RowsOk (rowsOf conv (mSigmaOf p.g p.Rm) (consts p.g : Consts ℝ).E k recs))
    (hreg : Regime (dam (componentCurve { p with krp := krp' }) (rowsOf conv (mSigmaOf p.g p.Rm) (consts p.g : Consts ℝ).E k recs))
                   (dam (componentCurve p) (rowsOf conv (mSigmaOf p.g p.Rm) (consts p.g : Consts ℝ).E k recs))) :
    (assessRecs conv { p with krp := krp' } k recs).life.nCycles ≤ (assessRecs conv p k recs).life.nCycles ∧
    ((assessRecs conv { p with krp := krp' } k recs).infinite = true → (assessRecs conv p k recs).infinite = true) := by
  have hkp : 0 < p.krp := lt_of_lt_of_le hk0 hk
  have hPZ : (componentCurve { p with krp := krp' }).PZ ≤ (componentCurve p).PZ :=
    scale_le hkp hk (componentCurve_PZ p) (componentCurve_PZ _) hA.PZ_pos
  have hPD : (componentCurve { p with krp := krp' }).PD ≤ (componentCurve p).PD :=
    scale_le hkp hk (componentCurve_PD p) (componentCurve_PD _) hA.1
  exact lifetime_antitone_in_curve_partial (componentCurve p) (componentCurve { p with krp := krp' }) hA hA' rfl rfl hPZ hPD _ ok hreg

/-- **A rougher surface never increases the lifetime, in terms of the roughness `R_z`** (what the property speaks of):
`K_R,P = kRP(R_z, R_m)` (eq. 2.5-37) and `R_z ≤ R_z'`.  Composition of `lifetime_antitone_in_roughness_partial` with
`Assess.kRP_antitone_group` (`Proofs/Lemmas/FkmRoughness.lean`).  Hypotheses of that step: `R_m,N,min ≤ 2 R_m` and a
non-negative base of the power for the rougher surface (beyond it the code computes `negative ** b = NaN`); `hk0`: the
rougher surface's factor is positive (base > 0). -/
theorem lifetime_antitone_in_Rz_partial (conv : Int → ℝ) (p : Params ℝ) (Rz Rz' : ℝ) (hle : Rz ≤ Rz')
    (hp : p.krp = kRP (consts p.g) Rz p.Rm)
    (hRm : (consts p.g : Consts ℝ).R_m_N_min ≤ 2 * p.Rm)
    (hbase : 1 < Rz' → 0 ≤ 1 - (consts p.g : Consts ℝ).a_RP * Real.logb 10 Rz' *
      Real.logb 10 (2 * p.Rm / (consts p.g : Consts ℝ).R_m_N_min))
    (hk0 : 0 < kRP (consts p.g) Rz' p.Rm)
    (hA : (componentCurve p).Adm) (hA' : (componentCurve { p with krp := kRP (consts p.g) Rz' p.Rm }).Adm) (k : Nat) (recs : List Hyst)
    (ok : RowsOk (rowsOf conv (mSigmaOf p.g p.Rm) (consts p.g : Consts ℝ).E k recs))
    (hreg : Regime (dam (componentCurve { p with krp := kRP (consts p.g) Rz' p.Rm }) (rowsOf conv (mSigmaOf p.g p.Rm) (consts p.g : Consts ℝ).E k recs))
                   (dam (componentCurve p) (rowsOf conv (mSigmaOf p.g p.Rm) (consts p.g : Consts ℝ).E k recs))) :
    (assessRecs conv { p with krp := kRP (consts p.g) Rz' p.Rm } k recs).life.nCycles ≤ (assessRecs conv p k recs).life.nCycles ∧
    ((assessRecs conv { p with krp := kRP (consts p.g) Rz' p.Rm } k recs).infinite = true → (assessRecs conv p k recs).infinite = true) := by
  have hk : kRP (consts p.g) Rz' p.Rm ≤ p.krp := by
    rw [hp]; exact kRP_antitone_group p.g p.Rm Rz Rz' hRm hle hbase
  exact lifetime_antitone_in_roughness_partial conv p _ hk0 hk hA hA' k recs ok hreg

/-- with the statistical assessment on, `γ_M = max(10^((0.8 β − 2)·0.08), 1.1)` -/
theorem gammaM_eq (b : ℝ) : gammaM b false = max ((10.0 : ℝ) ^ ((0.8 * b - 2.0) * 0.08)) 1.1 := by
  simp only [gammaM, transc_pow, Bool.false_eq_true, if_false]
  split_ifs with h
  · exact (max_eq_right h.le).symm
  · exact (max_eq_left (not_lt.mp h)).symm

theorem gammaM_mono (b b' : ℝ) (hb : b ≤ b') : gammaM b false ≤ gammaM b' false := by
  rw [gammaM_eq, gammaM_eq]
  exact max_le_max (Real.rpow_le_rpow_of_exponent_le (by norm_num)
    (safety_exponent_mono (by norm_num) (by norm_num) hb)) le_rfl

theorem gammaM_ge (b : ℝ) : (1.1 : ℝ) ≤ gammaM b false := by
  rw [gammaM_eq]
  exact le_max_right _ _

/-- **Demanding a smaller failure probability never increases the lifetime**: a larger safety index `β' ≥ β`
(`β = −Φ⁻¹(P_A)` is antitone in `P_A`) with the statistical assessment switched on for both.  The step from
`P_A = 0.5` (no statistical assessment: `γ_M = 1`, no `f_2.5%`) to a `P_A' < 0.5` is decided by the oracle only.
Not covered, and false for the code: `P_A > 0.5` compared with `P_A = 0.5` (the special case `P_A = 0.5` removes the
`f_2.5%` factor, so 0.5 gives a LONGER life than 0.6).  Full statement: without `hreg`. -/
theorem lifetime_antitone_in_PA_partial (conv : Int → ℝ) (p : Params ℝ) (hpa : p.pa05 = false) (beta' : ℝ) (hb : p.beta ≤ beta')
    (hA : (componentCurve p).Adm) (hA' : (componentCurve { p with beta := beta' }).Adm) (k : Nat) (recs : List Hyst)
    (ok : RowsOk (rowsOf conv (mSigmaOf p.g p.Rm) (consts p.g : Consts ℝ).E k recs))
    (hreg : Regime (dam (componentCurve { p with beta := beta' }) (rowsOf conv (mSigmaOf p.g p.Rm) (consts p.g : Consts ℝ).E k recs))
                   (dam (componentCurve p) (rowsOf conv (mSigmaOf p.g p.Rm) (consts p.g : Consts ℝ).E k recs))) :
    (assessRecs conv { p with beta := beta' } k recs).life.nCycles ≤ (assessRecs conv p k recs).life.nCycles ∧
    ((assessRecs conv { p with beta := beta' } k recs).infinite = true → (assessRecs conv p k recs).infinite = true) := by
  have g1 : (1.1 : ℝ) ≤ gammaM p.beta p.pa05 := by rw [hpa]; exact gammaM_ge p.beta
  have g2 : gammaM p.beta p.pa05 ≤ gammaM beta' p.pa05 := by rw [hpa]; exact gammaM_mono p.beta beta' hb
  have hg : 0 < gammaM p.beta p.pa05 := lt_of_lt_of_le (by norm_num) g1
  -- the curve is `γ_M⁻¹` times a quantity that does not depend on `β`
  have eZ : ∀ q : Params ℝ, (componentCurve q).PZ = (gammaM q.beta q.pa05)⁻¹ *
      (q.krp * (nP (consts q.g) q.Aref q.Asigma q.Rm q.G * pzWS (consts q.g) q.Rm q.pa05)) :=
    fun q => by rw [componentCurve_PZ, mul_left_comm]
  have eD : ∀ q : Params ℝ, (componentCurve q).PD = (gammaM q.beta q.pa05)⁻¹ *
      (q.krp * (nP (consts q.g) q.Aref q.Asigma q.Rm q.G * pdWS (consts q.g) q.Rm q.pa05)) :=
    fun q => by rw [componentCurve_PD, mul_left_comm]
  have hPZ : (componentCurve { p with beta := beta' }).PZ ≤ (componentCurve p).PZ :=
    scale_le (inv_pos.2 hg) (inv_anti₀ hg g2) (eZ p) (eZ _) hA.PZ_pos
  have hPD : (componentCurve { p with beta := beta' }).PD ≤ (componentCurve p).PD :=
    scale_le (inv_pos.2 hg) (inv_anti₀ hg g2) (eD p) (eD _) hA.1
  exact lifetime_antitone_in_curve_partial (componentCurve p) (componentCurve { p with beta := beta' }) hA hA' rfl rfl hPZ hPD _ ok hreg

/-! ## non-vacuity -/

/-- tables with positive secondary-branch values exist; ratios `[2, 3]`, point 1 -/
example : (⟨[5], [7], [9, 11], [2, 3]⟩ : Tables).SecPos ∧ (∀ c ∈ [(2:Int), 3], 0 < c) ∧ 1 < [(2:Int), 3].length := by
  refine ⟨⟨by simp, by simp, ?_, ?_⟩, ?_, by simp⟩ <;> intro v hv <;> simp at hv <;> omega

/-- `classQ_first_eq_own` on an instance (ratios 2 : 3, `M = 10`, own load `3·7`): the first point's load in the grid of
maximum 2·10 and the point's own load in the grid of maximum 3·10 give the same class 7 of 10 -/
example : classQ 10 (2 * 10) (2 * (3 * 7)) 3 10 = 7 ∧ classQ 10 (3 * 10) (3 * 7) 1 10 = 7 := by decide

/-- the hypothesis on the sample in `assessment_sample_insensitive`: `4` between the neighbours `3` and `9` -/
example : ((3:Int) ≤ 4 ∧ (4:Int) ≤ 9) ∨ ((9:Int) ≤ 4 ∧ (4:Int) ≤ 3) := Or.inl ⟨by decide, by decide⟩

/-- a prepended sample between 0, the last and the first sample: `100 :: [200, -100, 300, 50]` -/
example : (([200, -100, 300, 50] : List Int).head? = some 200) ∧ (([200, -100, 300, 50] : List Int).getLast? = some 50) ∧
    (((0:Int) ≤ 100 ∧ (100:Int) ≤ 200) ∨ ((200:Int) ≤ 100 ∧ (100:Int) ≤ 0)) ∧
    (((50:Int) ≤ 100 ∧ (100:Int) ≤ 200) ∨ ((200:Int) ≤ 100 ∧ (100:Int) ≤ 50)) := by decide

/-- column maxima of the batch `L = [3, -7]`, ratios `[2, 3]`: 14 and 21, the points' own maxima -/
example : colMaxAbs (batchLoads [3, -7] [2, 3]) 0 = 14 ∧ colMaxAbs (batchLoads [3, -7] [2, 3]) 1 = 21 ∧
    maxAbsI ([(3:Int), -7].map (3 * ·)) = 21 := by decide

/-- a collective satisfying `RowsOk` and `Regime` (one hysteresis per pass), admissible curves one below the other -/
example : let rows : List (Row ℝ) := [⟨50, false, 1⟩, ⟨80, true, 2⟩]
    RowsOk rows ∧ (⟨-0.3, -0.2, 400, 100⟩ : PramCurve ℝ).Adm ∧ (⟨-0.3, -0.2, 300, 90⟩ : PramCurve ℝ).Adm ∧
    Regime (dam ⟨-0.3, -0.2, 300, 90⟩ rows) (dam ⟨-0.3, -0.2, 400, 100⟩ rows) := by
  intro rows
  refine ⟨⟨?_, ?_, ⟨⟨80, true, 2⟩, by simp [rows], rfl, by norm_num⟩⟩, ?_, ?_, Or.inr ?_⟩
  · intro r hr; simp [rows] at hr; rcases hr with rfl | rfl <;> norm_num
  · intro r hr; simp [rows] at hr; rcases hr with rfl | rfl <;> simp
  · unfold PramCurve.Adm; norm_num
  · unfold PramCurve.Adm; norm_num
  · simp only [dam, rows, List.map, countRun, lit_zero, lit_one]; norm_num

/-- hypotheses of `N10_le_N50_le_N90_partial`: `Φ = id` (so β = −P_A), a collective without first-pass hystereses -/
example : StrictMono (id : ℝ → ℝ) ∧ id (-(-0.1 : ℝ)) = (0.1 : ℝ) ∧
    sumRun 1 (dam (reducedCurve (⟨-0.3, -0.2, 400, 100⟩ : PramCurve ℝ) 0.71 (-0.5)) [⟨80, true, 2⟩]) ≤ 1 := by
  refine ⟨strictMono_id, by simp, ?_⟩
  simp only [dam, List.map, sumRun, lit_zero]
  norm_num

/-- hypotheses of `lifetime_antitone_in_Rz_partial` about the roughness: steel, `R_m = 600`, `R_z = 10 ≤ R_z' = 100` -/
example : (consts Group.Steel : Consts ℝ).R_m_N_min ≤ 2 * 600 ∧ (10:ℝ) ≤ 100 ∧
    (1 < (100:ℝ) → 0 ≤ 1 - (consts Group.Steel : Consts ℝ).a_RP * Real.logb 10 100 *
      Real.logb 10 (2 * 600 / (consts Group.Steel : Consts ℝ).R_m_N_min)) ∧
    0 < kRP (consts Group.Steel : Consts ℝ) 100 600 :=
  ⟨by simp [consts]; norm_num, by norm_num, fun _ => steel_base_pos.le, kRP_pos _ 600 100 (fun _ => steel_base_pos)⟩

/-- a safety index above another, statistical assessment on -/
example : ((3.09 : ℝ) ≤ 3.8) ∧ (1.1 : ℝ) ≤ gammaM 3.09 false := ⟨by norm_num, gammaM_ge _⟩

end PylifeVerif.C10
