/-
C12 — what the guard `TransformGuard` ("the exact iso-damage amplitude stays positive along the run") means for the
diagrams in standard form of `Proofs/C12General.lean`:

    TransformGuard D g c   ↔   the iso-damage potential is positive at the cycle's ray and at the target.

This is the instance of `transformGuard_iff_of_goodPot` (`Proofs/Lemmas/MeanstressGuardGeneral.lean`: any diagram with a good
potential whose runs fire).  Consequently the guard is a condition on the two END POINTS of the move only, not on the run the code
makes, and it is void (always true) where the potential is positive everywhere: FKM-Goodman with `0 ≤ M2`, `0 ≤ M < 1`
(`goodman_guard`, `Proofs/Lemmas/MeanstressGoodman.lean`) and the five-segment diagram with `M4 ≤ 0`, `0 ≤ M0 < 1`,
`0 ≤ M1, M2, M3` (`fiveSegment_guard`), for which the five-segment theorems are restated without guard hypotheses.
-/
import Proofs.C12General

namespace PylifeVerif.C12
open PylifeVerif.Meanstress ExtR

section Std
variable (Minf M0 r1 : ℝ) (bs : List (ℝ × ℝ)) (Mn : ℝ)

/-- The guard is exactly: the potential is positive at the cycle's ray and at the target. -/
theorem transformGuard_iff_pos (hs : SortedR r1 bs) (hgood : GoodD Minf M0 r1 bs Mn) (g : ExtR ℝ) (c : Cyc ℝ)
    (hg : ValidR g) (hR : ValidR c.R) :
    TransformGuard (diagram Minf M0 r1 bs Mn) g c ↔
      0 < hD Minf M0 r1 bs Mn (pos c.R) ∧ 0 < hD Minf M0 r1 bs Mn (pos g) :=
  transformGuard_iff_of_goodPot (diagram_goodPot hs hgood) (diagram_fires hs (.refl _)) hg hR

/-- The guard does not depend on the amplitude (only on the two rays). -/
theorem transformGuard_amp_irrelevant (hs : SortedR r1 bs) (hgood : GoodD Minf M0 r1 bs Mn) (g R : ExtR ℝ) (a₁ a₂ : ℝ)
    (hg : ValidR g) (hR : ValidR R) :
    TransformGuard (diagram Minf M0 r1 bs Mn) g ⟨a₁, R⟩ ↔ TransformGuard (diagram Minf M0 r1 bs Mn) g ⟨a₂, R⟩ := by
  rw [transformGuard_iff_pos Minf M0 r1 bs Mn hs hgood g ⟨a₁, R⟩ hg hR,
    transformGuard_iff_pos Minf M0 r1 bs Mn hs hgood g ⟨a₂, R⟩ hg hR]

/-- Idempotence with the guard of the first move only. -/
theorem diagram_idempotent' (hs : SortedR r1 bs) (hgood : GoodD Minf M0 r1 bs Mn) (g : ExtR ℝ) (c : Cyc ℝ)
    (hg : ValidR g) (hR : ValidR c.R) (hG : TransformGuard (diagram Minf M0 r1 bs Mn) g c) :
    transform (diagram Minf M0 r1 bs Mn) g (transform (diagram Minf M0 r1 bs Mn) g c)
      = transform (diagram Minf M0 r1 bs Mn) g c :=
  transform_path_of_goodPot (diagram_goodPot hs hgood) (diagram_fires hs (.refl _)) hg hg hR hG hG

end Std

/-- Every diagram in standard form, listed in any order: one continuous potential `h` characterises the guard. -/
theorem stdDiagram_guard_iff (D : List (Seg ℝ)) (hD : StdDiagram D) :
    ∃ h : ℝ → ℝ, Continuous h ∧ ∀ g c, ValidR g → ValidR c.R →
      (TransformGuard D g c ↔ 0 < h (pos c.R) ∧ 0 < h (pos g)) := by
  obtain ⟨h, hT, hF, hcont, _⟩ := hD.pot
  exact ⟨h, hcont, fun g c hg hR => transformGuard_iff_of_goodPot hT hF hg hR⟩

/-- Path independence for every diagram in standard form with the two end-point guards only. -/
theorem transform_path_independent' (D : List (Seg ℝ)) (hD : StdDiagram D) (g₁ g₂ : ExtR ℝ) (c : Cyc ℝ)
    (hg1 : ValidR g₁) (hg2 : ValidR g₂) (hR : ValidR c.R)
    (hGa : TransformGuard D g₁ c) (hGc : TransformGuard D g₂ c) :
    transform D g₂ (transform D g₁ c) = transform D g₂ c := by
  obtain ⟨h, hT, hF, _⟩ := hD.pot
  exact transform_path_of_goodPot hT hF hg1 hg2 hR hGa hGc

section Five
variable {M0 M1 M2 M3 M4 R12 R23 : ℝ}

theorem fiveSegment_guard_iff (h : FiveSegOK M0 M1 M2 M3 M4 R12 R23) (g : ExtR ℝ) (c : Cyc ℝ) (hg : ValidR g)
    (hR : ValidR c.R) :
    TransformGuard (fiveSegment M0 M1 M2 M3 M4 R12 R23) g c ↔
      0 < h5 M0 M1 M2 M3 M4 R12 R23 (pos c.R) ∧ 0 < h5 M0 M1 M2 M3 M4 R12 R23 (pos g) := by
  rw [fiveSegment_diagram]
  exact transformGuard_iff_pos M4 M0 0 _ M3 h.sorted h.good g c hg hR

/-- In the usual parameter range (`M4 ≤ 0`, `0 ≤ M0 < 1`, `0 ≤ M1, M2, M3`) the potential is positive everywhere. -/
theorem h5_pos (hR1 : 0 < R12) (hR2 : R12 < R23) (hR3 : R23 < 1) (h4 : M4 ≤ 0) (h0 : 0 ≤ M0) (h0' : M0 < 1)
    (h1 : 0 ≤ M1) (h2 : 0 ≤ M2) (h3 : 0 ≤ M3) (x : ℝ) : 0 < h5 M0 M1 M2 M3 M4 R12 R23 x :=
  hD_pos (by exact ⟨hR1, hR2, hR3⟩) (by norm_num) h4 h0 h0' (by simp [h1, h2]) h3 x

/-- … hence the guard holds for EVERY cycle and target. -/
theorem fiveSegment_guard (hR1 : 0 < R12) (hR2 : R12 < R23) (hR3 : R23 < 1) (h4 : M4 ≤ 0) (h0 : 0 ≤ M0) (h0' : M0 < 1)
    (h1 : 0 ≤ M1) (h2 : 0 ≤ M2) (h3 : 0 ≤ M3) (g : ExtR ℝ) (c : Cyc ℝ) (hg : ValidR g) (hR : ValidR c.R) :
    TransformGuard (fiveSegment M0 M1 M2 M3 M4 R12 R23) g c :=
  (fiveSegment_guard_iff (fiveSegOK_of_slopes _ _ _ _ _ _ _ hR1 hR2 hR3 (by linarith) h0 h0' h1 h2 h3) g c hg hR).2
    ⟨h5_pos hR1 hR2 hR3 h4 h0 h0' h1 h2 h3 _, h5_pos hR1 hR2 hR3 h4 h0 h0' h1 h2 h3 _⟩

/-- Five-segment amplitude formula without guard hypothesis (usual parameter range). -/
theorem fiveSegment_amp_of_slopes (hR1 : 0 < R12) (hR2 : R12 < R23) (hR3 : R23 < 1) (h4 : M4 ≤ 0) (h0 : 0 ≤ M0)
    (h0' : M0 < 1) (h1 : 0 ≤ M1) (h2 : 0 ≤ M2) (h3 : 0 ≤ M3) (g : ExtR ℝ) (c : Cyc ℝ) (hg : ValidR g) (hR : ValidR c.R) :
    (transform (fiveSegment M0 M1 M2 M3 M4 R12 R23) g c).amp
      = c.amp * h5 M0 M1 M2 M3 M4 R12 R23 (pos c.R) / h5 M0 M1 M2 M3 M4 R12 R23 (pos g) :=
  fiveSegment_amp (fiveSegOK_of_slopes _ _ _ _ _ _ _ hR1 hR2 hR3 (by linarith) h0 h0' h1 h2 h3) g c hg hR
    (fiveSegment_guard hR1 hR2 hR3 h4 h0 h0' h1 h2 h3 g c hg hR)

/-- Five-segment path independence without guard hypotheses (usual parameter range). -/
theorem fiveSegment_path_independent_of_slopes (hR1 : 0 < R12) (hR2 : R12 < R23) (hR3 : R23 < 1) (h4 : M4 ≤ 0)
    (h0 : 0 ≤ M0) (h0' : M0 < 1) (h1 : 0 ≤ M1) (h2 : 0 ≤ M2) (h3 : 0 ≤ M3) (g₁ g₂ : ExtR ℝ) (c : Cyc ℝ)
    (hg1 : ValidR g₁) (hg2 : ValidR g₂) (hR : ValidR c.R) :
    transform (fiveSegment M0 M1 M2 M3 M4 R12 R23) g₂ (transform (fiveSegment M0 M1 M2 M3 M4 R12 R23) g₁ c)
      = transform (fiveSegment M0 M1 M2 M3 M4 R12 R23) g₂ c :=
  transform_path_independent' _ (fiveSegOK_of_slopes _ _ _ _ _ _ _ hR1 hR2 hR3 (by linarith) h0 h0' h1 h2 h3).std g₁ g₂ c hg1 hg2 hR
    (fiveSegment_guard hR1 hR2 hR3 h4 h0 h0' h1 h2 h3 g₁ c hg1 hR) (fiveSegment_guard hR1 hR2 hR3 h4 h0 h0' h1 h2 h3 g₂ c hg2 hR)

/-- Five-segment idempotence without guard hypotheses (usual parameter range). -/
theorem fiveSegment_idempotent_of_slopes (hR1 : 0 < R12) (hR2 : R12 < R23) (hR3 : R23 < 1) (h4 : M4 ≤ 0)
    (h0 : 0 ≤ M0) (h0' : M0 < 1) (h1 : 0 ≤ M1) (h2 : 0 ≤ M2) (h3 : 0 ≤ M3) (g : ExtR ℝ) (c : Cyc ℝ)
    (hg : ValidR g) (hR : ValidR c.R) :
    transform (fiveSegment M0 M1 M2 M3 M4 R12 R23) g (transform (fiveSegment M0 M1 M2 M3 M4 R12 R23) g c)
      = transform (fiveSegment M0 M1 M2 M3 M4 R12 R23) g c :=
  fiveSegment_path_independent_of_slopes hR1 hR2 hR3 h4 h0 h0' h1 h2 h3 g g c hg hg hR

end Five

/-! ### Consistency with FKM-Goodman, non-vacuity -/

/-- The FKM-Goodman guard theorem is the instance `hG > 0` of the characterisation. -/
example (M M2 : ℝ) (h0 : 0 ≤ M2) (h1 : 0 ≤ M) (h2 : M < 1) (g : ExtR ℝ) (c : Cyc ℝ) (hg : ValidR g) (hR : ValidR c.R) :
    TransformGuard (goodman M M2) g c :=
  goodman_guard M M2 h0 h1 h2 g c hg hR

/-- The guard is a real restriction: with a positive slope beyond R = 1 (`Minf = 1/2`) the iso-damage line through a
cycle at R = 2 (`x = -3`) has no positive amplitude (potential `1 - 3/2 < 0`) and the guard fails … -/
example : ¬ TransformGuard (diagram (1/2) (3/10) 0 [] (1/10)) (fin (-1)) ⟨1, fin 2⟩ := by
  have hs : SortedR (0:ℝ) [] := by simp [SortedR]
  have hg : GoodD (1/2) (3/10) 0 [] (1/10) := by norm_num [GoodD, GoodC, px]
  rw [transformGuard_iff_pos (1/2) (3/10) 0 [] (1/10) hs hg _ _ (by norm_num [ValidR]) (by norm_num [ValidR])]
  norm_num [hD, pos]

/-- … while for the cycle at R = 5 (`x = -3/2`, potential `∝ 1 - 3/4 > 0`) it holds. -/
example : TransformGuard (diagram (1/2) (3/10) 0 [] (1/10)) (fin (-1)) ⟨1, fin 5⟩ := by
  have hs : SortedR (0:ℝ) [] := by simp [SortedR]
  have hg : GoodD (1/2) (3/10) 0 [] (1/10) := by norm_num [GoodD, GoodC, px]
  rw [transformGuard_iff_pos (1/2) (3/10) 0 [] (1/10) hs hg _ _ (by norm_num [ValidR]) (by norm_num [ValidR])]
  norm_num [hD, pos, px]

/-- These parameters are in the usual range: the guard holds for every cycle and target. -/
theorem guard5 (g : ExtR ℝ) (c : Cyc ℝ) (hg : ValidR g) (hR : ValidR c.R) :
    TransformGuard (fiveSegment (1/2) (1/3) (1/5) (1/10) (-2) (1/5) (3/5)) g c :=
  fiveSegment_guard (by norm_num) (by norm_num) (by norm_num) (by norm_num) (by norm_num) (by norm_num) (by norm_num)
    (by norm_num) (by norm_num) g c hg hR

/-- Guard for the cycle of amplitude 1 at R = 7/10 (in `(R23, 1]`) and the target R = -1: the run crosses R23, R12 and 0. -/
theorem guard5_example :
    TransformGuard (fiveSegment (1/2) (1/3) (1/5) (1/10) (-2) (1/5) (3/5)) (fin (-1)) ⟨1, fin (7/10)⟩ :=
  guard5 _ _ (by norm_num [ValidR]) (by norm_num [ValidR])

/-- … and its transformed amplitude is `27/16 · 18/13 · 47/42 = 3807/1456`. -/
example : (transform (fiveSegment (1/2) (1/3) (1/5) (1/10) (-2) (1/5) (3/5)) (fin (-1)) (⟨1, fin (7/10)⟩ : Cyc ℝ)).amp
    = 3807/1456 := by
  rw [fiveSegment_amp five_ok _ _ (by norm_num [ValidR]) (by norm_num [ValidR]) guard5_example]
  norm_num [h5_explicit, pos, px]

/-- Path independence is not vacuous: first to R = 1/10 (the cycle moves from `(R23, 1]` into `(0, R12]`), then to R = -1. -/
theorem guard5_example_a :
    TransformGuard (fiveSegment (1/2) (1/3) (1/5) (1/10) (-2) (1/5) (3/5)) (fin (1/10)) ⟨1, fin (7/10)⟩ :=
  guard5 _ _ (by norm_num [ValidR]) (by norm_num [ValidR])

theorem transform5_example_a :
    transform (fiveSegment (1/2) (1/3) (1/5) (1/10) (-2) (1/5) (3/5)) (fin (1/10)) (⟨1, fin (7/10)⟩ : Cyc ℝ)
      = ⟨11421/6916, fin (1/10)⟩ := by
  refine Cyc.eq_of ?_ (fiveSegment_arrives_at_target _ _ _ _ _ _ _ (by norm_num) (by norm_num) (by norm_num) _ _
    (by norm_num [ValidR]) (by norm_num [ValidR]))
  rw [fiveSegment_amp five_ok _ _ (by norm_num [ValidR]) (by norm_num [ValidR]) guard5_example_a]
  norm_num [h5_explicit, pos, px]

theorem guard5_example_b :
    TransformGuard (fiveSegment (1/2) (1/3) (1/5) (1/10) (-2) (1/5) (3/5)) (fin (-1)) ⟨11421/6916, fin (1/10)⟩ :=
  guard5 _ _ (by norm_num [ValidR]) (by norm_num [ValidR])

example :
    transform (fiveSegment (1/2) (1/3) (1/5) (1/10) (-2) (1/5) (3/5)) (fin (-1))
      (transform (fiveSegment (1/2) (1/3) (1/5) (1/10) (-2) (1/5) (3/5)) (fin (1/10)) (⟨1, fin (7/10)⟩ : Cyc ℝ))
    = transform (fiveSegment (1/2) (1/3) (1/5) (1/10) (-2) (1/5) (3/5)) (fin (-1)) (⟨1, fin (7/10)⟩ : Cyc ℝ) := by
  have hb : TransformGuard (fiveSegment (1/2) (1/3) (1/5) (1/10) (-2) (1/5) (3/5)) (fin (-1))
      (transform (fiveSegment (1/2) (1/3) (1/5) (1/10) (-2) (1/5) (3/5)) (fin (1/10)) (⟨1, fin (7/10)⟩ : Cyc ℝ)) := by
    rw [transform5_example_a]; exact guard5_example_b
  have v1 : ValidR (fin (1/10) : ExtR ℝ) := by norm_num [ValidR]
  have v2 : ValidR (fin (-1) : ExtR ℝ) := by norm_num [ValidR]
  have v3 : ValidR (⟨1, fin (7/10)⟩ : Cyc ℝ).R := by norm_num [ValidR]
  exact fiveSegment_path_independent five_ok (fin (1/10)) (fin (-1)) ⟨1, fin (7/10)⟩ v1 v2 v3 guard5_example_a hb guard5_example

/-- Five-segment parameters of the usual shape: guard for every cycle, e.g. from R = 7/10 to R = -1. -/
example : TransformGuard (fiveSegment (1/2) (1/3) (1/5) (1/10) (-2) (1/5) (3/5)) (fin (-1)) ⟨1, fin (7/10)⟩ :=
  guard5_example

example : transform (fiveSegment (1/2) (1/3) (1/5) (1/10) (-2) (1/5) (3/5)) (fin (-1))
      (transform (fiveSegment (1/2) (1/3) (1/5) (1/10) (-2) (1/5) (3/5)) (fin (1/10)) (⟨1, fin (7/10)⟩ : Cyc ℝ))
    = transform (fiveSegment (1/2) (1/3) (1/5) (1/10) (-2) (1/5) (3/5)) (fin (-1)) (⟨1, fin (7/10)⟩ : Cyc ℝ) :=
  fiveSegment_path_independent_of_slopes (by norm_num) (by norm_num) (by norm_num) (by norm_num) (by norm_num)
    (by norm_num) (by norm_num) (by norm_num) (by norm_num) _ _ _ (by norm_num [ValidR]) (by norm_num [ValidR])
    (by norm_num [ValidR])

end PylifeVerif.C12
