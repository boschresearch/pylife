/-
The scientific literals of the model, read over `ℝ`, are the numerals. They stand apart from `Proofs.RealNum` for the
files (mesh, mean stress) that use no special function: `Proofs.RealNum` would bring Mathlib's special functions, and
their `simp` set, into files that need none of it. None is `@[simp]` here; a region that wants them in its `simp` set
says so (`attribute [simp]`).
-/
import Mathlib.Tactic.Ring
import Mathlib.Tactic.NormNum.OfScientific
import Mathlib.Data.Real.Basic

namespace PylifeVerif

theorem lit_zero : (0.0 : ℝ) = 0 := by norm_num
theorem lit_one : (1.0 : ℝ) = 1 := by norm_num
theorem lit_two : (2.0 : ℝ) = 2 := by norm_num
theorem lit_three : (3.0 : ℝ) = 3 := by norm_num
theorem lit_ten : (10.0 : ℝ) = 10 := by norm_num
theorem lit_half : (0.5 : ℝ) = 1 / 2 := by norm_num

end PylifeVerif
