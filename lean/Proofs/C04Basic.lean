/-
C04, the kinds of record (repaired variant `twoPassR`; `C04Code.lean` has the code's twins): a half-counted
(Memory 3) hysteresis is symmetric about zero, a closed one is not marked so (`memory3_symmetric`); the second pass
records closed hystereses only (`pass2_all_closed`), since the first pass has been fed a load at least as large as
every sample (`pass2_closed_of_dom`, `pass1_dominates`).  Also what the C04 statements share: `one`, `pass2Ranges`,
`TwoDistinct`.
-/
import Proofs.Lemmas.HCMFlush

namespace PylifeVerif
open HCM
namespace C04

/-- a one-point load sequence -/
def one (s : List Int) : List Vec := s.map fun x => [x]

theorem one_rep (c : List Int) : (one c).map rep = c := by
  induction c with
  | nil => rfl
  | cons x xs ih => simp only [one, List.map_cons] at ih ⊢; rw [ih]; rfl

/-- (min, max) load of the first point of every hysteresis recorded in pass 2 -/
def pass2Ranges (st : State) : List (Int × Int) :=
  (st.recs.filter (·.run = 2)).map fun h => (rep h.loadMin, rep h.loadMax)

def TwoDistinct (s : List Int) : Prop := ∃ a ∈ s, ∃ b ∈ s, a ≠ b

/-- the property of one record claimed by `memory3_symmetric` -/
def RecOK (h : Hyst) : Prop :=
  (h.closed = false → h.zeroMean = true ∧ h.loadMin = vneg h.loadMax ∧ h.sMin = vneg h.sMax ∧ h.eMin = vneg h.eMax) ∧
  (h.closed = true → h.zeroMean = false)

theorem recOK_half (st : State) (prev : HPoint) : RecOK (halfHyst st prev) := by
  simp [RecOK, halfHyst]

theorem recOK_closed (st : State) (p0 p1 : HPoint) : RecOK (closedHyst st p0 p1) := by
  simp [RecOK, closedHyst]

theorem process_recOK (law : Law) (st : State) (samples : List Vec) (flush : Bool)
    (h0 : ∀ h ∈ st.recs, RecOK h) : ∀ h ∈ (process law st samples flush).recs, RecOK h :=
  (process_recs law RecOK st samples flush (fun _ st' prev _ => recOK_half st' prev)
    (fun st' p0 p1 _ => recOK_closed st' p0 p1) h0).2.2.2

theorem twoProcess_recOK (law : Law) (s1 s' : List Vec) (f : Bool) :
    ∀ h ∈ (process law (process law {} s1 f) s' true).recs, RecOK h :=
  process_recOK law _ s' true (process_recOK law {} s1 f (fun _ hh => absurd hh List.not_mem_nil))

/-- Half-counted (Memory 3) hystereses are symmetric about zero and carry the zero-mean flag;
closed ones do not. -/
theorem memory3_symmetric (law : Law) (s : List Vec) :
    ∀ h ∈ (twoPassR law s).recs,
      (h.closed = false → h.zeroMean = true ∧ h.loadMin = vneg h.loadMax ∧ h.sMin = vneg h.sMax ∧ h.eMin = vneg h.eMax) ∧
      (h.closed = true → h.zeroMean = false) := by
  rw [(Insert.twoPass_eq law s).1]
  exact twoProcess_recOK law _ _ _

/-- the property of one record claimed by `pass2_all_closed` -/
def Pass2Closed (h : Hyst) : Prop := h.run = 2 → h.closed = true

/-- If the first pass (flushing or not) is fed, for every sample of the zero-prefixed sequence, a load
at least as large in absolute value, then the second pass records closed hystereses only. -/
theorem pass2_closed_of_dom (law : Law) (s' : List Vec) (z : Vec) (flush : Bool)
    (hdom : ∀ x ∈ (z :: s').map rep, ∃ load ∈ procLoads {} (z :: s') flush,
      x.natAbs ≤ (rep load).natAbs) :
    ∀ h ∈ (process law (process law {} (z :: s') flush) s' true).recs, h.run = 2 → h.closed = true := by
  -- pass 1: its half hystereses have run number 1; its `loadMax` dominates every sample
  obtain ⟨_, _, d1, q1⟩ := process_recs law Pass2Closed {} (z :: s') flush
    (fun _ st' prev hr h2 => by rw [halfHyst, hr] at h2; cases h2)
    (fun st' p0 p1 _ _ => rfl) (fun _ hh => absurd hh List.not_mem_nil)
  have hdom' : ∀ load ∈ z :: s', (rep load).natAbs ≤ (process law {} (z :: s') flush).loadMax := by
    intro v hv
    obtain ⟨load, hl, hle⟩ := hdom (rep v) (List.mem_map_of_mem hv)
    exact Nat.le_trans hle (d1 load hl)
  have hls : (process law {} (z :: s') flush).lastSample ∈ z :: s' := by
    rw [process_lastSample, ← List.getLast_eq_getLastD (List.cons_ne_nil _ _)]
    exact List.getLast_mem _
  -- pass 2 is fed samples and the stored last sample only: no load exceeds `loadMax`
  have hno : ¬ ∃ load ∈ procLoads (process law {} (z :: s') flush) s' true,
      (rep load).natAbs > (process law {} (z :: s') flush).loadMax := by
    rintro ⟨load, hl, hgt⟩
    rcases procLoads_mem _ _ _ (by rw [process_ts]; exact (Rainflow.newTurns_idx _ _ _ (Nat.le_refl _)).2) load hl with
      ⟨-, h⟩ | h
    · exact absurd (hdom' load (h ▸ hls)) (Nat.not_le_of_gt hgt)
    · exact absurd (hdom' load (List.mem_cons_of_mem _ h)) (Nat.not_le_of_gt hgt)
  exact (process_recs law Pass2Closed (process law {} (z :: s') flush) s' true
    (fun hex => absurd hex hno) (fun st' p0 p1 _ _ => rfl) q1).2.2.2

/-- Memory 3 occurs only in the first pass - under the explicit (decidable) hypothesis that the first
pass flushes, i.e. is fed the last sample of the trimmed sequence.  (This hypothesis is what
`TwoDistinct (s.map rep)` provides, see below.) -/
theorem pass2_all_closed_of_flush (law : Law) (s : List Vec)
    (hf : (adjustFirstRunR (dropTrailingNonReversals s)).2 = true) :
    ∀ h ∈ (twoPassR law s).recs, h.run = 2 → h.closed = true := by
  rw [(Insert.twoPass_eq law s).1, ← Insert.adjustR_snd, hf]
  exact pass2_closed_of_dom law _ _ true (pass1_dominates _ _ (rep_replicate_zero _))

/-- Memory 3 occurs only in the first pass: every hysteresis of pass 2 is a full one. -/
theorem pass2_all_closed (law : Law) (s : List Vec) (h2 : TwoDistinct (s.map rep)) :
    ∀ h ∈ (twoPassR law s).recs, h.run = 2 → h.closed = true :=
  pass2_all_closed_of_flush law s (flush_of_twoDistinct s h2)

example : TwoDistinct ((one [100, -200, 0, 200, -100, 100]).map rep) :=
  ⟨100, by decide, -200, by decide, by decide⟩

/-- a sequence whose two passes record half (Memory 3) and closed hystereses, some of them in pass 2 -/
example : ((twoPassR lawLinear (one [100, -200, 0, 200, -100, 100])).recs.map
    fun h => (h.run, h.closed, rep h.loadMin, rep h.loadMax)) =
    [(1, false, -100, 100), (2, true, -100, 100), (2, true, -200, 200)] := by decide +kernel

end C04
end PylifeVerif
