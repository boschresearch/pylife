/-
C05 for the CODE model `twoPass` (first-run flush flag from `findTurns (reps ++ reps)`): the same
theorems as `Proofs/C05Core.lean` (which are about the repaired variant `twoPassR`), unguarded.
-/
import Proofs.C05Core

namespace PylifeVerif
open HCM
namespace C05

set_option linter.unusedVariables false in
/-- The detector's records and visited strains equal those of the guideline procedure run on the
reversal sequences that the two passes are fed (code model).  `SignPreserving` is not needed for one
point: the hypothesis belongs to the statement as posed in `tools/stmts/HCM.lean` and is not used. -/
theorem hcm_model_eq_guideline_code (law : Law) (hl : SignPreserving law) (s : List Int) :
    let st := twoPass law (C04.one s)
    st.recs.map toG = (Spec.guideline law (fedOf st 1) (fedOf st 2)).recs ∧
    st.strainValues = (Spec.guideline law (fedOf st 1) (fedOf st 2)).strains :=
  guideline_of_isGuideline law _ (C05L.twoPass_one law s).2

/-- Points with proportional load histories: every point gets what it gets alone (code model). -/
theorem hcm_batch_eq_single_code (law : Law) (hl : SignPreserving law) (L : List Int) (cs : List Int)
    (hc : ∀ c ∈ cs, 0 < c) (k : Nat) (hk : k < cs.length) :
    ((twoPass law (L.map fun l => cs.map (· * l))).recs.map (proj k)) =
      ((twoPass law (L.map fun l => [cs.getD k 1 * l])).recs.map (proj 0)) :=
  (proj_of_toGk (C05L.twoPass_sim hl (C05L.factors_pos cs hc k hk) hk L).2).1

/-- The running strain extremes (kept per assessment point) of every point of a
batch with proportional load histories are those the point gets alone (code model). -/
theorem hcm_batch_eq_single_LF_code (law : Law) (hl : SignPreserving law) (L : List Int) (cs : List Int)
    (hc : ∀ c ∈ cs, 0 < c) (k : Nat) (hk : k < cs.length) :
    ((twoPass law (L.map fun l => cs.map (· * l))).recs.map (projLF k)) =
      ((twoPass law (L.map fun l => [cs.getD k 1 * l])).recs.map (projLF 0)) :=
  (proj_of_toGk (C05L.twoPass_sim hl (C05L.factors_pos cs hc k hk) hk L).2).2

/-! ### non-vacuity (a sequence on which the code's flag differs from the repaired one is included) -/

example : ((twoPass lawLinear ([0, 100, -200, 100, -100, 200].map fun l => [1, 3, 2].map (· * l))).recs.map (proj 1)) =
    ((twoPass lawLinear ([0, 100, -200, 100, -100, 200].map fun l => [[1, 3, 2].getD 1 1 * l])).recs.map (proj 0)) :=
  hcm_batch_eq_single_code lawLinear signPreserving_lawLinear _ [1, 3, 2] (by decide) 1 (by decide)

example :
    let st := twoPass lawLinear (C04.one [100, -200, 100, -100, 200])
    st.recs.map toG = (Spec.guideline lawLinear (fedOf st 1) (fedOf st 2)).recs ∧
    st.strainValues = (Spec.guideline lawLinear (fedOf st 1) (fedOf st 2)).strains :=
  hcm_model_eq_guideline_code lawLinear signPreserving_lawLinear _

example : ((twoPass lawSat ([0, 100, -200, 100, -100, 200].map fun l => [1, 3, 2].map (· * l))).recs.map (projLF 1)) =
    [(0, 91200), (-361800, 451200), (-361800, 1081800), (-361800, 1081800), (-361800, 1081800)] := by
  decide +kernel

/-- on this sequence the code model and the repaired variant feed different reversal sequences -/
example : (twoPass lawLinear (C04.one [-200, -100, -200, -100])).fed ≠
    (twoPassR lawLinear (C04.one [-200, -100, -200, -100])).fed := by
  decide +kernel

example :
    let st := twoPass lawLinear (C04.one [-200, -100, -200, -100])
    st.recs.map toG = (Spec.guideline lawLinear (fedOf st 1) (fedOf st 2)).recs ∧
    st.strainValues = (Spec.guideline lawLinear (fedOf st 1) (fedOf st 2)).strains :=
  hcm_model_eq_guideline_code lawLinear signPreserving_lawLinear _

end C05
end PylifeVerif

