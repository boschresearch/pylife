/- C05: HCM stress-strain bookkeeping, point by point. -/
import Model.HCMSpec
import Proofs.C05Core
import Proofs.C05Mirror
import Proofs.C05Code
import Proofs.C05Literal
