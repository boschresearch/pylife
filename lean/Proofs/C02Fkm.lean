/-
C02/C03, FKM part: for every chunking (empty chunks included) the FKM detector model is the
Clormann–Seeger HCM rule on the turning-point values of the concatenated signal (`fkmRun_eq_hcm`), and
closed pairs and residual partition them (`fkmRun_partition`); one chunk is the instance `[s]`.
Flipping the sign of the signal flips the sign of every recorded value and nothing else (`fkm_neg`).
-/
import Proofs.Lemmas.Fkm
import Proofs.Lemmas.Sym
import Proofs.C02FourPoint

namespace PylifeVerif.C02
open PylifeVerif.Rainflow PylifeVerif.Rainflow.Fkm

/-- General form on an arbitrary strictly alternating list of turning-point values: the model
loop (with its running maximum `maxTurn`) and the reference HCM rule (which looks at the top
residual) produce the same residual stack, the same `ir` and the same cycles.  Alternation is
necessary: `[-2, -2, -1, -2]` is a counterexample without it. -/
theorem fkmFold_eq_hcm (turns : List Int) (h : Alternating turns) :
    (turns.foldl fkmTurn {}).res = (Spec.hcm turns).res ∧
    (turns.foldl fkmTurn {}).ir = (Spec.hcm turns).ir ∧
    (turns.foldl fkmTurn {}).cycles = (Spec.hcm turns).cycles :=
  Fkm.fkmFold_eq_hcm {} turns h

/-- The alternation hypothesis cannot be dropped. -/
example : (([-2, -2, -1, -2] : List Int).foldl fkmTurn {}).ir ≠ (Spec.hcm [-2, -2, -1, -2]).ir := by
  decide

/-- General form of the partition property, for an arbitrary list of values (no alternation
needed). -/
theorem fkmFold_partition (turns : List Int) :
    (((turns.foldl fkmTurn {}).cycles.flatMap fun c => [c.1, c.2]) ++
      (turns.foldl fkmTurn {}).res).Perm turns := by
  simpa using Fkm.fkmFold_perm turns {}

theorem findTurns_alternating (s : List Int) : Alternating ((findTurns s).map (·.2)) :=
  Fkm.findTurns_alternating s

theorem fkmRun_eq_hcm (cs : List (List Int)) :
    ((fkmRun cs).cycles, (fkmRun cs).res) =
      ((Spec.hcm ((findTurns cs.flatten).map (·.2))).cycles,
        (Spec.hcm ((findTurns cs.flatten).map (·.2))).res) := by
  obtain ⟨h1, _, h3⟩ := Fkm.fkmFold_eq_hcm {} _ (Fkm.findTurns_alternating cs.flatten)
  rw [C01.fkmRun_canon]
  exact Prod.ext h3 h1

theorem fkmRun_partition (cs : List (List Int)) :
    (((fkmRun cs).cycles.flatMap fun c => [c.1, c.2]) ++ (fkmRun cs).res).Perm
      ((findTurns cs.flatten).map (·.2)) := by
  rw [C01.fkmRun_canon]
  simpa using Fkm.fkmFold_perm ((findTurns cs.flatten).map (·.2)) {}

theorem fkm_eq_spec (s : List Int) :
    ((fkmRun [s]).cycles, (fkmRun [s]).res) =
      ((Spec.hcm ((Spec.reversals s).map (·.2))).cycles, (Spec.hcm ((Spec.reversals s).map (·.2))).res) := by
  simpa [findTurns_eq_reversals] using fkmRun_eq_hcm [s]

theorem fkm_partition (s : List Int) :
    (((fkmRun [s]).cycles.flatMap fun c => [c.1, c.2]) ++ (fkmRun [s]).res).Perm ((Spec.reversals s).map (·.2)) := by
  simpa [findTurns_eq_reversals] using fkmRun_partition [s]

/-- Non-vacuity: a signal with closings on and off the primary path (the witness of finding F-1, DESIGN section 6). -/
example : (fkmRun [[3, -3, 3, -2, 4, -4, 5]]).cycles = [(3, -2)] ∧
    (fkmRun [[3, -3, 3, -2, 4, -4, 5]]).res = [-4, 4, -3] := by decide

example : Alternating ((findTurns [3, -3, 3, -2, 4, -4, 5]).map (·.2)) := by decide

end PylifeVerif.C02

namespace PylifeVerif.C03
open PylifeVerif.Rainflow PylifeVerif.Rainflow.Fkm

theorem fkm_neg (cs : List (List Int)) :
    let r := fkmRun (cs.map (List.map (- ·))); let r0 := fkmRun cs
    r.cycles = r0.cycles.map (fun c => (-c.1, -c.2)) ∧ r.res = r0.res.map (- ·) ∧ r.ir = r0.ir ∧ r.ts.head = r0.ts.head := by
  intro r r0
  -- both detectors have consumed the turning points of their signal; those of the flipped one are flipped
  have hv : (findTurns (cs.flatten.map (- ·))).map (·.2) = ((findTurns cs.flatten).map (·.2)).map (- ·) := by
    rw [HCM.findTurns_neg, List.map_map, List.map_map]; rfl
  have hr : r = _ := C01.fkmRun_canon _
  have hr0 : r0 = _ := C01.fkmRun_canon cs
  rw [hr, hr0, ← List.map_flatten, hv, show ({} : FkmState) = negSt {} from rfl, fkmFold_neg]
  exact ⟨rfl, rfl, rfl, List.length_map _⟩

example : (fkmRun [[-3, 3], [-3, 2, -4], [4, -5]]).cycles = [(-3, 2)] := by decide

end PylifeVerif.C03

section AxiomCheck
#print axioms PylifeVerif.C02.fkmFold_eq_hcm
#print axioms PylifeVerif.C02.fkmFold_partition
#print axioms PylifeVerif.C02.findTurns_alternating
#print axioms PylifeVerif.C02.fkm_eq_spec
#print axioms PylifeVerif.C02.fkm_partition
#print axioms PylifeVerif.C03.fkm_neg
end AxiomCheck
