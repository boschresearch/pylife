/-
C11 - Miner damage is linear and agrees with the predicted Gassner lifetime.  The property theorems, and the one
statement the damage-one theorems share (`damageSum_applyFor_gassner`); helper lemmas: Proofs/Lemmas/Miner.lean,
Proofs/Lemmas/MinerHard.lean; model: Model/Miner.lean.

The statements are over ℝ (`Transc.pow = Real.rpow`, `x / 0 = 0`, `0 ^ (-k) = 0`), those on object state over any carrier.
Preconditions:
  * `ValidCurve c`  : `0 < SD`, `0 < ND`          (the code divides by both)
  * `ValidColl l`   : amplitudes and counts `≥ 0` (a negative amplitude is NaN in `np.power`)
  * `Loaded l`      : some occupied class has a positive amplitude (otherwise `S[hi > 0].max()` is NaN or 0 and the
                      code returns NaN/inf; there is no lifetime to predict)
The linearity theorems need none of them.  An amplitude of exactly 0 is covered: the code gets `N = inf`, damage 0;
the real-number model gets `N = 0`, `n / 0 = 0` - the same damage.
-/
import Proofs.Lemmas.MinerHard

namespace PylifeVerif.C11
open PylifeVerif PylifeVerif.Miner

attribute [local simp] lit_one lit_two lit_zero

/-- additive over the members: the damage of two collectives put together is the sum of their damages -/
theorem damage_additive (c : Curve ℝ) (a b : Coll ℝ) :
    damageSum c (a ++ b) = damageSum c a + damageSum c b := by
  simp [damageSum_eq]

/-- ... and class by class the values of `Fatigue.damage` are those of the parts -/
theorem damage_classwise_append (c : Curve ℝ) (a b : Coll ℝ) :
    damage c (a ++ b) = damage c a ++ damage c b := by
  simp [damage]

example : damageSum (⟨1, none, 1, 1⟩ : Curve ℝ) ([(2, 3)] ++ [(4, 5)]) =
    damageSum ⟨1, none, 1, 1⟩ [(2, 3)] + damageSum ⟨1, none, 1, 1⟩ [(4, 5)] := damage_additive _ _ _

/-- proportional to the cycle counts (any real factor; no precondition) -/
theorem damage_scales_with_counts (c : Curve ℝ) (t : ℝ) (l : Coll ℝ) :
    damageSum c (scaleCounts t l) = t * damageSum c l := by
  rw [damageSum_eq, damageSum_eq, scaleCounts, List.map_map, ← List.sum_map_mul_left]
  congr 1
  apply List.map_congr_left
  intro p _
  simp only [Function.comp_apply, damageTerm]
  cases cycles c p.1 with
  | none => norm_num
  | some N => simp only []; ring

example : damageSum (⟨1, none, 1, 1⟩ : Curve ℝ) (scaleCounts 7 [(2, 3), (1/2, 9)]) =
    7 * damageSum ⟨1, none, 1, 1⟩ [(2, 3), (1/2, 9)] := damage_scales_with_counts _ _ _

/-- independent of the member order -/
theorem damage_perm_invariant (c : Curve ℝ) {l₁ l₂ : Coll ℝ} (h : l₁.Perm l₂) :
    damageSum c l₁ = damageSum c l₂ := by
  rw [damageSum_eq, damageSum_eq]
  exact (h.map _).sum_eq

example : damageSum (⟨5, some 9, 100, 1000000⟩ : Curve ℝ) [(150, 10), (80, 1000), (200, 0)] =
    damageSum ⟨5, some 9, 100, 1000000⟩ [(200, 0), (150, 10), (80, 1000)] :=
  damage_perm_invariant _ (List.perm_append_comm (l₁ := [(150, 10), (80, 1000)]) (l₂ := [(200, 0)]))

/-- class by class: original ≤ Haibach ≤ elementary -/
theorem damage_order_termwise (c : Curve ℝ) (hc : ValidCurve c) (hk : 1 ≤ c.k1) (p : ℝ × ℝ)
    (hS : 0 ≤ p.1) (hn : 0 ≤ p.2) :
    damageTerm (minerOriginal c) p ≤ damageTerm (minerHaibach c) p ∧
    damageTerm (minerHaibach c) p ≤ damageTerm (minerElementary c) p :=
  ⟨damageTerm_none_le c hc hS hn _,
    damageTerm_anti_slope c hc hS hn (by linarith) (by rw [lit_two, lit_one]; linarith)⟩

theorem damage_order_original_le_haibach_le_elementary (c : Curve ℝ) (hc : ValidCurve c) (hk : 1 ≤ c.k1)
    (l : Coll ℝ) (hl : ValidColl l) :
    damageSum (minerOriginal c) l ≤ damageSum (minerHaibach c) l ∧
    damageSum (minerHaibach c) l ≤ damageSum (minerElementary c) l := by
  simp only [damageSum_eq]
  constructor
  · exact List.sum_le_sum fun p hp => (damage_order_termwise c hc hk p (hl p hp).1 (hl p hp).2).1
  · exact List.sum_le_sum fun p hp => (damage_order_termwise c hc hk p (hl p hp).1 (hl p hp).2).2

example : ValidCurve (⟨5, none, 100, 1000000⟩ : Curve ℝ) ∧ (1 : ℝ) ≤ (⟨5, none, 100, 1000000⟩ : Curve ℝ).k1 ∧
    ValidColl ([(150, 10), (80, 1000), (0, 5)] : Coll ℝ) := by
  refine ⟨⟨by norm_num, by norm_num⟩, by norm_num, ?_⟩
  intro p hp
  simp only [List.mem_cons, List.not_mem_nil, or_false] at hp
  rcases hp with rfl | rfl | rfl <;> norm_num

/-- The guard `1 ≤ k_1` of the ordering clause is sharp: for `1/2 ≤ k_1 ≤ 1` (accepted by `WoehlerCurve._validate`, no
    physical Wöhler line) the Haibach slope `2 k_1 - 1` is flatter than `k_1` and the order is the other way round,
    class by class.  (Not a property theorem: it documents why the clause is stated for `k_1 ≥ 1` only.) -/
theorem damage_order_reversed_below_k1_one (c : Curve ℝ) (hc : ValidCurve c) (hk : 1 / 2 ≤ c.k1) (hk1 : c.k1 ≤ 1)
    (p : ℝ × ℝ) (hS : 0 ≤ p.1) (hn : 0 ≤ p.2) :
    damageTerm (minerElementary c) p ≤ damageTerm (minerHaibach c) p :=
  damageTerm_anti_slope c hc hS hn (by rw [lit_two, lit_one]; linarith) (by rw [lit_two, lit_one]; linarith)

/-- Whatever the rule: if every class damages like `n · W(S) / N` and the lifetime multiple is `A = Σ nᵢ / Σ nᵢ W(Sᵢ)`, then
    `N · A` cycles of the collective have the damage sum `(N A / Σ nᵢ) · (Σ nᵢ W(Sᵢ) / N) = 1`.  (`N` is the life on the `k_1`
    line at the largest occupied amplitude, `N · A` the Gassner cycles.) -/
theorem damageSum_applyFor_gassner (c' : Curve ℝ) {W : ℝ → ℝ} {l : Coll ℝ} {N A : ℝ} (hT : 0 < total l)
    (hS : 0 < wsum W l) (hN : 0 < N) (hterm : ∀ p ∈ l, damageTerm c' p = p.2 * W p.1 / N)
    (hA : A = total l / wsum W l) : damageSum c' (applyFor (N * A) l) = 1 := by
  rw [applyFor, damage_scales_with_counts, damageSum_of_term c' W N l hterm, hA]
  field_simp

/-- Applying the collective for the Miner-elementary Gassner cycles gives damage 1 under the elementary rule,
    whichever classes are empty and wherever `SD` lies. -/
theorem gassner_elementary_damage_one (c : Curve ℝ) (hc : ValidCurve c) (l : Coll ℝ) (hl : ValidColl l)
    (hload : Loaded l) :
    damageSum (minerElementary c) (applyFor (gassnerCyclesElementary c l) l) = 1 :=
  damageSum_applyFor_gassner _ (total_pos hl hload.exists_occupied) (wsum_rpow_pos c.k1 l hl hload)
    (ND_mul_maxOcc_rpow_pos c hc hload _) (fun p hp => elementary_term c hc (maxOcc_pos hload) (hl p hp).1)
    (lifetimeMultipleElementary_eq c l)

/-- Applying the collective for the Miner-Haibach Gassner cycles gives damage 1 under the Haibach rule. -/
theorem gassner_haibach_damage_one (c : Curve ℝ) (hc : ValidCurve c) (l : Coll ℝ) (hl : ValidColl l)
    (hload : Loaded l) :
    damageSum (minerHaibach c) (applyFor (gassnerCyclesHaibach c l) l) = 1 :=
  damageSum_applyFor_gassner _ (total_pos hl hload.exists_occupied) (wsum_hweight_pos c hc l hl hload)
    (ND_mul_maxOcc_rpow_pos c hc hload _) (fun p hp => haibach_term c hc (maxOcc_pos hload) (hl p hp).1)
    (lifetimeMultipleHaibach_eq c l)

/-- non-vacuity: the hypotheses are satisfiable on a collective straddling `SD` with an empty top class -/
example : ValidCurve (⟨5, none, 100, 1000000⟩ : Curve ℝ) ∧
    ValidColl ([(150, 10), (80, 1000), (200, 0), (0, 5)] : Coll ℝ) ∧
    Loaded ([(150, 10), (80, 1000), (200, 0), (0, 5)] : Coll ℝ) := by
  refine ⟨⟨by norm_num, by norm_num⟩, ?_, ⟨(150, 10), by simp, by norm_num, by norm_num⟩⟩
  intro p hp
  simp only [List.mem_cons, List.not_mem_nil, or_false] at hp
  rcases hp with rfl | rfl | rfl | rfl <;> norm_num

/-- `MinerElementary.gassner`: the shifted curve reads the Gassner cycles at the largest occupied amplitude
    (above and below `SD`; no precondition). -/
theorem gassner_curve_cycles (c : Curve ℝ) (l : Coll ℝ) :
    cycles (gassnerCurve c l) (maxOcc l) = some (gassnerCyclesElementary c l) := by
  unfold cycles gassnerCurve gassnerCyclesElementary gassnerCycles basquin
  split_ifs <;> simp only [Option.map_some, Option.some.injEq] <;> ring

/-- "scaled to any load level": both statements hold for the collective scaled by any `t > 0`. -/
theorem gassner_damage_one_at_any_level (c : Curve ℝ) (hc : ValidCurve c) (l : Coll ℝ) (hl : ValidColl l)
    (hload : Loaded l) (t : ℝ) (ht : 0 < t) :
    damageSum (minerElementary c) (applyFor (gassnerCyclesElementary c (scaleAmps t l)) (scaleAmps t l)) = 1 ∧
    damageSum (minerHaibach c) (applyFor (gassnerCyclesHaibach c (scaleAmps t l)) (scaleAmps t l)) = 1 :=
  ⟨gassner_elementary_damage_one c hc _ (validColl_scaleAmps hl ht) (loaded_scaleAmps hload ht),
   gassner_haibach_damage_one c hc _ (validColl_scaleAmps hl ht) (loaded_scaleAmps hload ht)⟩

/-! ## curves given for a native failure probability with scatter (`TN`, `TS`, `failure_probability`)

`Fatigue.damage`, `cycles()` and `gassner_cycles` evaluate the curve transformed to 50 % (`Model/Woehler.lean`,
`transform`; `ppf` = `scipy.stats.norm.ppf`, arbitrary here), `MinerHaibach.lifetime_multiple` (repaired) reads the
knee of that curve.  Every statement above therefore holds for such curves; the native parameters only have to be
positive. -/

/-- linearity for native curves: additive, proportional, order independent (no precondition) -/
theorem damage_linear_native (ppf : ℝ → ℝ) (w : Woehler.Curve ℝ) (a b : Coll ℝ) (t : ℝ) :
    damageSumW ppf w (a ++ b) = damageSumW ppf w a + damageSumW ppf w b ∧
    damageSumW ppf w (scaleCounts t a) = t * damageSumW ppf w a ∧
    (∀ a', a.Perm a' → damageSumW ppf w a = damageSumW ppf w a') :=
  ⟨damage_additive _ a b, damage_scales_with_counts _ t a, fun _ h => damage_perm_invariant _ h⟩

/-- original ≤ Haibach ≤ elementary for native curves -/
theorem damage_order_native (ppf : ℝ → ℝ) (w : Woehler.Curve ℝ) (hTS : 0 < w.TS) (hTN : 0 < w.TN)
    (hSD : 0 < w.SD) (hND : 0 < w.ND) (hk : 1 ≤ w.k1) (l : Coll ℝ) (hl : ValidColl l) :
    damageSumW ppf (Woehler.minerOriginal w) l ≤ damageSumW ppf (Woehler.minerHaibach w) l ∧
    damageSumW ppf (Woehler.minerHaibach w) l ≤ damageSumW ppf (Woehler.minerElementary w) l := by
  unfold damageSumW
  rw [at50_minerOriginal, at50_minerHaibach, at50_minerElementary]
  exact damage_order_original_le_haibach_le_elementary _ (validCurve_at50 ppf w hTS hTN hSD hND) hk l hl

/-- Gassner cycles give damage one, both rules, for every native failure probability and scatter -/
theorem gassner_damage_one_native (ppf : ℝ → ℝ) (w : Woehler.Curve ℝ) (hTS : 0 < w.TS) (hTN : 0 < w.TN)
    (hSD : 0 < w.SD) (hND : 0 < w.ND) (l : Coll ℝ) (hl : ValidColl l) (hload : Loaded l) :
    damageSumW ppf (Woehler.minerElementary w) (applyFor (gassnerCyclesElementaryW ppf w l) l) = 1 ∧
    damageSumW ppf (Woehler.minerHaibach w) (applyFor (gassnerCyclesHaibachW ppf w l) l) = 1 := by
  have hc := validCurve_at50 ppf w hTS hTN hSD hND
  unfold damageSumW
  rw [at50_minerElementary, at50_minerHaibach, gassnerCyclesElementaryW_eq, gassnerCyclesHaibachW_eq]
  exact ⟨gassner_elementary_damage_one _ hc l hl hload, gassner_haibach_damage_one _ hc l hl hload⟩

/-- `MinerElementary.gassner` on a native curve: the shifted curve, evaluated at 50 % like every curve, reads the
    Gassner cycles at the largest occupied amplitude (no precondition) -/
theorem gassner_curve_cycles_native (ppf : ℝ → ℝ) (w : Woehler.Curve ℝ) (l : Coll ℝ) :
    cycles (at50 ppf (gassnerCurveW w l)) (maxOcc l) = some (gassnerCyclesElementaryW ppf w l) := by
  rw [at50_gassnerCurveW]
  exact gassner_curve_cycles _ l

/-- `hTS`, `hTN` of the `_native` theorems, for a curve with scatter and a native failure probability of 10 % -/
example : (0 : ℝ) < (⟨5, Woehler.Life.inf, 200, 1000000, 4, 5 / 4, 1 / 10⟩ : Woehler.Curve ℝ).TS ∧
    (0 : ℝ) < (⟨5, Woehler.Life.inf, 200, 1000000, 4, 5 / 4, 1 / 10⟩ : Woehler.Curve ℝ).TN := by
  constructor <;> norm_num

/-- `effective_damage_sum(A)` lies in `[0.3, 1]`.  Stated for every real `A` because over ℝ `2 / 0 = 0` and `rpow` is
    total; the CODE is only defined for `A > 0` (`A = 0`: ZeroDivisionError, `A < 0`: complex number, TypeError in
    `max`) - `effective_damage_sum_of_collective` below shows that the lifetime multiples of a loaded collective are
    positive, `effective_damage_sum_piecewise` pins the expression between the two clips. -/
theorem effective_damage_sum_bounds (A : ℝ) :
    (3 / 10 : ℝ) ≤ effectiveDamageSum A ∧ effectiveDamageSum A ≤ 1 := by
  rw [effectiveDamageSum_eq]
  exact ⟨le_min (le_max_left _ _) (by norm_num), min_le_right _ _⟩

example : (3 / 10 : ℝ) ≤ effectiveDamageSum (lifetimeMultipleElementary ⟨5, none, 100, 1000000⟩ [(150, 10), (80, 1000)]) :=
  (effective_damage_sum_bounds _).1

/-! ## lifetime multiples are positive; the effective damage sum as a function of the lifetime multiple

`effective_damage_sum_bounds` alone would hold for any expression clipped to `[0.3, 1]`.  The theorems below pin
the expression: for a loaded collective both lifetime multiples are positive (the code raises `ZeroDivisionError` for
`A = 0` and returns a complex number for `A < 0`; neither occurs), `D_m = 1` up to `A = 16`, `D_m = 2 / A^(1/4)` between
`16` and `(20/3)^4 ≈ 1975.3`, `D_m = 0.3` beyond. -/

theorem lifetime_multiple_elementary_pos (c : Curve ℝ) (l : Coll ℝ) (hl : ValidColl l) (hload : Loaded l) :
    0 < lifetimeMultipleElementary c l := by
  rw [lifetimeMultipleElementary_eq]
  exact div_pos (total_pos hl hload.exists_occupied) (wsum_rpow_pos c.k1 l hl hload)

theorem lifetime_multiple_haibach_pos (c : Curve ℝ) (hc : ValidCurve c) (l : Coll ℝ) (hl : ValidColl l)
    (hload : Loaded l) : 0 < lifetimeMultipleHaibach c l := by
  rw [lifetimeMultipleHaibach_eq]
  exact div_pos (total_pos hl hload.exists_occupied) (wsum_hweight_pos c hc l hl hload)

/-- the effective damage sum of a positive lifetime multiple, piece by piece -/
theorem effective_damage_sum_piecewise (A : ℝ) (hA : 0 < A) :
    (A ≤ 16 → effectiveDamageSum A = 1) ∧
    (16 ≤ A → A ≤ (20 / 3) ^ (4 : ℕ) → effectiveDamageSum A = 2 / A ^ (1 / 4 : ℝ)) ∧
    ((20 / 3) ^ (4 : ℕ) ≤ A → effectiveDamageSum A = 3 / 10) := by
  have hq : 0 < A ^ (1 / 4 : ℝ) := Real.rpow_pos_of_pos hA _
  -- `A^(1/4)` is compared with a bound through fourth powers
  have cmp_le : ∀ b : ℝ, 0 ≤ b → (A ^ (1 / 4 : ℝ) ≤ b ↔ A ≤ b ^ (4 : ℕ)) := fun b hb => by
    rw [one_div, Real.rpow_inv_le_iff_of_pos hA.le hb (by norm_num), Real.rpow_ofNat]
  have cmp_ge : ∀ b : ℝ, 0 ≤ b → (b ≤ A ^ (1 / 4 : ℝ) ↔ b ^ (4 : ℕ) ≤ A) := fun b hb => by
    rw [one_div, Real.le_rpow_inv_iff_of_pos hb hA.le (by norm_num), Real.rpow_ofNat]
  rw [effectiveDamageSum_eq]
  refine ⟨fun h => ?_, fun h1 h2 => ?_, fun h => ?_⟩
  · have h2 : A ^ (1 / 4 : ℝ) ≤ 2 := (cmp_le 2 (by norm_num)).mpr (le_trans h (by norm_num))
    exact min_eq_right (le_trans ((one_le_div hq).mpr h2) (le_max_right _ _))
  · have h3 : 2 ≤ A ^ (1 / 4 : ℝ) := (cmp_ge 2 (by norm_num)).mpr (le_trans (by norm_num) h1)
    have h4 : A ^ (1 / 4 : ℝ) ≤ 20 / 3 := (cmp_le _ (by norm_num)).mpr h2
    have h6 : (3 / 10 : ℝ) ≤ 2 / A ^ (1 / 4 : ℝ) := by rw [le_div_iff₀ hq]; linarith
    rw [max_eq_right h6, min_eq_left ((div_le_one hq).mpr h3)]
  · have h3 : 20 / 3 ≤ A ^ (1 / 4 : ℝ) := (cmp_ge _ (by norm_num)).mpr h
    have h4 : 2 / A ^ (1 / 4 : ℝ) ≤ 3 / 10 := by rw [div_le_iff₀ hq]; linarith
    rw [max_eq_left h4, min_eq_left (by norm_num)]

example : effectiveDamageSum (81 : ℝ) = 2 / (81 : ℝ) ^ (1 / 4 : ℝ) :=
  (effective_damage_sum_piecewise 81 (by norm_num)).2.1 (by norm_num) (by norm_num)

/-- `obj.effective_damage_sum(collective)` of both Miner rules lies in `[0.3, 1]`, and its argument is a positive
    lifetime multiple (so the code neither divides by zero nor leaves the reals) -/
theorem effective_damage_sum_of_collective (c : Curve ℝ) (hc : ValidCurve c) (l : Coll ℝ) (hl : ValidColl l)
    (hload : Loaded l) :
    (0 < lifetimeMultipleElementary c l ∧ (3 / 10 : ℝ) ≤ effectiveDamageSum (lifetimeMultipleElementary c l) ∧
      effectiveDamageSum (lifetimeMultipleElementary c l) ≤ 1) ∧
    (0 < lifetimeMultipleHaibach c l ∧ (3 / 10 : ℝ) ≤ effectiveDamageSum (lifetimeMultipleHaibach c l) ∧
      effectiveDamageSum (lifetimeMultipleHaibach c l) ≤ 1) :=
  ⟨⟨lifetime_multiple_elementary_pos c l hl hload, effective_damage_sum_bounds _⟩,
   ⟨lifetime_multiple_haibach_pos c hc l hl hload, effective_damage_sum_bounds _⟩⟩

/-- non-vacuity: a collective straddling `SD` with an empty top class and a class of amplitude 0 -/
example : (0 : ℝ) < lifetimeMultipleHaibach ⟨5, none, 100, 1000000⟩ [(150, 10), (80, 1000), (200, 0), (0, 5)] := by
  refine (effective_damage_sum_of_collective ⟨5, none, 100, 1000000⟩ ⟨by norm_num, by norm_num⟩ _ ?_
    ⟨(150, 10), by simp, by norm_num, by norm_num⟩).2.1
  intro p hp
  simp only [List.mem_cons, List.not_mem_nil, or_false] at hp
  rcases hp with rfl | rfl | rfl | rfl <;> norm_num

/-! ## the accessor objects: a used object answers like a fresh one (`Model/Miner.lean`, state machine)

Object state is part of the model: `run` threads the state of ONE object through a sequence of calls.  The theorems
hold for every carrier (in particular for the `Float` instance the driver runs). -/

section objects
variable {α : Type} [Add α] [Sub α] [Mul α] [Div α] [Neg α] [OfScientific α]
  [LT α] [LE α] [DecidableLT α] [DecidableLE α] [Transc α]

/-- no call changes what the object holds -/
theorem object_step_keeps_state (ppf : α → α) (o : Obj α) (op : Op α) : (step ppf o op).1 = o := rfl

/-- a sequence of calls on one object: the state at the end is the state at the start and every answer is the answer
    a fresh object (same class, same curve) gives to that call alone -/
theorem object_sequence_eq_fresh (ppf : α → α) (o : Obj α) (ops : List (Op α)) :
    (run ppf o ops).1 = o ∧ (run ppf o ops).2 = ops.map (fun op => (step ppf o op).2) := by
  induction ops with
  | nil => exact ⟨rfl, rfl⟩
  | cons op ops ih =>
    simp only [run, List.map_cons, object_step_keeps_state]
    exact ⟨ih.1, by rw [ih.2]⟩

/-- whatever was asked before (`pre`), the answer to `op` is the answer of a fresh object -/
theorem object_answer_independent_of_history (ppf : α → α) (o : Obj α) (pre : List (Op α)) (op : Op α) :
    (run ppf o (pre ++ [op])).2.getLast? = some (answer ppf o op) := by
  rw [(object_sequence_eq_fresh ppf o _).2, List.map_append]
  simp [step]

end objects

example : (run (fun x => x) (⟨Kind.elementary, ⟨5, Woehler.Life.inf, 100, 1000000, 1, 1, 1 / 2⟩⟩ : Obj ℝ)
    ([Op.lifetimeMultiple [(150, 10), (80, 1000)]] ++ [Op.gassnerCycles [(300, 1), (40, 7)]])).2.getLast? =
    some (answer (fun x => x) ⟨Kind.elementary, ⟨5, Woehler.Life.inf, 100, 1000000, 1, 1, 1 / 2⟩⟩
      (Op.gassnerCycles [(300, 1), (40, 7)])) :=
  object_answer_independent_of_history _ _ _ _

example : (run (fun x => x) (⟨Kind.fatigue, ⟨5, Woehler.Life.inf, 100, 1000000, 1, 1, 1 / 2⟩⟩ : Obj ℝ)
    [Op.damageSum Variant.own [(150, 10)], Op.lifetimeMultiple [(150, 10)], Op.damageSum Variant.haibach [(80, 7)]]).2 =
    [Op.damageSum Variant.own [(150, 10)], Op.lifetimeMultiple [(150, 10)], Op.damageSum Variant.haibach [(80, 7)]].map
      (fun op => (step (fun x => x) ⟨Kind.fatigue, ⟨5, Woehler.Life.inf, 100, 1000000, 1, 1, 1 / 2⟩⟩ op).2) :=
  (object_sequence_eq_fresh _ _ _).2

/-- the property on a USED object: after any sequence of earlier calls (other collectives, other methods) the Gassner
    cycles a Miner-elementary / Miner-Haibach object returns for `l` give damage one under its rule -/
theorem object_gassner_damage_one_after_any_history (ppf : ℝ → ℝ) (w : Woehler.Curve ℝ) (hTS : 0 < w.TS)
    (hTN : 0 < w.TN) (hSD : 0 < w.SD) (hND : 0 < w.ND) (l : Coll ℝ) (hl : ValidColl l) (hload : Loaded l)
    (pre : List (Op ℝ)) :
    (∃ NG, (run ppf ⟨Kind.elementary, w⟩ (pre ++ [Op.gassnerCycles l])).2.getLast? = some (some NG) ∧
      damageSumW ppf (Woehler.minerElementary w) (applyFor NG l) = 1) ∧
    (∃ NG, (run ppf ⟨Kind.haibach, w⟩ (pre ++ [Op.gassnerCycles l])).2.getLast? = some (some NG) ∧
      damageSumW ppf (Woehler.minerHaibach w) (applyFor NG l) = 1) := by
  have h := gassner_damage_one_native ppf w hTS hTN hSD hND l hl hload
  exact ⟨⟨_, object_answer_independent_of_history ppf _ pre _, h.1⟩,
         ⟨_, object_answer_independent_of_history ppf _ pre _, h.2⟩⟩

/-- non-vacuity: a curve given for 10 % with scatter, a collective with an empty top class, two earlier calls -/
example : ∃ NG : ℝ, (run (fun x => x) (⟨Kind.haibach, ⟨5, Woehler.Life.inf, 200, 1000000, 4, 5 / 4, 1 / 10⟩⟩ : Obj ℝ)
      ([Op.lifetimeMultiple [(300, 1), (40, 7)], Op.gassnerCycles [(20, 3)]] ++
        [Op.gassnerCycles [(150, 10), (80, 1000), (200, 0)]])).2.getLast? = some (some NG) ∧
    damageSumW (fun x => x) (Woehler.minerHaibach ⟨5, Woehler.Life.inf, 200, 1000000, 4, 5 / 4, 1 / 10⟩)
      (applyFor NG [(150, 10), (80, 1000), (200, 0)]) = 1 := by
  refine (object_gassner_damage_one_after_any_history (fun x => x) ⟨5, Woehler.Life.inf, 200, 1000000, 4, 5 / 4, 1 / 10⟩
    (by norm_num) (by norm_num) (by norm_num) (by norm_num) [(150, 10), (80, 1000), (200, 0)] ?_
    ⟨(150, 10), by simp, by norm_num, by norm_num⟩ _).2
  intro p hp
  simp only [List.mem_cons, List.not_mem_nil, or_false] at hp
  rcases hp with rfl | rfl | rfl <;> norm_num

/-! ## the code before the repair, refuted in the kernel

`gassnerCyclesOld` models `gassner_cycles` as it was before the two defects below were repaired in the repository; the
theorems document the defects and are no part of the property. -/

/-- F-3: with an empty top class the unrepaired `gassner_cycles` (largest amplitude of ALL classes) predicts
    a cycle number that gives damage 1/2, not 1 (curve `k_1 = 1, SD = ND = 1`, classes `(1, 1)` and the empty `(2, 0)`). -/
theorem gassner_unrepaired_fails_empty_top_class :
    gassnerCyclesOld (⟨1, none, 1, 1⟩ : Curve ℝ) [(1, 1), (2, 0)]
        (lifetimeMultipleElementary ⟨1, none, 1, 1⟩ [(1, 1), (2, 0)]) = some (1 / 2) ∧
    damageSum (minerElementary (⟨1, none, 1, 1⟩ : Curve ℝ)) (applyFor (1 / 2) [(1, 1), (2, 0)]) = 1 / 2 := by
  have hocc : occupied ([(1, 1), (2, 0)] : Coll ℝ) = [(1, 1)] := by
    simp [occupied, List.filter]
  have hmo : maxOcc ([(1, 1), (2, 0)] : Coll ℝ) = 1 := by simp [maxOcc, hocc, maxL]
  have hma : maxAll ([(1, 1), (2, 0)] : Coll ℝ) = 2 := by simp [maxAll, maxL]
  have htot : total ([(1, 1), (2, 0)] : Coll ℝ) = 1 := by simp [total, sumL]
  constructor
  · simp [gassnerCyclesOld, cycles, hma, basquin, lifetimeMultipleElementary, solidityHaibach, hmo, htot,
      sumL, Real.rpow_neg_one]
  · simp [damageSum, damage, damageTerm, cycles, minerElementary, applyFor, scaleCounts, htot, basquin, sumL,
      Real.rpow_neg_one]

/-- F-10 (default `k_2 = ∞`): when every amplitude is below `SD` the unrepaired `gassner_cycles` is `inf`
    for both rules, although Miner-elementary and Miner-Haibach give a finite life. -/
theorem gassner_unrepaired_infinite_below_SD (c : Curve ℝ) (l : Coll ℝ) (A : ℝ) (hk : c.k2 = none)
    (hbelow : maxAll l < c.SD) : gassnerCyclesOld c l A = none := by
  simp [gassnerCyclesOld, cycles, hbelow, hk]

example : maxAll ([(1, 1), (2, 3)] : Coll ℝ) < (⟨5, none, 4, 1⟩ : Curve ℝ).SD := by
  simp [maxAll, maxL]; norm_num

end PylifeVerif.C11
