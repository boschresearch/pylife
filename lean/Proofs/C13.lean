/-
C13 — signal broadcasting aligns operands without altering data.

Theorems about the relational model `Model/Broadcast.lean`.  Honest scope: the model *is* a relational join,
so these statements are close to its definition (they show that the operational join — nested loops, kept /
dropped partner-less rows, key construction over the result level order — has the declarative
look-up reading the property asks for).  The decisive part of C13 is the correspondence of this model with the
real pandas-based code (`./check C13`), and "neither operand is modified" is about Python aliasing and is
checked on the real code only (deep copies before / after).

The model describes the code after the repairs (the commits are listed in `Model/Broadcast.lean`):
for a pandas parameter the Broadcaster always returns (`broadcast_total`); the only modelled error is the documented `ValueError` for an array
of a wrong length, so the theorems about the result are stated under `broadcast … = .ok out`.

Hypothesis `Tbl.KeysNodup`: no two rows of an operand have the same key (the quantifier speaks of key SETS; with
duplicate keys pandas refuses to join, the model is validated on distinct keys only).

Completeness (section 3): which rows of the operands are represented in the result is characterised exactly
(`obj_row_represented_iff`, `prm_row_represented_iff`): a row is lost iff it has no partner and its operand is a
flat (one-level) index joined with a MultiIndex that has this level - pandas' join "on a level" - or no level is
shared at all (then it has no partner only if the other operand is empty).
-/
import Proofs.Lemmas.Broadcast

namespace PylifeVerif.C13
open PylifeVerif.Broadcast

variable {V : Type}

/-! ### 1. both returned objects have the same index (level names, keys, order)

This holds by construction of `split` (both returned tables are projections of ONE list of joined rows - in the
real code both are reindexed to one joined index); that the real outputs carry the identical index, order included,
is checked on the real code by the oracle. -/

theorem broadcast_same_index (obj : Tbl V) (p : Prm V) (out : Out V)
    (h : broadcast obj p = .ok out) :
    out.obj.names = out.prm.names ∧ out.obj.rows.map Prod.fst = out.prm.rows.map Prod.fst := by
  unfold broadcast at h
  split at h
  · cases h
  · cases h
    simp [split, List.map_map, Function.comp_def]

theorem broadcast_levels (obj prm : Tbl V) (out : Out V) (h : broadcast obj (.tbl prm) = .ok out)
    (n : Name) : n ∈ out.obj.names ↔ n ∈ obj.names ∨ n ∈ prm.names := by
  simp only [broadcast, prmTbl, broadcastTbl] at h
  cases h
  exact mem_resultNames

/-! ### 2. every row carries the originals' payloads at the restricted key, or NaN -/

/-- The joined rows: the object payload is what the object holds at the row's key restricted to the object's
levels (`none` = NaN = the object has no such key), and likewise for the parameter. -/
theorem joinRows_lookup (obj prm : Tbl V) (hko : obj.KeysNodup) (hkp : prm.KeysNodup)
    (r : Row V) (hr : r ∈ joinRows obj prm) :
    r.obj = obj.at (restrict (resultNames obj.names prm.names) r.key obj.names) ∧
    r.prm = prm.at (restrict (resultNames obj.names prm.names) r.key prm.names) := by
  cases mem_joinRows.mp hr with
  | pair ro rp hro hrp hag hr =>
    subst hr
    simp only
    rw [restrict_pairKey_obj, restrict_pairKey_prm hag, at_of_mem hko hro, at_of_mem hkp hrp]
    exact ⟨rfl, rfl⟩
  | objOnly ro hro hno hsub hr =>
    subst hr
    simp only
    rw [restrict_map_prm, prm_at_objOnly hno, restrict_map_obj]
    exact ⟨(at_of_mem hko hro).symm, rfl⟩
  | prmOnly rp hrp hno hsub hr =>
    subst hr
    simp only
    rw [restrict_map_obj, obj_at_prmOnly hno, restrict_map_prm]
    exact ⟨rfl, (at_of_mem hkp hrp).symm⟩

/-- The property's look-up clause for the two returned tables. -/
theorem broadcast_lookup (obj prm : Tbl V) (hko : obj.KeysNodup) (hkp : prm.KeysNodup)
    (out : Out V) (h : broadcast obj (.tbl prm) = .ok out) :
    (∀ kv ∈ out.obj.rows, kv.2 = obj.at (restrict out.obj.names kv.1 obj.names)) ∧
    (∀ kv ∈ out.prm.rows, kv.2 = prm.at (restrict out.prm.names kv.1 prm.names)) := by
  simp only [broadcast, prmTbl, broadcastTbl] at h
  cases h
  simp only [split, List.mem_map]
  constructor
  · rintro kv ⟨r, hr, rfl⟩
    exact (joinRows_lookup obj prm hko hkp r hr).1
  · rintro kv ⟨r, hr, rfl⟩
    exact (joinRows_lookup obj prm hko hkp r hr).2

theorem broadcast_scalar (obj : Tbl V) (v : V) (out : Out V)
    (hko : obj.KeysNodup) (h : broadcast obj (.scalar v) = .ok out) :
    (∀ kv ∈ out.prm.rows, kv.2 = some v) ∧
    (∀ kv ∈ out.obj.rows, kv.2 = obj.at (restrict out.obj.names kv.1 obj.names)) := by
  have hkp : (⟨[], [([], v)]⟩ : Tbl V).KeysNodup := by
    simp [Tbl.KeysNodup]
  have h' : broadcast obj (.tbl ⟨[], [([], v)]⟩) = .ok out := by
    simpa [broadcast, prmTbl] using h
  have := broadcast_lookup obj _ hko hkp out h'
  refine ⟨fun kv hkv => ?_, this.1⟩
  rw [this.2 kv hkv]
  simp [restrict, Tbl.at, ownKey]

/-! ### 3. nothing is invented, nothing is lost - except a flat operand's partner-less rows -/

/-- Every row of the result stems from a row of the object, a row of the parameter, or a pair of rows that
agree on all shared levels; its key holds, level by level, the object's code where the object has the level
and the parameter's code elsewhere (NaN where the row's only operand does not have the level). -/
theorem broadcast_nothing_invented (obj prm : Tbl V) (r : Row V) (hr : r ∈ (broadcastTbl obj prm).rows) :
    RowOrigin obj prm (broadcastTbl obj prm).names r :=
  mem_joinRows.mp hr

theorem broadcast_pairs_complete (obj prm : Tbl V) (ro rp : Key × V) (hro : ro ∈ obj.rows) (hrp : rp ∈ prm.rows)
    (hag : agree obj.names ro.1 prm.names rp.1 = true) :
    (⟨pairKey (broadcastTbl obj prm).names obj.names ro.1 prm.names rp.1, some ro.2, some rp.2⟩ : Row V)
      ∈ (broadcastTbl obj prm).rows :=
  mem_joinRows.mpr (.pair ro rp hro hrp hag rfl)

/-- A partner-less row of the object is kept (NaN for the parameter; NaN in the levels the object has not) unless
the object is a flat index joined with a MultiIndex, or no level is shared. -/
theorem unmatched_obj_kept (obj prm : Tbl V) (ro : Key × V) (hro : ro ∈ obj.rows)
    (hno : ∀ rp ∈ prm.rows, agree obj.names ro.1 prm.names rp.1 = false)
    (hk : keepsUnmatched obj.names prm.names = true) :
    (⟨(broadcastTbl obj prm).names.map (get obj.names ro.1), some ro.2, none⟩ : Row V)
      ∈ (broadcastTbl obj prm).rows :=
  mem_joinRows.mpr (.objOnly ro hro hno hk rfl)

theorem unmatched_prm_kept (obj prm : Tbl V) (rp : Key × V) (hrp : rp ∈ prm.rows)
    (hno : ∀ ro ∈ obj.rows, agree obj.names ro.1 prm.names rp.1 = false)
    (hk : keepsUnmatched prm.names obj.names = true) :
    (⟨(broadcastTbl obj prm).names.map (get prm.names rp.1), none, some rp.2⟩ : Row V)
      ∈ (broadcastTbl obj prm).rows :=
  mem_joinRows.mpr (.prmOnly rp hrp hno hk rfl)

/-- the object's row `ro` is represented in the result: some result row carries its payload at a key whose
restriction to the object's levels is the row's own key -/
def ObjRepresented (obj prm : Tbl V) (ro : Key × V) : Prop :=
  ∃ r ∈ (broadcastTbl obj prm).rows, r.obj = some ro.2 ∧
    restrict (broadcastTbl obj prm).names r.key obj.names = ownKey obj.names ro.1

def PrmRepresented (obj prm : Tbl V) (rp : Key × V) : Prop :=
  ∃ r ∈ (broadcastTbl obj prm).rows, r.prm = some rp.2 ∧
    restrict (broadcastTbl obj prm).names r.key prm.names = ownKey prm.names rp.1

/-- COMPLETENESS, exactly: a row of the object is represented in the result iff it has a partner or partner-less
rows of the object are kept. -/
theorem obj_row_represented_iff (obj prm : Tbl V) (ro : Key × V) (hro : ro ∈ obj.rows) :
    ObjRepresented obj prm ro ↔
      (∃ rp ∈ prm.rows, agree obj.names ro.1 prm.names rp.1 = true) ∨
        keepsUnmatched obj.names prm.names = true := by
  constructor
  · rintro ⟨r, hr, hobj, hkey⟩
    cases mem_joinRows.mp hr with
    | pair ro' rp' hro' hrp' hag hr' =>
      subst hr'
      simp only [broadcastTbl] at hkey
      rw [restrict_pairKey_obj] at hkey
      exact Or.inl ⟨rp', hrp', agree_congr hkey rfl hag⟩
    | objOnly ro' hro' hno hkeep hr' => exact Or.inr hkeep
    | prmOnly rp' hrp' hno hkeep hr' =>
      subst hr'
      cases hobj
  · intro h
    by_cases hp : ∃ rp ∈ prm.rows, agree obj.names ro.1 prm.names rp.1 = true
    · obtain ⟨rp, hrp, hag⟩ := hp
      exact ⟨_, broadcast_pairs_complete obj prm ro rp hro hrp hag, rfl, restrict_pairKey_obj ..⟩
    · exact ⟨_, unmatched_obj_kept obj prm ro hro (fun rp hrp => Bool.eq_false_iff.mpr fun hb => hp ⟨rp, hrp, hb⟩)
        (h.resolve_left hp), rfl, restrict_map_obj ..⟩

theorem prm_row_represented_iff (obj prm : Tbl V) (rp : Key × V) (hrp : rp ∈ prm.rows) :
    PrmRepresented obj prm rp ↔
      (∃ ro ∈ obj.rows, agree obj.names ro.1 prm.names rp.1 = true) ∨
        keepsUnmatched prm.names obj.names = true := by
  constructor
  · rintro ⟨r, hr, hprm, hkey⟩
    cases mem_joinRows.mp hr with
    | pair ro' rp' hro' hrp' hag hr' =>
      subst hr'
      simp only [broadcastTbl] at hkey
      rw [restrict_pairKey_prm hag] at hkey
      exact Or.inl ⟨ro', hro', agree_congr rfl hkey hag⟩
    | objOnly ro' hro' hno hkeep hr' =>
      subst hr'
      cases hprm
    | prmOnly rp' hrp' hno hkeep hr' => exact Or.inr hkeep
  · intro h
    by_cases hp : ∃ ro ∈ obj.rows, agree obj.names ro.1 prm.names rp.1 = true
    · obtain ⟨ro, hro, hag⟩ := hp
      exact ⟨_, broadcast_pairs_complete obj prm ro rp hro hrp hag, rfl, restrict_pairKey_prm hag⟩
    · exact ⟨_, unmatched_prm_kept obj prm rp hrp (fun ro hro => Bool.eq_false_iff.mpr fun hb => hp ⟨ro, hro, hb⟩)
        (h.resolve_left hp), rfl, restrict_map_prm ..⟩

/-- Every row of either operand has a partner in the other: the side condition under which the property's quantifier
speaks of "overlapping" operands.  `broadcast_no_row_lost_partial` spells the two conjuncts out, as the left alternatives
of its two guards. -/
def AllPresent (obj prm : Tbl V) : Prop :=
  (∀ ro ∈ obj.rows, ∃ rp ∈ prm.rows, agree obj.names ro.1 prm.names rp.1 = true) ∧
  (∀ rp ∈ prm.rows, ∃ ro ∈ obj.rows, agree obj.names ro.1 prm.names rp.1 = true)

/-- NO ROW IS LOST on the property's quantifier domain, with one exception.  Guard, per operand: every shared key
is present in the other operand (this covers "overlapping" as the quantifier restricts it, and disjoint names with
non-empty operands), or a level is shared and the operand is not a flat index against a MultiIndex
(this covers equal level sets and the operand with MORE levels of a containment, with any key sets, and also the
operand with fewer levels when two or more levels are shared).
The exception - `obj_row_lost_iff` below - is `dropsUnmatched`: containment with ONE shared level, the flat operand's
partner-less rows vanish. -/
theorem broadcast_no_row_lost_partial (obj prm : Tbl V)
    (hgo : (∀ ro ∈ obj.rows, ∃ rp ∈ prm.rows, agree obj.names ro.1 prm.names rp.1 = true) ∨
      keepsUnmatched obj.names prm.names = true)
    (hgp : (∀ rp ∈ prm.rows, ∃ ro ∈ obj.rows, agree obj.names ro.1 prm.names rp.1 = true) ∨
      keepsUnmatched prm.names obj.names = true) :
    (∀ ro ∈ obj.rows, ObjRepresented obj prm ro) ∧ (∀ rp ∈ prm.rows, PrmRepresented obj prm rp) :=
  ⟨fun ro hro => (obj_row_represented_iff obj prm ro hro).mpr (hgo.imp_left fun h => h ro hro),
    fun rp hrp => (prm_row_represented_iff obj prm rp hrp).mpr (hgp.imp_left fun h => h rp hrp)⟩

/-- A row of the object is LOST (not represented) iff it has no partner and either no level is shared or the
object is a flat index joined with a MultiIndex that has its level. -/
theorem obj_row_lost_iff (obj prm : Tbl V) (ro : Key × V) (hro : ro ∈ obj.rows) :
    ¬ ObjRepresented obj prm ro ↔
      (∀ rp ∈ prm.rows, agree obj.names ro.1 prm.names rp.1 = false) ∧
        (shared obj.names prm.names = [] ∨
          (obj.names.length = 1 ∧ 2 ≤ prm.names.length ∧ subset obj.names prm.names = true)) := by
  rw [obj_row_represented_iff obj prm ro hro, not_or]
  exact and_congr (by simp only [not_exists, not_and, Bool.not_eq_true])
    (Bool.eq_false_iff.symm.trans keepsUnmatched_eq_false_iff)

/-- Disjoint level names: no row of the object is lost as soon as the parameter has a row. -/
theorem obj_represented_of_disjoint (obj prm : Tbl V) (hd : shared obj.names prm.names = [])
    (hp : prm.rows ≠ []) (ro : Key × V) (hro : ro ∈ obj.rows) : ObjRepresented obj prm ro := by
  apply (obj_row_represented_iff obj prm ro hro).mpr
  obtain ⟨rp, hrp⟩ := List.exists_mem_of_ne_nil _ hp
  exact Or.inl ⟨rp, hrp, agree_of_disjoint hd _ _⟩

/-! ### 4. no key twice: the result's index is a key set again -/

/-- Two rows of the result with the same key are the same row (no key carries two different payload pairs). -/
theorem joinRows_key_inj (obj prm : Tbl V) (hko : obj.KeysNodup) (hkp : prm.KeysNodup)
    (r r' : Row V) (hr : r ∈ joinRows obj prm) (hr' : r' ∈ joinRows obj prm) (hk : r.key = r'.key) : r = r' := by
  -- by `joinRows_lookup` both payloads of a row are functions of its key
  obtain ⟨ho, hp⟩ := joinRows_lookup obj prm hko hkp r hr
  obtain ⟨ho', hp'⟩ := joinRows_lookup obj prm hko hkp r' hr'
  rw [hk, ← ho'] at ho
  rw [hk, ← hp'] at hp
  cases r
  cases r'
  simp only at hk ho hp
  rw [hk, ho, hp]

theorem joinRows_nodup (obj prm : Tbl V) (hko : obj.KeysNodup) (hkp : prm.KeysNodup) :
    (joinRows obj prm).Nodup := by
  have hsub : ∀ (c : Bool) (l : List (Row V)), (if c = true then l else []).Sublist l := by
    intro c l
    split
    exacts [List.Sublist.refl _, List.nil_sublist _]
  refine List.Nodup.sublist (((List.Sublist.refl _).append (hsub _ _)).append (hsub _ _)) ?_
  -- within a part, the key of a row restricted to an operand's levels is that operand's row's own key
  -- (`Tbl.KeysNodup.nodup_map`); rows of different parts differ in which payloads are NaN
  refine List.Nodup.append (List.Nodup.append ?_ (hko.nodup_map _ _ _ fun ro _ => restrict_map_obj ..) ?_)
    (hkp.nodup_map _ _ _ fun rp _ => restrict_map_prm ..) ?_
  · refine List.nodup_flatMap.mpr ⟨fun ro _ => hkp.nodup_map _ _ _ fun rp hrp =>
      restrict_pairKey_prm (List.mem_filter.mp hrp).2, ?_⟩
    apply List.Pairwise.imp_of_mem _ hko.rows_nodup
    intro ro ro' hro hro' hne l h1 h2
    obtain ⟨rp, _, e1⟩ := List.mem_map.mp h1
    obtain ⟨rp', _, e2⟩ := List.mem_map.mp h2
    have hk := congrArg (fun r : Row V => restrict (resultNames obj.names prm.names) r.key obj.names)
      (e1.trans e2.symm)
    simp only [restrict_pairKey_obj] at hk
    exact hne (hko.row_eq hro hro' hk)
  · intro r h1 h2
    obtain ⟨_, _, _, _, _, rfl⟩ := mem_matched.mp h1
    obtain ⟨_, _, e⟩ := List.mem_map.mp h2
    cases congrArg Row.prm e
  · intro r h1 h2
    obtain ⟨_, _, rfl⟩ := List.mem_map.mp h2
    rcases List.mem_append.mp h1 with h1 | h1
    · obtain ⟨_, _, _, _, _, e⟩ := mem_matched.mp h1
      cases congrArg Row.obj e
    · obtain ⟨_, _, e⟩ := List.mem_map.mp h1
      cases congrArg Row.obj e

/-- NO KEY TWICE: the keys of the returned objects are pairwise distinct (both carry the same key list,
`broadcast_same_index`). -/
theorem broadcast_keys_nodup (obj prm : Tbl V) (hko : obj.KeysNodup) (hkp : prm.KeysNodup)
    (out : Out V) (h : broadcast obj (.tbl prm) = .ok out) :
    (out.obj.rows.map Prod.fst).Nodup ∧ (out.prm.rows.map Prod.fst).Nodup := by
  simp only [broadcast, prmTbl, broadcastTbl] at h
  cases h
  have hn : ((joinRows obj prm).map fun r => r.key).Nodup :=
    List.Nodup.map_on (fun r hr r' hr' hk => joinRows_key_inj obj prm hko hkp r r' hr hr' hk)
      (joinRows_nodup obj prm hko hkp)
  simpa [split, List.map_map, Function.comp_def] using hn

/-! ### 5. disjoint level names: cross join with |obj|·|prm| rows -/

theorem matched_length_of_disjoint (ns : List Name) (obj prm : Tbl V)
    (hd : shared obj.names prm.names = []) :
    (matched ns obj prm).length = obj.rows.length * prm.rows.length := by
  have hf : ∀ ro : Key × V,
      (prm.rows.filter fun rp => agree obj.names ro.1 prm.names rp.1) = prm.rows :=
    fun ro => List.filter_eq_self.mpr fun rp _ => agree_of_disjoint hd _ _
  -- every row of the object contributes one row per row of the parameter
  simp only [matched, hf, List.length_flatMap, List.length_map, List.map_const', List.sum_replicate_nat]

/-- Disjoint level names: the result has exactly |obj|·|prm| rows (also when an operand is empty). -/
theorem broadcast_cross_join_card (obj prm : Tbl V) (hd : shared obj.names prm.names = []) :
    (broadcastTbl obj prm).rows.length = obj.rows.length * prm.rows.length := by
  have hd' : shared prm.names obj.names = [] := by
    simp only [List.eq_nil_iff_forall_not_mem, mem_shared] at hd ⊢
    exact fun n h => hd n h.symm
  -- without a shared level neither side keeps partner-less rows (there are none unless the other operand is empty)
  simp only [broadcastTbl, joinRows, keepsUnmatched_eq_false_iff.mpr (Or.inl hd),
    keepsUnmatched_eq_false_iff.mpr (Or.inl hd'), Bool.false_eq_true, if_false, List.append_nil]
  exact matched_length_of_disjoint _ obj prm hd

/-! ### 6. arrays are positional; the Broadcaster always returns for a pandas parameter -/

/-- An array parameter is positional: against a table of equal length its i-th element sits at the object's
i-th key; any other length than 1 is rejected; against a record it gets a fresh range level. -/
theorem prmTbl_array (obj : Tbl V) (vs : List V) :
    (obj.names = [] → prmTbl obj (.array vs) = .ok ⟨[.anon 1 0], enumFrom 0 vs⟩) ∧
    (obj.names ≠ [] → vs.length = obj.rows.length →
      prmTbl obj (.array vs) = .ok ⟨obj.names, List.zipWith (fun r v => (r.1, v)) obj.rows vs⟩) ∧
    (obj.names ≠ [] → vs.length ≠ obj.rows.length → vs.length ≠ 1 →
      prmTbl obj (.array vs) = .error .valueError) := by
  refine ⟨fun h => by simp [prmTbl, h], fun h1 h2 => by simp [prmTbl, h1, h2], fun h1 h2 h3 => ?_⟩
  simp only [prmTbl, h1, h2, if_false]
  match vs, h3 with
  | [], _ => rfl
  | [_], h3 => simp at h3
  | _ :: _ :: _, _ => rfl

/-- An array of the object's length against a table object: in both returned tables the object's i-th key
carries the object's i-th payload and the array's i-th element. -/
theorem broadcast_array (obj : Tbl V) (vs : List V) (out : Out V) (hn : obj.names ≠ [])
    (hl : vs.length = obj.rows.length) (h : broadcast obj (.array vs) = .ok out)
    (i : Nat) (hi : i < obj.rows.length) :
    (ownKey obj.names obj.rows[i].1, some obj.rows[i].2) ∈ out.obj.rows ∧
    (ownKey obj.names obj.rows[i].1, some (vs[i]'(hl ▸ hi))) ∈ out.prm.rows := by
  simp only [broadcast, prmTbl, hn, hl, if_false, if_true] at h
  cases h
  have hro : obj.rows[i] ∈ obj.rows := List.getElem_mem hi
  have hrp : (obj.rows[i].1, vs[i]'(hl ▸ hi)) ∈ List.zipWith (fun r v => (r.1, v)) obj.rows vs := by
    apply List.mem_iff_getElem.mpr
    refine ⟨i, by simp [hl, hi], ?_⟩
    simp
  have hm := broadcast_pairs_complete obj ⟨obj.names, List.zipWith (fun r v => (r.1, v)) obj.rows vs⟩
    obj.rows[i] (obj.rows[i].1, vs[i]'(hl ▸ hi)) hro hrp (agree_self _ _)
  simp only [broadcastTbl, resultNames_self, pairKey_self] at hm
  simp only [split, broadcastTbl, resultNames_self, List.mem_map]
  exact ⟨⟨_, hm, rfl⟩, ⟨_, hm, rfl⟩⟩

/-- A pandas parameter is never rejected: for EVERY layout of level names and every key sets the two aligned tables are
returned, with the look-up reading of section 2 and pairwise distinct keys. -/
theorem broadcast_total (obj prm : Tbl V) (hko : obj.KeysNodup) (hkp : prm.KeysNodup) :
    ∃ out, broadcast obj (.tbl prm) = .ok out ∧
      out.obj.names = out.prm.names ∧ out.obj.rows.map Prod.fst = out.prm.rows.map Prod.fst ∧
      (out.obj.rows.map Prod.fst).Nodup ∧
      (∀ kv ∈ out.obj.rows, kv.2 = obj.at (restrict out.obj.names kv.1 obj.names)) ∧
      (∀ kv ∈ out.prm.rows, kv.2 = prm.at (restrict out.prm.names kv.1 prm.names)) := by
  have hb : broadcast obj (.tbl prm) = .ok (split (broadcastTbl obj prm)) := by
    simp [broadcast, prmTbl]
  refine ⟨_, hb, ?_⟩
  have hs := broadcast_same_index obj (.tbl prm) _ hb
  have hl := broadcast_lookup obj prm hko hkp _ hb
  have hn := broadcast_keys_nodup obj prm hko hkp _ hb
  exact ⟨hs.1, hs.2, hn.1, hl.1, hl.2⟩

/-! ### non-vacuity and witnesses -/

def x : Name := .named "x"
def y : Name := .named "y"
def z : Name := .named "z"

/-- two two-level operands sharing one level, `(x,z)` against `(y,z)`, 2 × 2, every shared key present -/
def wObj : Tbl Int := ⟨[x, z], [([10, 0], 1), ([11, 1], 2)]⟩
def wPrm : Tbl Int := ⟨[y, z], [([20, 0], 5), ([21, 1], 6)]⟩

example : AllPresent wObj wPrm := by
  constructor <;> decide

example : broadcastTbl wObj wPrm = ⟨[x, z, y],
    [⟨[some 10, some 0, some 20], some 1, some 5⟩, ⟨[some 11, some 1, some 21], some 2, some 6⟩]⟩ := by
  decide

example : wObj.KeysNodup ∧ wPrm.KeysNodup := by
  constructor <;> (unfold Tbl.KeysNodup; decide)

/-- the guard of `broadcast_no_row_lost_partial` on this pair: every shared key is present -/
example : (∀ ro ∈ wObj.rows, ObjRepresented wObj wPrm ro) ∧ (∀ rp ∈ wPrm.rows, PrmRepresented wObj wPrm rp) :=
  broadcast_no_row_lost_partial wObj wPrm (Or.inl (by decide)) (Or.inl (by decide))

/-- containment with two shared levels, `(x,y,z)` against `(y,z)`, where the parameter holds a key `(y,z) = (1,1)` that
the object has not: the row is kept, `x` is NaN (`nan_level_at_witness`) -/
def fObj : Tbl Int := ⟨[x, y, z], [([0, 0, 0], 1), ([1, 0, 0], 2)]⟩
def fPrm : Tbl Int := ⟨[y, z], [([0, 0], 5), ([1, 1], 6)]⟩

theorem nan_level_at_witness : broadcastTbl fObj fPrm = ⟨[x, y, z],
    [⟨[some 0, some 0, some 0], some 1, some 5⟩, ⟨[some 1, some 0, some 0], some 2, some 5⟩,
     ⟨[none, some 1, some 1], none, some 6⟩]⟩ := by decide

example : keepsUnmatched fPrm.names fObj.names = true ∧ keepsUnmatched fObj.names fPrm.names = true := by decide

def a : Name := .named "a"
def b : Name := .named "b"
/-- a flat signal `a = 1, 2, 3` against a parameter on `(a, b)` without `a = 3` -/
def lObj : Tbl Int := ⟨[a], [([1], 1), ([2], 2), ([3], 3)]⟩
def lPrm : Tbl Int := ⟨[a, b], [([1, 7], 5), ([1, 8], 6), ([2, 7], 7)]⟩

/-- The signal's third row is not in the result (3 rows): `dropsUnmatched lObj.names lPrm.names`, so no guard of
`broadcast_no_row_lost_partial` holds for the object. -/
theorem row_lost_at_witness :
    broadcastTbl lObj lPrm = ⟨[a, b],
      [⟨[some 1, some 7], some 1, some 5⟩, ⟨[some 1, some 8], some 1, some 6⟩, ⟨[some 2, some 7], some 2, some 7⟩]⟩ ∧
    ¬ ObjRepresented lObj lPrm ([3], 3) := by
  refine ⟨by decide, ?_⟩
  apply (obj_row_lost_iff lObj lPrm ([3], 3) (by decide)).mpr
  exact ⟨by decide, Or.inr (by decide)⟩

/-- equal level names, different keys: outer join with NaN payloads -/
example : broadcastTbl (⟨[x], [([0], 1), ([1], 2)]⟩ : Tbl Int) ⟨[x], [([1], 5), ([2], 6)]⟩ =
    ⟨[x], [⟨[some 1], some 2, some 5⟩, ⟨[some 0], some 1, none⟩, ⟨[some 2], none, some 6⟩]⟩ := by
  decide

/-- disjoint level names: 2 · 3 rows -/
example : (joinRows (⟨[x], [([0], 1), ([1], 2)]⟩ : Tbl Int) ⟨[y], [([0], 5), ([1], 6), ([2], 7)]⟩).length = 6 := by
  decide

/-- scalar and array parameters -/
example : (broadcast (⟨[x], [([0], 1), ([1], 2)]⟩ : Tbl Int) (.scalar 7)).toOption.map (·.prm.rows) =
    some [([some 0], some 7), ([some 1], some 7)] := by decide

example : prmTbl (⟨[x], [([0], 1), ([1], 2)]⟩ : Tbl Int) (.array [7, 8, 9]) = .error .valueError := by
  decide

example : (broadcast (⟨[x], [([0], 1), ([1], 2)]⟩ : Tbl Int) (.array [7, 8])).toOption.map (·.prm.rows) =
    some [([some 0], some 7), ([some 1], some 8)] := by decide

end PylifeVerif.C13
