/-
Model of the Miner-rule code of pyLife (property C11):

  * `pylife/materiallaws/woehlercurve.py`  `basquin_cycles` / `_make_k` (`cycles`), `miner_original`,
    `miner_elementary`, `miner_haibach`
  * `pylife/strength/fatigue.py`           `Fatigue.damage`
  * `pylife/strength/solidity.py`          `haibach`
  * `pylife/strength/miner.py`             `finite_life_factor`, `effective_damage_sum`, `gassner_cycles`,
                                           `MinerElementary.lifetime_multiple` / `gassner`,
                                           `MinerHaibach.lifetime_multiple`

A load collective / load histogram is seen through its two accessors `amplitude` and `cycles`
(`load_histogram.py`, `load_collective.py`): a list of classes `(amplitude, cycles)`.

The Miner functions are modelled in their REPAIRED form (/repo commit 110dd2d):
`gassner_cycles` and `MinerHaibach.lifetime_multiple` take the largest OCCUPIED amplitude
(`amplitude[cycles > 0].max()`, as `solidity.haibach` always did), `gassner_cycles` reads the cycle number of
that amplitude off the `k_1` line (`self.miner_elementary().cycles`), `MinerElementary.gassner` sets
`k_2 = k_1` on the shifted curve.  The unrepaired `gassner_cycles` (largest amplitude of ALL classes, the
object's own `k_2` below `SD`) is kept as `gassnerCyclesOld` so that the defect is stated and refuted in Lean.

Curves given for a native failure probability other than 50 % and with scatter (`TN`, `TS`): `Fatigue.damage`,
`WoehlerCurve.cycles` and therefore `gassner_cycles` always evaluate the curve transformed to 50 %
(`transform_to_failure_probability(0.5)`, modelled in `Model/Woehler.lean` - imported, not re-modelled).  The
section "native curves" below lifts every function to a `Woehler.Curve` through `at50`.  Second repair
(/repo commit 54050c5): `MinerHaibach.lifetime_multiple` splits the classes at the knee of the
50 % curve (before: at the native `SD`, inconsistent with the curve the damage is computed on).

Generic in the carrier (see `Model/Num.lean`): `Float` in the driver, `ℝ` in the proofs.  No Mathlib.
-/
import Model.Num
import Model.Woehler
namespace PylifeVerif.Miner

variable {α : Type} [Add α] [Sub α] [Mul α] [Div α] [Neg α] [OfScientific α]
  [LT α] [LE α] [DecidableLT α] [DecidableLE α] [Transc α]

/-- The Wöhler curve parameters the Miner code reads.  `k2 = none` is `k_2 = ∞` (the default). -/
structure Curve (α : Type) where
  k1 : α
  k2 : Option α
  SD : α
  ND : α

/-- One entry per class / per hysteresis loop: `(amplitude, cycles)`. -/
abbrev Coll (α : Type) := List (α × α)

/-- `ND * np.power(load / SD, -k)` -/
def basquin (c : Curve α) (k S : α) : α := c.ND * Transc.pow (S / c.SD) (-k)

/-- `WoehlerCurve.cycles` at the native failure probability: `k_2` strictly below `SD`, `k_1` from `SD`
    upwards; `none` is the value `inf` left in place where the exponent is not finite. -/
def cycles (c : Curve α) (S : α) : Option α :=
  if S < c.SD then c.k2.map (fun k => basquin c k S) else some (basquin c c.k1 S)

def minerOriginal (c : Curve α) : Curve α := { c with k2 := none }
def minerElementary (c : Curve α) : Curve α := { c with k2 := some c.k1 }
def minerHaibach (c : Curve α) : Curve α := { c with k2 := some (2.0 * c.k1 - 1.0) }

/-- left-to-right sum (the code uses `Series.sum`, `np.sum`, `np.dot`) -/
def sumL : List α → α
  | [] => 0.0
  | x :: xs => x + sumL xs

/-- one element of `Fatigue.damage`: `cycles / N(amplitude)`; `n / inf = 0`. -/
def damageTerm (c : Curve α) (p : α × α) : α :=
  match cycles c p.1 with
  | none => 0.0
  | some N => p.2 / N

def damage (c : Curve α) (l : Coll α) : List α := l.map (damageTerm c)

/-- the damage sum `Fatigue.damage(collective).sum()` -/
def damageSum (c : Curve α) (l : Coll α) : α := sumL (damage c l)

def total (l : Coll α) : α := sumL (l.map Prod.snd)

/-- maximum of a list (`Series.max`); the real code yields NaN for an empty selection, the model `0`. -/
def maxL : List α → α
  | [] => 0.0
  | x :: xs => xs.foldl (fun m y => if m < y then y else m) x

def occupied (l : Coll α) : Coll α := l.filter (fun p => decide (0.0 < p.2))

/-- `amplitude[cycles > 0].max()` -/
def maxOcc (l : Coll α) : α := maxL ((occupied l).map Prod.fst)

/-- `amplitude.max()` over all classes, occupied or not (used by the unrepaired code only) -/
def maxAll (l : Coll α) : α := maxL (l.map Prod.fst)

/-- `solidity.haibach(collective, k)`: `np.sum(hi * (S / S[hi > 0].max())**k / hi.sum())` -/
def solidityHaibach (l : Coll α) (k : α) : α :=
  sumL (l.map fun p => (p.2 * Transc.pow (p.1 / maxOcc l) k) / total l)

/-- `solidity.fkm(collective, k)`: `haibach(collective, k) ** (1. / k)` -/
def solidityFkm (l : Coll α) (k : α) : α := Transc.pow (solidityHaibach l k) (1.0 / k)

/-- `MinerElementary.lifetime_multiple` -/
def lifetimeMultipleElementary (c : Curve α) (l : Coll α) : α := 1.0 / solidityHaibach l c.k1

/-- `MinerHaibach.lifetime_multiple` normalised by the amplitude `M` -/
def lifetimeMultipleHaibachAt (c : Curve α) (M : α) (l : Coll α) : α :=
  let xD := c.SD / M
  let sum1 := sumL ((l.filter fun p => decide (xD ≤ p.1 / M)).map fun p => p.2 * Transc.pow (p.1 / M) c.k1)
  let sum2 := Transc.pow xD (1.0 - c.k1) *
    sumL ((l.filter fun p => decide (p.1 / M < xD)).map fun p => p.2 * Transc.pow (p.1 / M) (2.0 * c.k1 - 1.0))
  total l / (sum1 + sum2)

/-- `MinerHaibach.lifetime_multiple` (repaired: largest occupied amplitude) -/
def lifetimeMultipleHaibach (c : Curve α) (l : Coll α) : α := lifetimeMultipleHaibachAt c (maxOcc l) l

/-- `MinerBase.gassner_cycles` (repaired): `miner_elementary().cycles(max occupied amplitude) * A`;
    with `k_2 = k_1` both branches of `cycles` are the `k_1` line. -/
def gassnerCycles (c : Curve α) (l : Coll α) (A : α) : α := basquin c c.k1 (maxOcc l) * A

def gassnerCyclesElementary (c : Curve α) (l : Coll α) : α := gassnerCycles c l (lifetimeMultipleElementary c l)
def gassnerCyclesHaibach (c : Curve α) (l : Coll α) : α := gassnerCycles c l (lifetimeMultipleHaibach c l)

/-- `MinerBase.gassner_cycles` as it was before the repair: `self.cycles(amplitude.max()) * A`
    (`none` = `inf`). -/
def gassnerCyclesOld (c : Curve α) (l : Coll α) (A : α) : Option α :=
  (cycles c (maxAll l)).map (· * A)

/-- `MinerElementary.gassner` (repaired): the curve shifted to `ND * A_ele`, continued with `k_1`. -/
def gassnerCurve (c : Curve α) (l : Coll α) : Curve α :=
  { c with ND := c.ND * lifetimeMultipleElementary c l, k2 := some c.k1 }

/-- Python's builtin `max(a, b)` / `min(a, b)` on two floats (first argument wins ties and NaN). -/
def pyMax (a b : α) : α := if a < b then b else a
def pyMin (a b : α) : α := if b < a then b else a

/-- `miner.effective_damage_sum(A)`: `min(max(0.3, 2 / A**(1/4)), 1.0)` -/
def effectiveDamageSum (A : α) : α := pyMin (pyMax 0.3 (2.0 / Transc.pow A 0.25)) 1.0

/-- `MinerBase.finite_life_factor(N)`: `np.power(ND / N, 1 / k_1)` -/
def finiteLifeFactor (c : Curve α) (N : α) : α := Transc.pow (c.ND / N) (1.0 / c.k1)

/-- multiply every cycle count by `t` -/
def scaleCounts (t : α) (l : Coll α) : Coll α := l.map fun p => (p.1, t * p.2)

/-- multiply every amplitude by `t` (`collective.scale(t)`) -/
def scaleAmps (t : α) (l : Coll α) : Coll α := l.map fun p => (t * p.1, p.2)

/-- the collective applied for `N` cycles in total (same shape) -/
def applyFor (N : α) (l : Coll α) : Coll α := scaleCounts (N / total l) l

/-! ## native curves: failure probability and scatter (`Model/Woehler.lean`) -/

/-- the four parameters the Miner code reads off a validated Wöhler curve signal -/
def ofWoehler (w : Woehler.Curve α) : Curve α :=
  { k1 := w.k1
    k2 := match w.k2 with
      | Woehler.Life.finite k => if Transc.isFinite k then some k else none
      | Woehler.Life.inf => none
    SD := w.SD
    ND := w.ND }

/-- the curve `cycles()` / `Fatigue.damage` work on: `transform_to_failure_probability(0.5)` -/
def at50 (ppf : α → α) (w : Woehler.Curve α) : Curve α := ofWoehler (Woehler.transform ppf w 0.5)

/-- `Fatigue(w).damage(collective)` (per class) and its sum -/
def damageW (ppf : α → α) (w : Woehler.Curve α) (l : Coll α) : List α := damage (at50 ppf w) l
def damageSumW (ppf : α → α) (w : Woehler.Curve α) (l : Coll α) : α := damageSum (at50 ppf w) l

/-- `MinerElementary(w).lifetime_multiple` (curve-free apart from `k_1`) -/
def lifetimeMultipleElementaryW (w : Woehler.Curve α) (l : Coll α) : α := lifetimeMultipleElementary (ofWoehler w) l

/-- `MinerHaibach(w).lifetime_multiple` (repaired: knee of the 50 % curve) -/
def lifetimeMultipleHaibachW (ppf : α → α) (w : Woehler.Curve α) (l : Coll α) : α :=
  lifetimeMultipleHaibach (at50 ppf w) l

/-- `MinerHaibach(w).lifetime_multiple` before the second repair: knee at the native `SD` -/
def lifetimeMultipleHaibachNativeKnee (w : Woehler.Curve α) (l : Coll α) : α :=
  lifetimeMultipleHaibach (ofWoehler w) l

/-- `gassner_cycles`: `miner_elementary().cycles(max occupied amplitude)` is read off the 50 % curve -/
def gassnerCyclesElementaryW (ppf : α → α) (w : Woehler.Curve α) (l : Coll α) : α :=
  gassnerCycles (at50 ppf w) l (lifetimeMultipleElementaryW w l)
def gassnerCyclesHaibachW (ppf : α → α) (w : Woehler.Curve α) (l : Coll α) : α :=
  gassnerCycles (at50 ppf w) l (lifetimeMultipleHaibachW ppf w l)

/-- `MinerElementary(w).gassner(collective)`: the NATIVE curve with `ND * A_ele` and `k_2 = k_1` -/
def gassnerCurveW (w : Woehler.Curve α) (l : Coll α) : Woehler.Curve α :=
  { w with ND := w.ND * lifetimeMultipleElementaryW w l, k2 := Woehler.Life.finite w.k1 }

/-! ## the accessor objects as a state machine

`wc.gassner_miner_elementary`, `wc.gassner_miner_haibach` (`MinerElementary(wc)`, `MinerHaibach(wc)`) and `wc.fatigue`
are OBJECTS a script keeps and calls many times with different collectives
(`me = MinerElementary(wc); for c in collectives: me.gassner_cycles(c)`).  What an object carries from one call to the
next is its class and the validated curve (`self._obj` after `_validate`: the seven values `k_1 k_2 SD ND TN TS
failure_probability`); the code keeps nothing else (no cache, no counters) and no method writes to `self._obj`
(`gassner`, `miner_elementary()`, `transform_to_failure_probability` work on copies).  The state machine below says
exactly that: `step` answers a call from the state and the arguments and hands the state on unchanged.  The driver runs
whole call sequences through `run` (threading the state), the harness runs the same sequences on ONE real object and
compares every answer and the final state - a per-object cache or a method that modifies the curve shows as a
disagreement.  `none` = the class has no such method. -/

/-- the class of the accessor object -/
inductive Kind where
  | elementary   -- `series.gassner_miner_elementary`
  | haibach      -- `series.gassner_miner_haibach`
  | fatigue      -- `series.fatigue`
  deriving DecidableEq, Repr

/-- `fatigue.damage` directly (`own`) or after `miner_original()` / `miner_elementary()` / `miner_haibach()` -/
inductive Variant where
  | own | original | elementary | haibach
  deriving DecidableEq, Repr

/-- what the object holds between two calls -/
structure Obj (α : Type) where
  kind : Kind
  curve : Woehler.Curve α

/-- one method call with its argument -/
inductive Op (α : Type) where
  | lifetimeMultiple (l : Coll α)       -- `obj.lifetime_multiple(collective)`
  | gassnerCycles (l : Coll α)          -- `obj.gassner_cycles(collective)`
  | effectiveDamageSum (l : Coll α)     -- `obj.effective_damage_sum(collective)`
  | gassnerND (l : Coll α)              -- `obj.gassner(collective).ND`   (Miner elementary only)
  | finiteLifeFactor (N : α)            -- `obj.finite_life_factor(N)`
  | damageSum (v : Variant) (l : Coll α) -- `obj[.miner_xxx()].damage(collective).sum()`   (fatigue only)

def variantCurve (v : Variant) (w : Woehler.Curve α) : Woehler.Curve α :=
  match v with
  | .own => w
  | .original => Woehler.minerOriginal w
  | .elementary => Woehler.minerElementary w
  | .haibach => Woehler.minerHaibach w

/-- the value a call returns, from the state and the argument -/
def answer (ppf : α → α) (o : Obj α) : Op α → Option α
  | .lifetimeMultiple l =>
    match o.kind with
    | .elementary => some (lifetimeMultipleElementaryW o.curve l)
    | .haibach => some (lifetimeMultipleHaibachW ppf o.curve l)
    | .fatigue => none
  | .gassnerCycles l =>
    match o.kind with
    | .elementary => some (gassnerCyclesElementaryW ppf o.curve l)
    | .haibach => some (gassnerCyclesHaibachW ppf o.curve l)
    | .fatigue => none
  | .effectiveDamageSum l =>
    match o.kind with
    | .elementary => some (effectiveDamageSum (lifetimeMultipleElementaryW o.curve l))
    | .haibach => some (effectiveDamageSum (lifetimeMultipleHaibachW ppf o.curve l))
    | .fatigue => none
  | .gassnerND l =>
    match o.kind with
    | .elementary => some (gassnerCurveW o.curve l).ND
    | _ => none
  | .finiteLifeFactor N =>
    match o.kind with
    | .fatigue => none
    | _ => some (finiteLifeFactor (ofWoehler o.curve) N)
  | .damageSum v l =>
    match o.kind with
    | .fatigue => some (damageSumW ppf (variantCurve v o.curve) l)
    | _ => none

/-- one call: the new state of the object and the returned value.  The state is handed on as it is. -/
def step (ppf : α → α) (o : Obj α) (op : Op α) : Obj α × Option α := (o, answer ppf o op)

/-- a sequence of calls on ONE object: final state and the answers in call order -/
def run (ppf : α → α) : Obj α → List (Op α) → Obj α × List (Option α)
  | o, [] => (o, [])
  | o, op :: ops =>
    let r := step ppf o op
    let rest := run ppf r.1 ops
    (rest.1, r.2 :: rest.2)

end PylifeVerif.Miner
