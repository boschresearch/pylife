/-
Model of `pylife.stress.rainflow.general`: `find_turns` and the chunk bookkeeping of
`AbstractDetector._new_turns`.  Samples are integers: every comparison in the code is a
comparison of samples or of absolute differences of samples, both exact for integer-valued
doubles (and any finite set of doubles is a set of integers after scaling by a power of two).

No Mathlib import: this file is part of the compiled driver.
-/
namespace PylifeVerif.Rainflow

/-- A reported point: global sample index and value. -/
abbrev Pt := Nat × Int

def sgn (x : Int) : Int := if 0 < x then 1 else if x < 0 then -1 else 0

/-- Scan realising `find_turns`.
`dir`  sign of the last non-zero difference seen so far (0: none yet),
`cand` index/value of the sample at which that difference ended, i.e. the first sample of the
       current plateau – the only sample that can still become a turning point,
`i`    index of the head of the remaining list, `prev` the sample before it. -/
def findTurnsAux (dir : Int) (cand : Pt) (i : Nat) (prev : Int) : List Int → List Pt
  | [] => []
  | x :: xs =>
    let d := sgn (x - prev)
    if d = 0 then findTurnsAux dir cand (i+1) x xs
    else if dir ≠ 0 ∧ d ≠ dir then cand :: findTurnsAux d (i, x) (i+1) x xs
    else findTurnsAux d (i, x) (i+1) x xs

/-- `find_turns(samples)`: interior reversals, a plateau reported at its first sample. -/
def findTurns : List Int → List Pt
  | [] => []
  | x :: xs => findTurnsAux 0 (0, x) 1 x xs

/-- `np.diff`.  With `whereIdx` (`np.where(…)[0]`) the vocabulary of the literal transcriptions
`findTurnsNumpyProd` / `findTurnsNumpy` below of the numpy formulation of `find_turns` (peak turns by the
signs of neighbouring differences, plateau turns by start/end edge matching), used to validate
`findTurns` inside Lean (see `Proofs`) and in the driver (`turns_np`). -/
def diffs : List Int → List Int
  | a :: b :: rest => (b - a) :: diffs (b :: rest)
  | _ => []

def whereIdx (p : α → Bool) (l : List α) : List Nat :=
  (l.zipIdx.filter (fun x => p x.1)).map (·.2)

/- The transcription of `find_turns` as it was before repair c6242ee: turning points are recognised by the sign of the
PRODUCT of neighbouring differences (over the integers, where a product cannot underflow, the same thing - proved in
`Proofs/Lemmas/RainflowNumpy.lean`; on doubles the product underflowed for small signals). -/
def findTurnsNumpyProd (s : List Int) : List Pt :=
  let d := diffs s
  let n := d.length
  let dA := d.toArray
  let peak : List Bool := (List.range (n - 1)).map fun i => dA[i]! * dA[i+1]! < 0
  let dup : List Int := d.map fun x => if x = 0 then 1 else 0
  let edges := diffs dup
  let starts0 := whereIdx (fun e => e > 0) edges
  let ends0 := whereIdx (fun e => e < 0) edges
  let plateauIdx : List Nat :=
    if starts0.isEmpty || ends0.isEmpty then [] else
      let cutEnds := ends0.head! < starts0.head!
      let cutStarts := starts0.getLast! > ends0.getLast!
      let ends := if cutEnds then ends0.tail else ends0
      let starts := if cutStarts then starts0.dropLast else starts0
      ((starts.zip ends).filter fun (st, en) => dA[st]! * dA[en+1]! < 0).map (·.1)
  let sA := s.toArray
  ((List.range (n - 1)).filter fun i => peak[i]! || plateauIdx.contains i).map
    fun i => (i + 1, sA[i+1]!)

/-- The transcription of `find_turns` as it is now: the SIGNS of neighbouring differences are multiplied
(`np.sign(diffs)[:-1] * np.sign(diffs)[1:] < 0`, and likewise across a plateau). -/
def findTurnsNumpy (s : List Int) : List Pt :=
  let d := diffs s
  let n := d.length
  let dA := d.toArray
  let peak : List Bool := (List.range (n - 1)).map fun i => dA[i]!.sign * dA[i+1]!.sign < 0
  let dup : List Int := d.map fun x => if x = 0 then 1 else 0
  let edges := diffs dup
  let starts0 := whereIdx (fun e => e > 0) edges
  let ends0 := whereIdx (fun e => e < 0) edges
  let plateauIdx : List Nat :=
    if starts0.isEmpty || ends0.isEmpty then [] else
      let cutEnds := ends0.head! < starts0.head!
      let cutStarts := starts0.getLast! > ends0.getLast!
      let ends := if cutEnds then ends0.tail else ends0
      let starts := if cutStarts then starts0.dropLast else starts0
      ((starts.zip ends).filter fun (st, en) => dA[st]!.sign * dA[en+1]!.sign < 0).map (·.1)
  let sA := s.toArray
  ((List.range (n - 1)).filter fun i => peak[i]! || plateauIdx.contains i).map
    fun i => (i + 1, sA[i+1]!)

/-- `correct_turns_by_nans`: for every NaN position (ascending, positions in the original signal)
all indices at or behind it are moved by one - sequentially, as the code does. -/
def correctByNans (idx : List Nat) (nanPos : List Nat) : List Nat :=
  nanPos.foldl (fun idx p => idx.map fun i => if i ≥ p then i + 1 else i) idx

/-- `find_turns` on a signal with NaN samples (`none`): NaNs are dropped, the turning points of the
cleaned signal are found and their indices are mapped back to positions in the original. -/
def findTurnsNan (s : List (Option Int)) : List Pt :=
  let clean := s.filterMap id
  let nanPos := whereIdx (fun (x : Option Int) => x.isNone) s
  let t := findTurns clean
  (correctByNans (t.map (·.1)) nanPos).zip (t.map (·.2))

/-- Bookkeeping state of `AbstractDetector`: the samples after the last decided turning point
(`_sample_tail`) and the number of samples seen (`_head_index`). -/
structure TurnState where
  tail : List Int := []
  head : Nat := 0
deriving Repr, DecidableEq

/-- `_new_turns(samples, flush)` (without `preserve_start`): returns the new state and the newly
decided turning points with *global* indices. -/
def newTurns (st : TurnState) (samples : List Int) (flush : Bool := false) :
    TurnState × List Pt :=
  if samples.isEmpty then (st, []) else
  let swt := st.tail ++ samples
  let local_ := findTurns swt
  let tailIdx := match local_.getLast? with
    | some p => p.1
    | none => 0
  let off := st.head - st.tail.length
  let turns := local_.map fun p => (p.1 + off, p.2)
  let tail' := swt.drop tailIdx
  let head' := st.head + samples.length
  if flush && !tail'.isEmpty then
    ({ tail := [tail'.getLast!], head := head' }, turns ++ [(head' - 1, tail'.getLast!)])
  else
    ({ tail := tail', head := head' }, turns)

/-- `AbstractRecorder.chunk_local_index`: chunk number and position within the chunk of a global
sample index, from the list of chunk sizes (`searchsorted(cumsum, g, side='right') - 1`). -/
def chunkLocalIndex : List Nat → Nat → Nat × Nat
  | [], g => (0, g)
  | c :: cs, g =>
    if g < c then (0, g)
    else let r := chunkLocalIndex cs (g - c); (r.1 + 1, r.2)

end PylifeVerif.Rainflow
