/-
Independent reference definitions for C02/C03: the turning-point sequence of a signal, the
textbook four-point rule and the Clormann–Seeger HCM rule.  No Mathlib import.
-/
import Model.Rainflow.Detectors

namespace PylifeVerif.Rainflow.Spec
open PylifeVerif.Rainflow

/-- `i` (with `0 < i`, `i + 1 < |s|`) is an interior reversal of `s`, reported at the first sample
of a plateau: the sample before differs, and the next sample that differs lies on the other
side. -/
def isReversal (s : Array Int) (i : Nat) : Bool :=
  if i = 0 ∨ i + 1 ≥ s.size then false else
  let v := s[i]!
  let p := s[i-1]!
  if p = v then false else
  match (s.toList.drop (i+1)).find? (· ≠ v) with
  | none => false
  | some n => (p < v ∧ n < v) ∨ (p > v ∧ n > v)

def reversals (s : List Int) : List Pt :=
  let a := s.toArray
  ((List.range s.length).filter (isReversal a)).map fun i => (i, a[i]!)

/-- First sample, interior reversals, last sample. -/
def turningPoints (s : List Int) : List Pt :=
  match s with
  | [] => []
  | s0 :: _ => (0, s0) :: reversals s ++ [(s.length - 1, s.getLast!)]

/-- Textbook four-point reduction of a stack whose newest point is on top: while the four newest
points `a, b, c, d` satisfy `|b-c| ≤ |a-b|` and `|b-c| ≤ |c-d|`, the cycle `(b, c)` is counted and
`b`, `c` are deleted. -/
def reduce4 : List Pt → List Cycle × List Pt
  | d :: c :: b :: a :: rest =>
    if absDiff b.2 c.2 ≤ absDiff a.2 b.2 ∧ absDiff b.2 c.2 ≤ absDiff c.2 d.2 then
      let r := reduce4 (d :: a :: rest)
      ((b, c) :: r.1, r.2)
    else ([], d :: c :: b :: a :: rest)
  | st => ([], st)
termination_by st => st.length

/-- The four-point rule on a point sequence: cycles in order of detection and the residual
(oldest first). -/
def fourPoint (pts : List Pt) : List Cycle × List Pt :=
  let r := pts.foldl (fun (acc : List Cycle × List Pt) p =>
      let r := reduce4 (p :: acc.2)
      (acc.1 ++ r.1, r.2)) ([], [])
  (r.1, r.2.reverse)

/-- Clormann–Seeger HCM on a reversal sequence (values only): residual stack (top first), `ir`
counts the residuals that belong to the primary path.  After a closed cycle the new top pair is
ALWAYS re-examined (as in `fkm.py`: `loop_assumed = True` after the two `pop()`). -/
structure HcmState where
  res : List Int := []
  ir : Nat := 1
  cycles : List (Int × Int) := []
deriving Repr, DecidableEq

def hcmLoop (k : Int) : Nat → List Int → Nat → List (Int × Int) → List Int × Nat × List (Int × Int)
  | 0, res, ir, acc => (res, ir, acc)
  | fuel+1, res, ir, acc =>
    let iz := res.length
    if iz > ir then
      match res with
      | j :: i :: rest =>
        if absDiff k j ≥ absDiff j i then hcmLoop k fuel rest ir (acc ++ [(i, j)])
        else (res, ir, acc)
      | _ => (res, ir, acc)
    else if iz = ir then
      match res with
      | j :: _ => if k.natAbs > j.natAbs then (res, ir + 1, acc) else (res, ir, acc)
      | [] => (res, ir, acc)
    else (res, ir, acc)

def hcmTurn (st : HcmState) (k : Int) : HcmState :=
  let (res, ir, acc) := hcmLoop k (st.res.length / 2 + 2) st.res st.ir []
  { res := k :: res, ir := ir, cycles := st.cycles ++ acc }

def hcm (turns : List Int) : HcmState := turns.foldl hcmTurn {}

end PylifeVerif.Rainflow.Spec
