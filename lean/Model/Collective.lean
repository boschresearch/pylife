/-
Model of pyLife's load collectives and histograms (property C14):

* `stress/collective/load_collective.py`  `LoadCollective` – rows `(from, to, cycles)`, derived
  `amplitude`, `meanstress`, `upper`, `lower`, `R`, the `range`/`mean` input form, `scale`, `shift`,
  `range_histogram`, `histogram`;
* `stress/collective/load_histogram.py`  `LoadHistogram` – the same quantities derived from the class
  mids of a `range`/`mean` or `from`/`to` matrix, `scale`, `shift`;
* numpy's bin rule for `np.histogram` / `np.histogram2d` (`[eᵢ, eᵢ₊₁)`, last class closed; integer bin
  counts via `np.linspace(min, max, n+1)`, `min = max` widened by ±0.5);
* `utils/histogram.py`  `rebin_histogram` (overlap-proportional redistribution) and `combine_histogram`
  with `sum`;
* `stress/rainflow/recorders.py`  `LoopValueRecorder.histogram` (`np.histogram2d` on from/to).

Every function is generic in the carrier (driver: `Float`, proofs: `ℝ`).  No Mathlib.
-/
import Model.Num

namespace PylifeVerif.Collective

variable {α : Type} [Add α] [Sub α] [Mul α] [Div α] [Neg α] [OfScientific α]
  [LT α] [LE α] [DecidableLT α] [DecidableLE α] [Transc α]

/-! ## Collective rows -/

/-- One hysteresis loop of a `LoadCollective`: `from`, `to` and the `cycles` column (1.0 when the frame has none). -/
structure Row (α : Type) where
  fr : α
  to : α
  cyc : α

/-- `np.abs(fr - to) / 2.` -/
def amplitude (r : Row α) : α := Transc.abs (r.fr - r.to) / 2.0

/-- `(fr + to) / 2.` -/
def meanstress (r : Row α) : α := (r.fr + r.to) / 2.0

/-- `obj[['from','to']].max(axis=1)` -/
def upper (r : Row α) : α := if r.fr ≤ r.to then r.to else r.fr

/-- `obj[['from','to']].min(axis=1)` -/
def lower (r : Row α) : α := if r.fr ≤ r.to then r.fr else r.to

/-- `LoadCollective.R`, `(lower / (upper + 0.0)).fillna(0.0)`: the quotient, with NaN (only `0/0` for finite loads)
replaced by 0.  The code's `+ 0.0` (it turns an upper load of `-0.0` into `+0.0`) is not modelled; over `ℝ` it changes
nothing.  `q ≤ q` fails exactly for NaN over `Float` and never over `ℝ` (where Lean's `0/0 = 0` agrees with the fill value). -/
def rvalue (r : Row α) : α :=
  let q := lower r / upper r
  if q ≤ q then q else 0.0

/-- `(lower / upper).fillna(0.0)` on given lower / upper values (`LoadHistogram.R`). -/
def fillR (lo up : α) : α :=
  let q := lo / up
  if q ≤ q then q else 0.0

/-- `_validate` for the `range`/`mean` input form: `from = mean - range/2.`, `to = mean + range/2.`. -/
def fromRangeMean (rng mean cyc : α) : Row α := ⟨mean - rng / 2.0, mean + rng / 2.0, cyc⟩

/-- `scale`: `obj[['from','to']].multiply(factor)`; the cycles column is not touched. -/
def scale (f : α) (r : Row α) : Row α := ⟨r.fr * f, r.to * f, r.cyc⟩

/-- `shift`: `obj[['from','to']].add(diff)`. -/
def shift (d : α) (r : Row α) : Row α := ⟨r.fr + d, r.to + d, r.cyc⟩

/-- `amplitude * 2.` resp. `amplitude * 2` – the range the histograms are taken over. -/
def rangeOf (r : Row α) : α := amplitude r * 2.0

/-! ## numpy's bin rule -/

/-- Weighted number of points: `Σ w`. -/
def wsum (l : List (α × α)) : α := l.foldr (fun p acc => p.2 + acc) 0.0

/-- Plain sum of a list of class counts. -/
def total (l : List α) : α := l.foldr (fun x acc => x + acc) 0.0

/-- Value `v` lies in the class `[lo, hi)`, resp. `[lo, hi]` for the last class. -/
def inBin (lo hi : α) (last : Bool) (v : α) : Bool :=
  decide (lo ≤ v) && (decide (v < hi) || (last && decide (v ≤ hi)))

/-- The classes `(lo, hi, isLast)` of an edge list `e₀ … eₙ`. -/
def classes : List α → List (α × α × Bool)
  | e0 :: e1 :: [] => [(e0, e1, true)]
  | e0 :: e1 :: e2 :: rest => (e0, e1, false) :: classes (e1 :: e2 :: rest)
  | _ => []

/-- `np.histogram(values, edges, weights=w)`: per class the weight of the points `(v, w)` inside it. -/
def hist (edges : List α) (pts : List (α × α)) : List α :=
  (classes edges).map fun c => wsum (pts.filter fun p => inBin c.1 c.2.1 c.2.2 p.1)

/-- `np.histogram2d(x, y, [ex, ey], weights=w)` on points `(x, y, w)`; row-major (`ravel()`), one list per x-class. -/
def hist2d (ex ey : List α) (pts : List (α × α × α)) : List (List α) :=
  (classes ex).map fun c =>
    hist ey ((pts.filter fun p => inBin c.1 c.2.1 c.2.2 p.1).map fun p => (p.2.1, p.2.2))

/-- Cast of a small natural number by repeated `+ 1.0` (exact in `Float` below 2⁵³). -/
def natTo : Nat → α
  | 0 => 0.0
  | k + 1 => natTo k + 1.0

/-- `np.linspace(a, b, n + 1)`: `k * step + a` for `k < n`, and exactly `b` at the end (`step = (b - a) / n`). -/
def linspace (a b : α) (n : Nat) : List α :=
  let step := (b - a) / natTo n
  ((List.range n).map fun k => natTo k * step + a) ++ [b]

def minL : List α → α
  | [] => 0.0
  | x :: xs => xs.foldl (fun m y => if y < m then y else m) x

def maxL : List α → α
  | [] => 0.0
  | x :: xs => xs.foldl (fun m y => if m < y then y else m) x

/-- `_get_outer_edges` + `linspace`: the edges numpy derives from an integer bin count
(`min = max` is widened to `min - 0.5, max + 0.5`). -/
def autoEdges (vals : List α) (n : Nat) : List α :=
  let lo := minL vals
  let hi := maxL vals
  if lo < hi then linspace lo hi n else linspace (lo - 0.5) (hi + 0.5) n

/-- `LoadCollective.range_histogram(edges)` (one group). -/
def rangeHistogram (edges : List α) (rows : List (Row α)) : List α :=
  hist edges (rows.map fun r => (rangeOf r, r.cyc))

/-- `LoadCollective.histogram(bins)` (one group): range × mean matrix over the edges `er`, `em` (a flat sequence of edges
is used for both axes; a class count gives each axis its own `autoEdges`). -/
def rangeMeanHistogram (er em : List α) (rows : List (Row α)) : List (List α) :=
  hist2d er em (rows.map fun r => (rangeOf r, meanstress r, r.cyc))

/-- `LoopValueRecorder.histogram(edges)`: from × to matrix of the recorded loops. -/
def fromToHistogram (ef et : List α) (rows : List (Row α)) : List (List α) :=
  hist2d ef et (rows.map fun r => (r.fr, r.to, r.cyc))

/-! ## `LoadHistogram`: quantities from the class mids -/

/-- `IntervalIndex.mid`: `0.5 * (left + right)`. -/
def mid (l r : α) : α := 0.5 * (l + r)

/-- One class of a `range`/`mean` matrix: range interval, mean interval. -/
structure RMClass (α : Type) where
  rl : α
  rr : α
  ml : α
  mr : α

def rmAmplitude (c : RMClass α) : α := mid c.rl c.rr / 2.0
def rmMean (c : RMClass α) : α := mid c.ml c.mr
def rmUpper (c : RMClass α) : α := rmMean c + rmAmplitude c
def rmLower (c : RMClass α) : α := rmMean c - rmAmplitude c
/-- `scale`: all interval bounds `* f`; `shift`: only the `mean` bounds `+ d` (`skip=['range']`). -/
def rmScale (f : α) (c : RMClass α) : RMClass α := ⟨c.rl * f, c.rr * f, c.ml * f, c.mr * f⟩
def rmShift (d : α) (c : RMClass α) : RMClass α := ⟨c.rl, c.rr, c.ml + d, c.mr + d⟩
/-- A range-only histogram (no `mean` level) reports `meanstress = 0` (`np.zeros_like`); it is modelled as
the class with the mean interval `(0, 0]`, and `shift` has no level to act on. -/
def r1Shift (_d : α) (c : RMClass α) : RMClass α := c

/-- One class of a `from`/`to` matrix. -/
structure FTClass (α : Type) where
  fl : α
  frr : α
  tl : α
  tr : α

def ftAmplitude (c : FTClass α) : α := Transc.abs (mid c.fl c.frr - mid c.tl c.tr) / 2.0
def ftMean (c : FTClass α) : α := (mid c.fl c.frr + mid c.tl c.tr) / 2.0
def ftUpper (c : FTClass α) : α := ftMean c + ftAmplitude c
def ftLower (c : FTClass α) : α := ftMean c - ftAmplitude c
def ftScale (f : α) (c : FTClass α) : FTClass α := ⟨c.fl * f, c.frr * f, c.tl * f, c.tr * f⟩
def ftShift (d : α) (c : FTClass α) : FTClass α := ⟨c.fl + d, c.frr + d, c.tl + d, c.tr + d⟩

/-! ## `rebin_histogram` -/

/-- A histogram class `(l, r]` with its content `v`. -/
structure Bin (α : Type) where
  l : α
  r : α
  v : α

def minA (a b : α) : α := if b < a then b else a
def maxA (a b : α) : α := if a < b then b else a

/-- What a source class `s` of positive width contributes to the target class `(tl, tr]`:
`hist.index.overlaps(interval)` (pandas: `s.l < tr ∧ tl < s.r`) selects the class, then
`v * ((min(tr, s.r) - max(tl, s.l)) / s.length)`. -/
def share (tl tr : α) (s : Bin α) : α :=
  if s.l < tr ∧ tl < s.r then s.v * ((minA tr s.r - maxA tl s.l) / (s.r - s.l)) else 0.0

/-- What the source class `s` contributes to the target class `c = (lo, hi, isLast)` (see `classes`):
a class of positive width is distributed linearly (`share`); a class of zero width (`index.length == 0`,
pandas guarantees `left ≤ right`) holds its whole content at the point `s.r` and gives it to the class
`np.histogram` puts that point in (`_add_point_classes`).  No division takes place for a zero-width class. -/
def shareC (c : α × α × Bool) (s : Bin α) : α :=
  if s.l < s.r then share c.1 c.2.1 s
  else if inBin c.1 c.2.1 c.2.2 s.r then s.v else 0.0

/-- Content of the target class `c` after re-binning: `aggregate_hist(interval)` plus the point classes inside. -/
def aggregate (src : List (Bin α)) (c : α × α × Bool) : α :=
  total (src.map (shareC c))

/-- Consecutive pairs of a break list = the classes of a gap-free binning (`classes` without the flag). -/
def pairs : List α → List (α × α)
  | b0 :: b1 :: rest => (b0, b1) :: pairs (b1 :: rest)
  | _ => []

/-- `rebin_histogram(src, IntervalIndex.from_breaks(breaks))`: the new class contents. -/
def rebin (src : List (Bin α)) (breaks : List α) : List α :=
  (classes breaks).map (aggregate src)

/-- The re-binned histogram as a list of classes again (so that it can be re-binned once more). -/
def rebinBins (src : List (Bin α)) (breaks : List α) : List (Bin α) :=
  (classes breaks).map fun c => ⟨c.1, c.2.1, aggregate src c⟩

/-- A histogram given by breaks and contents. -/
def binsOf (breaks : List α) (vals : List α) : List (Bin α) :=
  List.zipWith (fun p v => ⟨p.1, p.2, v⟩) (pairs breaks) vals

/-- `rebin_histogram(src, n)`: `pd.interval_range(min left, max right, n)`. -/
def rebinN (src : List (Bin α)) (n : Nat) : List α :=
  rebin src (linspace (minL (src.map (·.l))) (maxL (src.map (·.r))) n)

/-! ## `rebin_histogram` of a two-dimensional histogram (MultiIndex of two interval levels) -/

/-- One cell of a two-dimensional histogram: class `(xl, xr]` of the first level, `(yl, yr]` of the second, content `v`. -/
structure Cell (α : Type) where
  xl : α
  xr : α
  yl : α
  yr : α
  v : α

/-- The code re-bins level by level (`groupby` the other level, `_do_rebin_histogram` along this one): what the
cell gives to the target cell `p × q` is its first-level share, shared again along the second level. -/
def share2 (p q : α × α × Bool) (c : Cell α) : α :=
  shareC q ⟨c.yl, c.yr, shareC p ⟨c.xl, c.xr, c.v⟩⟩

/-- Two-dimensional re-bin to the breaks `bx` (first level) and `bys` (second level): row-major contents. -/
def rebin2 (cells : List (Cell α)) (bx bys : List α) : List (List α) :=
  (classes bx).map fun p => (classes bys).map fun q => total (cells.map (share2 p q))

/-- `binning.levels[binning.names.index(name)]`: the target binning of a level is looked up by the level's NAME. -/
def pickBreaks (name : String) (target : List (String × List α)) : List α :=
  match target.find? (fun t => t.1 == name) with
  | some t => t.2
  | none => []

/-- `rebin_histogram(h, target)` for a histogram with the interval levels `names` and a target given as a
MultiIndex with named levels (in any order). -/
def rebin2Named (names : String × String) (target : List (String × List α)) (cells : List (Cell α)) : List (List α) :=
  rebin2 cells (pickBreaks names.1 target) (pickBreaks names.2 target)

/-! ## `combine_histogram(…, 'sum')` -/

/-- Interval order used by the `groupby` (sorted keys): by left, then right bound. -/
def keyLt (a b : α × α) : Bool :=
  decide (a.1 < b.1) || (!decide (b.1 < a.1) && decide (a.2 < b.2))

def keyEq (a b : α × α) : Bool := !keyLt a b && !keyLt b a

/-- Add the class `b` to a combined histogram kept sorted by class: identical classes are summed. -/
def insertBin (b : Bin α) : List (Bin α) → List (Bin α)
  | [] => [b]
  | c :: cs =>
    if keyEq (b.l, b.r) (c.l, c.r) then ⟨c.l, c.r, c.v + b.v⟩ :: cs
    else if keyLt (b.l, b.r) (c.l, c.r) then b :: c :: cs
    else c :: insertBin b cs

/-- `combine_histogram(hists, 'sum')` for one-dimensional histograms: concat, group identical classes, sum. -/
def combine (hists : List (List (Bin α))) : List (Bin α) :=
  hists.flatten.foldl (fun acc b => insertBin b acc) []

def binTotal (l : List (Bin α)) : α := total (l.map (·.v))

/-! ## Unoccupied classes: NaN contents (`nan_default=True`) -/

/-- A histogram class whose content may be NaN ("not occupied"): `none`. -/
structure OBin (α : Type) where
  l : α
  r : α
  v : Option α

/-- `.dropna()`: the classes that carry a number. -/
def present : List (OBin α) → List (Bin α)
  | [] => []
  | b :: bs => match b.v with
    | some v => ⟨b.l, b.r, v⟩ :: present bs
    | none => present bs

/-- pandas' `Interval.overlaps` for right-closed classes. -/
def overlapsB (tl tr : α) (s : Bin α) : Bool := decide (s.l < tr) && decide (tl < s.r)

/-- Does the source class `s` occupy the target class `c`?  Positive width: it overlaps; zero width: its point lies inside. -/
def occupies (c : α × α × Bool) (s : Bin α) : Bool :=
  if s.l < s.r then overlapsB c.1 c.2.1 s else inBin c.1 c.2.1 c.2.2 s.r

/-- `aggregate_hist(interval)` with NaN handling: `occupied = hist.loc[overlaps].dropna()`; no occupied class (and no
point class with a number inside) → the default (`NaN` if `nan_default` else `0.0`), else the sum of the shares. -/
def aggregateOpt (nanDefault : Bool) (src : List (OBin α)) (c : α × α × Bool) : Option α :=
  let occ := (present src).filter (occupies c)
  if occ.isEmpty then (if nanDefault then none else some 0.0)
  else some (total (occ.map (shareC c)))

/-- `rebin_histogram(src, from_breaks(breaks), nan_default)`. -/
def rebinOpt (nanDefault : Bool) (src : List (OBin α)) (breaks : List α) : List (Option α) :=
  (classes breaks).map fun c => aggregateOpt nanDefault src c

def rebinOptBins (nanDefault : Bool) (src : List (OBin α)) (breaks : List α) : List (OBin α) :=
  (classes breaks).map fun c => ⟨c.1, c.2.1, aggregateOpt nanDefault src c⟩

/-- `np.nansum`: total with NaN counted as nothing. -/
def ototal (l : List (Option α)) : α := total (l.map fun v => v.getD 0.0)

/-- groupby-`sum` skips NaN: a NaN content adds nothing to its class (the class itself stays in the result,
with `0.0` if no histogram has a number there). -/
def combineOpt (hists : List (List (OBin α))) : List (Bin α) :=
  combine (hists.map fun h => h.map fun b => ⟨b.l, b.r, b.v.getD 0.0⟩)

/-- The pipeline of the `combine_histogram` docstring: every histogram re-binned to one common binning, then combined. -/
def rebinCombine (nanDefault : Bool) (hists : List (List (OBin α))) (breaks : List α) : List (Bin α) :=
  combineOpt (hists.map fun h => rebinOptBins nanDefault h breaks)

/-- The documented pipeline from collectives to one combined histogram: every collective is histogrammed over its own
class edges (`range_histogram(edges)`), re-binned to one common binning and the results are combined by sum. -/
def histRebinCombine (parts : List (List α × List (Row α))) (breaks : List α) : List (Bin α) :=
  combine (parts.map fun p => rebinBins (binsOf p.1 (rangeHistogram p.1 p.2)) breaks)

end PylifeVerif.Collective
