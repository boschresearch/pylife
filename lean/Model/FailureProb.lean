/-
Model of `pylife/strength/failure_probability.py` (property C15).

`FailureProbability(strength_median, strength_std)` keeps `s_50 = log10(strength_median)` and
`s_std = strength_std`; everything lives in log10 space.  `scipy.stats.norm.cdf(x, loc, scale)` is
`Φ((x - loc) / scale)`; `Φ` is a PARAMETER of the model (the proofs instantiate it with an abstract
strictly increasing continuous function with values in (0,1), and with the standard normal
distribution function of Mathlib's `gaussianReal 0 1`; the driver with a `Float` series / continued
fraction).

  * `pfSimpleLoad`     = `pf_simple_load(load)`            (deterministic load)
  * `pfNormLoad`       = `pf_norm_load(load_median, load_std)` with the default integration limits:
                         the VALUE of the integral `∫ pdf_L(x) · cdf_S(x) dx`, i.e. the closed form
                         `Φ((log10 load_median − log10 strength_median) / √(load_std² + strength_std²))`
                         (that the integral has this value is theorem `C15.overlap_integral_eq_closed_form`;
                         that `scipy.integrate.quad` returns the value of the integral is its contract, measured by
                         the correspondence check)
  * `pfNormLoadCode`   = `pf_norm_load(load_median, load_std, lower_limit, upper_limit)` AS THE CODE COMPUTES IT
                         (repaired code, /repo commits 2a91979 + 04bca38 + 2da931b):
                         `load_std = 0` is a deterministic load (`pf_simple_load` if it lies within the limits, else 0);
                         otherwise the limits are standardised (`t = (log10 load − log10 load_median) / load_std`, default
                         ±16, explicit ones clipped to ±16), `loc = s_50 − log10 load_median`,
                         `mass = cdf(upper) − cdf(lower)` (as `sf(lower) − sf(upper)` for a window above the load median),
                         `direct = quad(pdf(t) · cdf((sc·t − loc)/s_std))`, `viaComplement = mass − quad(pdf(t) · sf(…))`.
                         BRANCH RULE OF THE MODEL (= that of /repo 2da931b): with the default limits and `loc < 0`
                         (pf > 1/2 by symmetry) `viaComplement`; otherwise `direct` if `direct ≤ mass/2`, else `viaComplement`
                         - the smaller one of the two complementary probabilities is the one that is integrated.
                         THE CODE's rule differs (`failure_probability.py`, `if abs(pf) <= 0.5 * abs(load_between_limits) or
                         abs(load_between_limits) < 0.5`): it compares absolute values, and in the second case it returns `direct`
                         also when `|mass| < 1/2`, i.e. `viaComplement` only if the complement is the smaller one AND at least half
                         of the load lies in the window (in a narrow window `mass − quad(…)` cancels: −5.4e-24 for 4.1e-47).  The
                         model keeps the simpler rule: both rules choose between the same two expressions, each equal to the
                         window integral (`window_sf_identity`, `C15.pf_norm_load_code_eq_window_integral`), so the theorems
                         carry over to the code's rule (not restated) and the correspondence check compares the values within
                         its tolerance; the narrow windows themselves are covered by the oracle (corpus
                         `C15/fixreview-d-narrow-window-{a,b,c}`), where the harness compares with its own window integral.
                         `quad` (the value scipy's adaptive quadrature is contracted to deliver), `Φ`, the survival
                         function `Ψ` and the density `φ` are PARAMETERS: the proofs instantiate `quad` with the interval
                         integral (`C15.pf_norm_load_code_eq_window_integral`, `C15.pf_norm_load_code_near_closed_form`), the
                         driver with a composite 8-point Gauss–Legendre rule on the pieces the code's break points define.
  * `pfArbitraryLoad`  = `pf_arbitrary_load(load_values, load_pdf)`: the composite trapezoidal rule of
                         `np.trapezoid(load_pdf * cdf_S(load_values), x = load_values)`.

Generic in the carrier (see `Model/Num.lean`).  No Mathlib import.
-/
import Model.Num

namespace PylifeVerif.FailureProb

variable {α : Type} [Add α] [Sub α] [Mul α] [Div α] [Neg α] [OfScientific α]
  [LT α] [LE α] [DecidableLT α] [DecidableLE α] [Transc α]

/-- `norm.cdf(x, loc, scale)` -/
def normCdf (Φ : α → α) (x loc scale : α) : α := Φ ((x - loc) / scale)

/-- `pf_simple_load(load)`: the strength's distribution function at the (log10 of the) load. -/
def pfSimpleLoad (Φ : α → α) (strengthMedian strengthStd load : α) : α :=
  normCdf Φ (Transc.log10 load) (Transc.log10 strengthMedian) strengthStd

/-- the argument of `Φ` in the closed form of the overlap integral -/
def safetyIndex (strengthMedian strengthStd loadMedian loadStd : α) : α :=
  (Transc.log10 loadMedian - Transc.log10 strengthMedian)
    / Transc.sqrt (loadStd * loadStd + strengthStd * strengthStd)

/-- `pf_norm_load(load_median, load_std)` (default limits): value of the overlap integral. -/
def pfNormLoad (Φ : α → α) (strengthMedian strengthStd loadMedian loadStd : α) : α :=
  Φ (safetyIndex strengthMedian strengthStd loadMedian loadStd)

/-- the complementary probability `1 − pf` evaluated without cancellation (`Φ(−z)`) -/
def survNormLoad (Φ : α → α) (strengthMedian strengthStd loadMedian loadStd : α) : α :=
  Φ (-(safetyIndex strengthMedian strengthStd loadMedian loadStd))

/-- `np.clip(x, -16, 16)`: beyond 16 load standard deviations the code neglects the load (its default range) -/
def clip16 (x : α) : α := if x < -16.0 then -16.0 else if x > 16.0 then 16.0 else x

/-- standardised integration limit: `None` → the default, else `(limit − log10 load_median) / load_std` clipped to ±16 -/
def stdLimit (dflt : α) (loadMedian loadStd : α) : Option α → α
  | none => dflt
  | some l => clip16 ((l - Transc.log10 loadMedian) / loadStd)

/-- `lower_limit ≤ x` / `x ≤ upper_limit` with `None` = no limit -/
def withinLimits (x : α) (lower upper : Option α) : Bool :=
  (match lower with | none => true | some l => decide (l ≤ x)) &&
  (match upper with | none => true | some u => decide (x ≤ u))

/-- `pf_norm_load(load_median, load_std, lower_limit, upper_limit)` as the code computes it, up to the condition on which the
last `if` picks `direct` (header: the code's is another one in narrow windows); `quad f a b` stands for
`scipy.integrate.quad(f, a, b, …)[0]`, `Ψ` for `norm.sf`, `φ` for `norm.pdf`.  (`load_std < 0` raises in the code and is
outside the model's domain: here it takes the deterministic branch.) -/
def pfNormLoadCode (Φ Ψ φ : α → α) (quad : (α → α) → α → α → α)
    (strengthMedian strengthStd loadMedian loadStd : α) (lower upper : Option α) : α :=
  if loadStd ≤ 0.0 then
    (if withinLimits (Transc.log10 loadMedian) lower upper then pfSimpleLoad Φ strengthMedian strengthStd loadMedian else 0.0)
  else
    let lo := stdLimit (-16.0) loadMedian loadStd lower
    let hi := stdLimit 16.0 loadMedian loadStd upper
    let loc := Transc.log10 strengthMedian - Transc.log10 loadMedian
    let mass := if lo > 0.0 then Ψ lo - Ψ hi else Φ hi - Φ lo
    let direct := quad (fun t => φ t * Φ ((loadStd * t - loc) / strengthStd)) lo hi
    let viaComplement := mass - quad (fun t => φ t * Ψ ((loadStd * t - loc) / strengthStd)) lo hi
    if lower.isNone && upper.isNone && decide (loc < 0.0) then viaComplement
    else if direct ≤ 0.5 * mass then direct else viaComplement

/-- positive half of the 8-point Gauss–Legendre rule on [-1, 1]: (node, weight) -/
def gl8 : List (α × α) :=
  [(0.18343464249564978, 0.36268378337836166), (0.525532409916329, 0.3137066458778869),
   (0.7966664774136267, 0.22238103445337443), (0.9602898564975362, 0.10122853629037706)]

/-- one Gauss–Legendre panel on `[a, a + h]` -/
def glPanel (f : α → α) (a h : α) : α :=
  let c := a + h / 2.0
  let r := h / 2.0
  r * (gl8.foldl (fun s (p : α × α) => s + p.2 * (f (c - r * p.1) + f (c + r * p.1))) 0.0)

/-- `n` consecutive panels of width `h` starting at `a`, added to `acc` -/
def glComposite (f : α → α) (h : α) : Nat → α → α → α
  | 0, _, acc => acc
  | n + 1, a, acc => glComposite f h n (a + h) (acc + glPanel f a h)

/-- composite trapezoidal rule `np.trapezoid(y, x = x)` on a list of nodes `(x, y)` -/
def trapezoid : List (α × α) → α
  | (x₀, y₀) :: (x₁, y₁) :: rest => (x₁ - x₀) * (y₁ + y₀) / 2.0 + trapezoid ((x₁, y₁) :: rest)
  | _ => 0.0

/-- `pf_arbitrary_load(load_values, load_pdf)`; `pts` = the pairs `(load_values[i], load_pdf[i])`. -/
def pfArbitraryLoad (Φ : α → α) (strengthMedian strengthStd : α) (pts : List (α × α)) : α :=
  trapezoid (pts.map fun p => (p.1, p.2 * normCdf Φ p.1 (Transc.log10 strengthMedian) strengthStd))

end PylifeVerif.FailureProb
