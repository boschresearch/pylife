/-
C12 — mean stress transformation along the iso-damage lines of a Haigh diagram.

Hand-written executable model of `pylife/strength/meanstress.py`
(`HaighDiagram.transform`, `_SegmentTransformer`, `HaighDiagram.fkm_goodman`, `HaighDiagram.five_segment`,
`MeanstressTransformMatrix._rebin_results`) and of the `R`/`amplitude` accessors of
`load_collective.py` / `load_histogram.py` as far as the transformation uses them.

Generic in the carrier: the driver runs it at `Float` (IEEE infinities are mapped to the constructors
of `ExtR` at the protocol boundary), the proofs at `ℝ`.  The order of the
floating-point operations is the order of the Python expressions, so that `Float` results are
bit-identical to numpy's.

The model follows the code *after* the repairs (all committed in the repo) 1ef2d1a
(the segment `(1, inf]` gets the sort key `-inf` instead of `-1`; see `segKey`),
c28a67e (`load_collective.R`: an upper load `-0.0` counts as `+0.0`; see `cycR`),
ab50530 and ef4f38d, which supersedes it (the matrix accessor pairs transformed ranges and counts by label for
every order of the index levels; see `matrixTransform`), 9e46386
(`M2 = M/3` without writing into the caller's parameter frame; value unchanged, see `goodmanDefault`) and
3b0f832 (`HaighDiagram.five_segment` builds the segments row by row: slopes and `R12` / `R23` of one parameter row
stay together; the model is per cycle and sees the segments of its own diagram row).
-/

namespace PylifeVerif.Meanstress

/-- An R value as `_SegmentTransformer` keeps it in a float column. -/
inductive ExtR (α : Type) where
  | fin (r : α)
  | pinf
  | ninf
  | nan
  deriving Repr

/-- One segment of the Haigh diagram: the `pd.Interval(lo, hi)` of the `R` index and its slope. -/
structure Seg (α : Type) where
  lo : ExtR α
  hi : ExtR α
  M : α

/-- A cycle as kept in `transformed_cycles`: amplitude and R. -/
structure Cyc (α : Type) where
  amp : α
  R : ExtR α

variable {α : Type} [Add α] [Sub α] [Mul α] [Div α] [Neg α] [OfScientific α]
  [LT α] [LE α] [DecidableLT α] [DecidableLE α]

namespace ExtR

/-- IEEE `a ≤ b` on the extended values (`nan` compares false). -/
def le : ExtR α → ExtR α → Bool
  | nan, _ => false
  | _, nan => false
  | ninf, _ => true
  | _, pinf => true
  | fin a, fin b => decide (a ≤ b)
  | fin _, ninf => false
  | pinf, fin _ => false
  | pinf, ninf => false

/-- IEEE `a < b`. -/
def lt : ExtR α → ExtR α → Bool
  | nan, _ => false
  | _, nan => false
  | pinf, _ => false
  | _, ninf => false
  | ninf, _ => true
  | fin a, fin b => decide (a < b)
  | fin _, pinf => true

/-- `x == 1.0` -/
def isOne : ExtR α → Bool
  | fin r => decide (r ≤ 1.0 ∧ 1.0 ≤ r)
  | _ => false

end ExtR

open ExtR

/-- `fake_meanstress(R) = (1+R)/(1-R)` evaluated in IEEE arithmetic: `nan` at `±inf`. -/
def fake : ExtR α → ExtR α
  | fin r => fin ((1.0 + r) / (1.0 - r))
  | _ => nan

/-- `IntervalIndex.mid = 0.5 * (left + right)`. -/
def mid : ExtR α → ExtR α → ExtR α
  | fin a, fin b => fin (0.5 * (a + b))
  | nan, _ => nan
  | _, nan => nan
  | pinf, ninf => nan
  | ninf, pinf => nan
  | pinf, _ => pinf
  | _, pinf => pinf
  | ninf, _ => ninf
  | _, ninf => ninf

/-- Sort key of a segment in `_distance_from_R_goal`: `fake_meanstress(mid).fillna(-1.0)`;
(repaired code) `-inf` where `mid == +inf`, i.e. for the segment beyond `R = 1`. -/
def segKey (s : Seg α) : ExtR α :=
  match mid s.lo s.hi with
  | pinf => ninf
  | m => match fake m with
    | nan => fin (-1.0)
    | k => k

/-- `meanstress_goal`. -/
def goalKey : ExtR α → ExtR α
  | ninf => fin (-1.0)
  | g => fake g

/-- Stable insertion (ascending by key): `x` goes in front of the first element whose key is not smaller. -/
def insertAsc (x : Seg α) : List (Seg α) → List (Seg α)
  | [] => [x]
  | y :: ys => if ExtR.lt (segKey y) (segKey x) then y :: insertAsc x ys else x :: y :: ys

/-- Stable insertion (descending by key). -/
def insertDesc (x : Seg α) : List (Seg α) → List (Seg α)
  | [] => [x]
  | y :: ys => if ExtR.lt (segKey x) (segKey y) then y :: insertDesc x ys else x :: y :: ys

/-- `distances[distances < 0].sort_values(ascending=True)` (stable for the ≤ 16 segments of a diagram). -/
def segsLeft (D : List (Seg α)) (g : ExtR α) : List (Seg α) :=
  (D.filter fun s => ExtR.lt (segKey s) (goalKey g)).foldr insertAsc []

/-- `distances[distances > 0].sort_values(ascending=False)`. -/
def segsRight (D : List (Seg α)) (g : ExtR α) : List (Seg α) :=
  (D.filter fun s => ExtR.lt (goalKey g) (segKey s)).foldr insertDesc []

/-- `segments_containing_R_goal`: right-closed membership, if there is none left-closed membership. -/
def segsContaining (D : List (Seg α)) (g : ExtR α) : List (Seg α) :=
  let c := D.filter fun s => ExtR.lt s.lo g && ExtR.le g s.hi
  if c.isEmpty then D.filter fun s => ExtR.le s.lo g && ExtR.lt g s.hi else c

/-- `push_over_flipping_point`. -/
def push (R g : ExtR α) : ExtR α :=
  match R with
  | ninf => if ExtR.lt (fin 1.0) g then pinf else ninf
  | pinf => if ExtR.lt g (fin 1.0) then ninf else pinf
  | r => r

/-- `fillna(0.0)` on a computed value (`t ≤ t` fails exactly for an IEEE NaN). -/
def fillna0 (t : α) : α := if t ≤ t then t else 0.0

/-- `transformed_amplitude` for one cycle; `g` is the goal after `1.0 ↦ -inf`. -/
def transAmp (M : α) (c : Cyc α) (g : ExtR α) : α :=
  match c.R with
  | pinf => 0.0
  | nan => 0.0
  | R =>
    let mean : α := match R with
      | fin r => if r ≤ 1.0 ∧ 1.0 ≤ r then -c.amp else c.amp * (1.0 + r) / (1.0 - r)
      | _ => -c.amp
    match g with
    | ninf => fillna0 ((c.amp + M * mean) / (1.0 - M))
    | fin q => fillna0 ((1.0 - q) * (c.amp + M * mean) / (1.0 - q + M * (1.0 + q)))
    | _ => 0.0

/-- `transform_cycles_in_interval(interval, R_goal)` seen by one cycle whose diagram row has this segment. -/
def step (s : Seg α) (g : ExtR α) (c : Cyc α) : Cyc α :=
  let Rp := push c.R g
  if ExtR.le s.lo Rp && ExtR.le Rp s.hi then
    let g' := if g.isOne then ninf else g
    ⟨transAmp s.M c g', g'⟩
  else c

/-- `interval.right if interval.right < 1.0 else interval.left` -/
def leftBoundary (s : Seg α) : ExtR α := if ExtR.lt s.hi (fin 1.0) then s.hi else s.lo

/-- `HaighDiagram.transform` for one cycle. -/
def transform (D : List (Seg α)) (g : ExtR α) (c : Cyc α) : Cyc α :=
  let c := (segsLeft D g).foldl (fun c s => step s (leftBoundary s) c) c
  let c := (segsRight D g).foldl (fun c s => step s s.lo c) c
  (segsContaining D g).foldl (fun c s => step s g c) c

/-- `((1+R)/(1-R)).fillna(-1.0)` times the amplitude: the `mean` column of the result. -/
def resultMean (c : Cyc α) : α :=
  match c.R with
  | fin r => c.amp * fillna0' ((1.0 + r) / (1.0 - r))
  | _ => c.amp * (-1.0)
where fillna0' (t : α) : α := if t ≤ t then t else -1.0

/-- `HaighDiagram.fkm_goodman`: `(1, inf] ↦ 0`, `(-inf, 0] ↦ M`, `(0, 1] ↦ M2`. -/
def goodman (M M2 : α) : List (Seg α) :=
  [⟨fin 1.0, pinf, 0.0⟩, ⟨ninf, fin 0.0, M⟩, ⟨fin 0.0, fin 1.0, M2⟩]

/-- `HaighDiagram.fkm_goodman` for a parameter set without `M2`: `M2 = M / 3.0`. -/
def goodmanDefault (M : α) : List (Seg α) := goodman M (M / 3.0)

/-- `HaighDiagram.five_segment`. -/
def fiveSegment (M0 M1 M2 M3 M4 R12 R23 : α) : List (Seg α) :=
  [⟨fin 1.0, pinf, M4⟩, ⟨ninf, fin 0.0, M0⟩, ⟨fin 0.0, fin R12, M1⟩, ⟨fin R12, fin R23, M2⟩,
   ⟨fin R23, fin 1.0, M3⟩]

/-! ### Frames: the cycle `(amplitude, R)` of a row, and the row of a cycle

`ext` classifies a carrier value as `HaighDiagram.transform` sees it in a float column (`Float`: IEEE infinities
and NaN go to the constructors of `ExtR`; `ℝ`: `ExtR.fin`). -/

/-- The three ways a cycle is handed over: DataFrame with `range`/`mean`, DataFrame with `from`/`to`, histogram
(class mid of the range resp. `|from - to|` of the class mids, class mid of the mean). -/
inductive Iface where
  | rm
  | ft
  | h
  deriving Repr, DecidableEq

/-- `x != x` -/
def isNaN (x : α) : Bool := !(decide (x ≤ x))

/-- `load_collective.R = (lower / (upper + 0.0)).fillna(0.0)` (after repo commit c28a67e: an upper
load of either signed zero is `+0.0`): division by zero spelled out, so that it means the same at every carrier. -/
def cycR (ext : α → ExtR α) (lower upper : α) : ExtR α :=
  if upper ≤ 0.0 ∧ 0.0 ≤ upper then
    if lower < 0.0 then ninf else if 0.0 < lower then pinf else fin 0.0
  else match ext (lower / upper) with
    | nan => fin 0.0
    | r => r

/-- `np.abs(a - b)` (for `a`, `b` not NaN). -/
def absDiff (a b : α) : α := if a < b then b - a else a - b

/-- The cycle `(amplitude, R)` as the accessors of `load_collective.py` / `load_histogram.py` compute it. -/
def mkCycle (ext : α → ExtR α) (kind : Iface) (x y : α) : Cyc α :=
  match kind with
  | .h =>
    let amp := x / 2.0
    ⟨amp, cycR ext (y - amp) (y + amp)⟩
  | k =>
    let ft : α × α := if k = .rm then (y - x / 2.0, y + x / 2.0) else (x, y)
    let fr := ft.1
    let to := ft.2
    -- DataFrame.max/min(axis=1) skip NaN
    let upper := if isNaN fr then to else if isNaN to then fr else if fr < to then to else fr
    let lower := if isNaN fr then to else if isNaN to then fr else if fr < to then fr else to
    ⟨absDiff fr to / 2.0, cycR ext lower upper⟩

/-- The row (`range`, `mean`) of the result frame for a transformed cycle. -/
def rowOf (c : Cyc α) : α × α := (2.0 * c.amp, resultMean c)

/-- One pass of `HaighDiagram.transform` on a row; the result row is (`range`, `mean`). -/
def transformFrame (ext : α → ExtR α) (D : List (Seg α)) (g : ExtR α) (kind : Iface) (xy : α × α) : α × α :=
  rowOf (transform D g (mkCycle ext kind xy.1 xy.2))

/-- Successive transforms `hd.transform(hd.transform(frame, g₁), g₂) …`: every result frame is a `range`/`mean` frame. -/
def transformChain (ext : α → ExtR α) (D : List (Seg α)) (kind : Iface) (goals : List (ExtR α)) (xy : α × α) : α × α :=
  match goals with
  | [] => xy
  | g :: gs => gs.foldl (fun r g => transformFrame ext D g .rm r) (transformFrame ext D g kind xy)

/-- `res.load_collective.amplitude` of a (`range`, `mean`) row. -/
def frameAmp (xy : α × α) : α := absDiff (xy.2 - xy.1 / 2.0) (xy.2 + xy.1 / 2.0) / 2.0

/-! ### Matrix interface: re-binning of the transformed ranges -/

/-- `np.linspace(0, mx, n+1)`: `i * (mx / n)` with the last break set to `mx`. -/
def linspace0 [NatCast α] (mx : α) (n : Nat) : List α :=
  (List.range (n + 1)).map fun i => if i = n then mx else (i : α) * (mx / (n : α))

/-- `sum_intervals`: cycles whose range lies in `(l, r]`, resp. `[0, r]` for the first class. -/
def classSum (l r : α) (items : List (α × α)) : α :=
  (items.filter fun it => (if l ≤ 0.0 ∧ 0.0 ≤ l then decide (l ≤ it.1) else decide (l < it.1)) && decide (it.1 ≤ r)).foldl
    (fun acc it => acc + it.2) 0.0

/-- The class sums for consecutive breaks `e₀ e₁ … eₙ`. -/
def rebin : List α → List (α × α) → List α
  | l :: r :: es, items => classSum l r items :: rebin (r :: es) items
  | _, _ => []

/-- One class of a rainflow matrix as `series.meanstress_transform.fkm_goodman` sees it: the key of the remaining index
levels (`node`), the Haigh diagram of that key, class mids (`x` = range, `y` = mean) and the number of cycles. -/
structure Cell (α : Type) where
  node : Nat
  D : List (Seg α)
  x : α
  y : α
  count : α

/-- (transformed range, count) of every class. -/
def matItems (ext : α → ExtR α) (g : ExtR α) (cells : List (Cell α)) : List (α × α) :=
  cells.map fun c => ((transformFrame ext c.D g .h (c.x, c.y)).1, c.count)

/-- `ranges.max()` -/
def maxRange (items : List (α × α)) : α :=
  items.foldl (fun m it => if m < it.1 then it.1 else m) (items.headD (0.0, 0.0)).1

/-- `resulting_intervals`: `bincount = int(np.ceil(ranges_max / binsize))` (`ceilNat`), breaks `np.linspace(0, ranges_max, bincount+1)`;
one set of breaks for all keys of the remaining levels. -/
def matBreaks [NatCast α] (ext : α → ExtR α) (ceilNat : α → Nat) (g : ExtR α) (binsize : α) (cells : List (Cell α)) : List α :=
  let mx := maxRange (matItems ext g cells)
  linspace0 mx (ceilNat (mx / binsize))

/-- `MeanstressTransformMatrix.fkm_goodman` / `_rebin_results`: the class sums of the key `node`
(`aggregate_on_projection`); a matrix without remaining levels has the single key `0`. -/
def matrixTransform [NatCast α] (ext : α → ExtR α) (ceilNat : α → Nat) (g : ExtR α) (binsize : α) (cells : List (Cell α))
    (node : Nat) : List α :=
  rebin (matBreaks ext ceilNat g binsize cells) (matItems ext g (cells.filter fun c => c.node == node))

end PylifeVerif.Meanstress
