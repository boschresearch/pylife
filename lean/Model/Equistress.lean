/-
Model of `pylife/stress/equistress.py` (C17), one tensor (one row) at a time.

* `Voigt α` = the six components `S11 S22 S33 S12 S13 S23` the functions receive.
* `Principal α` = what `eigenval` (= `numpy.linalg.eigvalsh` of the assembled symmetric matrix) returns
  for that row: the three eigenvalues, ascending.  `eigvalsh` itself is NOT modelled – the eigenvalue
  based functions take its result as an input; its contract (roots of the characteristic polynomial,
  ascending) is `IsEigTriple` in `Proofs/Lemmas/Equistress.lean`.
* Every function is written as the code computes it (same operations in the same order, except that the
  `np.asarray(s) * 1.0` with which `mises` promotes integer components is left out: it is the identity on
  floats), generic in the carrier: the driver runs it at `Float`, the proofs at `ℝ`.
* `mises` is the REPAIRED formula of /repo commit a83078d (finding F-13, class mises-cancellation);
  `misesExpanded` is the formula of the unrepaired code, kept because the theorems state that both
  agree over ℝ and that the expanded radicand is non-negative over ℝ (which floating point violates).
* The accessor `df.equistress.f()` is `column f rows` (row-wise map, index kept).

No Mathlib import.
-/
import Model.Num
namespace PylifeVerif.Equistress

structure Voigt (α : Type) where
  s11 : α
  s22 : α
  s33 : α
  s12 : α
  s13 : α
  s23 : α

/-- result of `eigenval` for one row: `w[0] ≤ w[1] ≤ w[2]` by the contract of `eigvalsh` -/
structure Principal (α : Type) where
  w0 : α
  w1 : α
  w2 : α

variable {α : Type} [Add α] [Sub α] [Mul α] [Div α] [Neg α] [OfScientific α]
  [LT α] [LE α] [DecidableLT α] [DecidableLE α] [Transc α]

/-- `np.square(x)`; also the `x ** 2` of the unrepaired formula (numpy evaluates the scalar power 2 as `x * x`) -/
def sq (x : α) : α := x * x

/-- radicand of `mises` in the unrepaired code:
`s11**2 + s22**2 + s33**2 - s11*s22 - s11*s33 - s22*s33 + 3*(s12**2 + s13**2 + s23**2)` -/
def misesRadicandExpanded (v : Voigt α) : α :=
  sq v.s11 + sq v.s22 + sq v.s33 - v.s11 * v.s22 - v.s11 * v.s33 - v.s22 * v.s33
    + 3.0 * (sq v.s12 + sq v.s13 + sq v.s23)

def misesExpanded (v : Voigt α) : α := Transc.sqrt (misesRadicandExpanded v)

/-- radicand of `mises` (repaired):
`0.5 * (np.square(s11 - s22) + np.square(s22 - s33) + np.square(s33 - s11))
  + 3 * (np.square(s12) + np.square(s13) + np.square(s23))` -/
def misesRadicand (v : Voigt α) : α :=
  0.5 * (sq (v.s11 - v.s22) + sq (v.s22 - v.s33) + sq (v.s33 - v.s11))
    + 3.0 * (sq v.s12 + sq v.s13 + sq v.s23)

def mises (v : Voigt α) : α := Transc.sqrt (misesRadicand v)

/-- maximum / minimum of two non-NaN numbers: the binary step of `np.amax` / `np.amin` below -/
def max2 (a b : α) : α := if a < b then b else a
def min2 (a b : α) : α := if b < a then b else a

/-- `np.amax(w, axis=0)` / `np.amin(w, axis=0)` over the three eigenvalues (the code does not rely on the order) -/
def amax3 (a b c : α) : α := max2 (max2 a b) c
def amin3 (a b c : α) : α := min2 (min2 a b) c

def maxPrincipal (w : Principal α) : α := amax3 w.w0 w.w1 w.w2
def minPrincipal (w : Principal α) : α := amin3 w.w0 w.w1 w.w2

/-- `tresca`: `amax([fabs(w0-w1), fabs(w0-w2), fabs(w1-w2)])` -/
def tresca (w : Principal α) : α :=
  amax3 (Transc.abs (w.w0 - w.w1)) (Transc.abs (w.w0 - w.w2)) (Transc.abs (w.w1 - w.w2))

/-- `x == 0` written with the comparisons of the bundle (false for NaN, as in numpy) -/
def isZero (x : α) : Bool := decide (x ≤ 0.0) && decide (0.0 ≤ x)

/-- `_sign_trace`: `sgn = np.sign(s11 + s22 + s33)`; `sgn == 0` is replaced by `1` -/
def signTrace (v : Voigt α) : α :=
  let sgn := Transc.sign (v.s11 + v.s22 + v.s33)
  if isZero sgn then 1.0 else sgn

/-- `_sign_abs_max_principal`: `sgn = np.sign(w_max + w_min)`; `sgn + int(sgn == 0)` -/
def signAbsMax (w : Principal α) : α :=
  let sgn := Transc.sign (maxPrincipal w + minPrincipal w)
  sgn + (if isZero sgn then 1.0 else 0.0)

/-- `abs_max_principal`: `w_max * (sign >= 0) + w_min * ~(sign >= 0)` (booleans multiply as 1.0 / 0.0) -/
def absMaxPrincipal (w : Principal α) : α :=
  let pos : Bool := decide (0.0 ≤ signAbsMax w)
  maxPrincipal w * (if pos then 1.0 else 0.0) + minPrincipal w * (if pos then 0.0 else 1.0)

def signedTrescaTrace (v : Voigt α) (w : Principal α) : α := signTrace v * tresca w
def signedTrescaAbsMax (w : Principal α) : α := signAbsMax w * tresca w
def signedMisesTrace (v : Voigt α) : α := signTrace v * mises v
def signedMisesAbsMax (v : Voigt α) (w : Principal α) : α := signAbsMax w * mises v

/-- the accessor methods: the plain function applied to every row, in row order -/
def column {β γ : Type} (f : β → γ) (rows : List β) : List γ := rows.map f

end PylifeVerif.Equistress
