/-
Model of the notch approximation laws (property C06) and of the binned look-up law (property C07).

Anchored code:

  * `materiallaws/rambgood.py`                      RambergOsgood.strain / delta_strain
  * `materiallaws/notch_approximation_law.py`       ExtendedNeuber._e_star, _neuber_strain, _stress_implicit,
                                                    _delta_e_star, _neuber_strain_secondary, _stress_secondary_implicit
                                                    (`_load_implicit(L, σ)` IS `_stress_implicit(σ, L)`, as in the code);
                                                    Binned._create_bins_* (class edges) and the four look-up functions
  * `materiallaws/notch_approximation_law_seegerbeste.py`   SeegerBeste._u_term, _middle_term, _stress_implicit and the
                                                    `_secondary` variants

The defining functions are written once, generic in the carrier (`Model/Num.lean`): the driver runs them at
`Float`, the proofs at `ℝ`.  `np.divide(a, b, out=np.ones_like(..), where=c)` is `if c then a / b else 1`.
What the iterative solvers return (`scipy.optimize.newton` for extended Neuber, the bisection
`SeegerBeste._root_in_bracket`) is NOT modelled: the laws' values are *roots* of the defining functions; the driver finds
them by bisection (`bisect`), the theorems speak about exact roots and, in `Proofs/C06Solver.lean`, about `bisect`.

The binned law is piecewise constant: it is generic over a carrier with `<`, `≤`, `*`, `/`, `-x`, `0`, `1` and a
cast from `Nat` (the proofs use an arbitrary linearly ordered field).  No Mathlib import.
-/
import Model.Num

namespace PylifeVerif.Notch

/-! ## C06: the defining functions -/
section laws

/-- `np.pi` -/
class HasPi (α : Type) where
  pi : α

instance : HasPi Float := ⟨3.141592653589793⟩

/-- `np.sin` and `np.log1p` (`ln(1 + x)`), used by the Seeger-Beste middle term. -/
class HasSinLog1p (α : Type) where
  sin : α → α
  log1p : α → α

/-- `log1p` at `Float` without loss of digits for small `x` (Kahan): `ln(w) · x / (w − 1)` with `w = 1 + x`. -/
def floatLog1p (x : Float) : Float :=
  let w := 1.0 + x
  if w == 1.0 then x else if w - 1.0 == x then Float.log w else Float.log w * (x / (w - 1.0))

instance : HasSinLog1p Float := ⟨Float.sin, floatLog1p⟩

variable {α : Type} [Add α] [Sub α] [Mul α] [Div α] [Neg α] [OfScientific α]
  [LT α] [LE α] [DecidableLT α] [DecidableLE α] [Transc α]

/-- The constructor arguments of a notch approximation law: `E`, `K'`, `n'`, `K_p`. -/
structure Mat (α : Type) where
  E : α
  K : α
  n : α
  Kp : α

/-- `x != 0` of numpy for numbers (not NaN) -/
def nz (x : α) : Prop := x < 0.0 ∨ 0.0 < x

instance (x : α) : Decidable (nz x) := by unfold nz; infer_instance

/-- `RambergOsgood.strain`: `σ/E + sign σ · (|σ|/K')^(1/n')`. -/
def roStrain (m : Mat α) (s : α) : α :=
  s / m.E + Transc.sign s * Transc.pow (Transc.abs s / m.K) (1.0 / m.n)

/-- `RambergOsgood.delta_strain` (Masing): `2 · strain(Δσ / 2)`. -/
def roDeltaStrain (m : Mat α) (ds : α) : α := 2.0 * roStrain m (ds / 2.0)

/-- `_e_star`: `strain(L / K_p)`. -/
def eStar (m : Mat α) (L : α) : α := roStrain m (L / m.Kp)

/-- `load / stress` with the fall-back `1` where `stress == 0`. -/
def ratio (a b : α) : α := if nz b then a / b else 1.0

/-- `_neuber_strain`: `L/σ · K_p · e*(L)`. -/
def neuberStrain (m : Mat α) (s L : α) : α := ratio L s * m.Kp * eStar m L

/-- `ExtendedNeuber._stress_implicit(σ, L)` = `_load_implicit(L, σ)` (eq. 2.5-45). -/
def stressImplicit (m : Mat α) (s L : α) : α := roStrain m s - neuberStrain m s L

/-- `_delta_e_star`. -/
def deltaEStar (m : Mat α) (dL : α) : α := roDeltaStrain m (dL / m.Kp)

/-- `_neuber_strain_secondary`. -/
def neuberStrainSec (m : Mat α) (ds dL : α) : α := ratio dL ds * m.Kp * deltaEStar m dL

/-- `ExtendedNeuber._stress_secondary_implicit(Δσ, ΔL)` = `_load_secondary_implicit(ΔL, Δσ)` (eq. 2.5-46). -/
def stressSecImplicit (m : Mat α) (ds dL : α) : α := roDeltaStrain m ds - neuberStrainSec m ds dL

/-- `ExtendedNeuber.strain(σ, L)` = `SeegerBeste.strain(σ, L)`: the Ramberg-Osgood strain of the stress (the load
argument is not used by the code). -/
def lawStrain (m : Mat α) (s _L : α) : α := roStrain m s

/-- `strain_secondary_branch(Δσ, ΔL)` of both laws: the Masing-doubled Ramberg-Osgood strain of the stress range. -/
def lawStrainSec (m : Mat α) (ds _dL : α) : α := roDeltaStrain m ds

variable [HasPi α] [HasSinLog1p α]

/-- `SeegerBeste._u_term` (= `_u_term_secondary`): `π/2 · ((L/σ − 1) / (K_p − 1))`. -/
def uTerm (m : Mat α) (s L : α) : α := (HasPi.pi / 2.0) * ((ratio L s - 1.0) / (m.Kp - 1.0))

/-- `SeegerBeste._middle_term` (= `_middle_term_secondary`):
`2/u² · ln(1/cos u) + (σ/L)² − σ/L` with the three `np.divide(…, where=…)` fall-backs.

The logarithm is written in the form of the REPAIRED code (/repo commit de286fc):
`ln(1/cos u) = ln(1 + 2 sin²(u/2) / cos u) = log1p(2 sin²(u/2) / cos u)` where `cos u > 0`, fall-back `log1p(0) = 0`
elsewhere - the same fall-back value as `ln(1)` of the original form `np.log(np.divide(1, cos u, out=ones, where=cos u > 0))`.
Over ℝ both forms are the same function (`Proofs/Lemmas/Notch.lean: middleTerm_eq` restates it with `Real.log (1 / cos u)`);
at `Float` the original form loses all digits for `u → 0` (`cos u → 1`), i.e. for stresses next to the load. -/
def middleTerm (m : Mat α) (s L : α) : α :=
  let factor := ratio s L
  let u := uTerm m s L
  let f1 := if nz u then 2.0 / (u * u) else 1.0
  let h := HasSinLog1p.sin (u / 2.0)
  let f2 := if 0.0 < Transc.cos u then 2.0 * (h * h) / Transc.cos u else 0.0
  f1 * HasSinLog1p.log1p f2 + factor * factor - factor

/-- `SeegerBeste._stress_implicit(σ, L)` = `_load_implicit(L, σ)` (eq. 2.8-42, quotient form). -/
def sbStressImplicit (m : Mat α) (s L : α) : α :=
  roStrain m s / (middleTerm m s L * neuberStrain m s L) - 1.0

/-- `SeegerBeste._stress_secondary_implicit(Δσ, ΔL)` (eq. 2.8-43, quotient form). -/
def sbStressSecImplicit (m : Mat α) (ds dL : α) : α :=
  roDeltaStrain m ds / (middleTerm m ds dL * neuberStrainSec m ds dL) - 1.0

/-- Bisection for a sign change of `f` on `[lo, hi]` (`f lo ≤ 0 ≤ f hi` expected), `fuel` halvings.
The driver takes its reference roots from it at `Float`; `Proofs/C06Solver.lean` proves over ℝ that it encloses the root. -/
def bisect (f : α → α) : Nat → α → α → α
  | 0, lo, hi => (lo + hi) / 2.0
  | fuel + 1, lo, hi =>
    let mid := (lo + hi) / 2.0
    if f mid < 0.0 then bisect f fuel mid hi else bisect f fuel lo mid

end laws

/-! ## C07: the binned law -/
section binned

variable {α : Type} [Mul α] [Div α] [Neg α] [OfNat α 0] [OfNat α 1] [NatCast α]
  [LT α] [LE α] [DecidableLT α] [DecidableLE α]

/-- Upper edge of class `i` (1-based), the code's expression
`index / number_of_bins * maximum_absolute_load` (left to right). -/
def edge (n : Nat) (maxL : α) (i : Nat) : α := ((i : α) / (n : α)) * maxL

/-- `np.abs` -/
def absM (x : α) : α := if x < 0 then -x else x

/-- `np.sign` (for numbers) -/
def signM (x : α) : α := if 0 < x then 1 else if x < 0 then -1 else 0

/-- The look-up table of `m` classes (`m = n`: primary branch, `m = 2n`: secondary branch) for a wrapped law
`law`: rows `(upper edge, law(upper edge))`, classes `1 … m`. -/
def table {β : Type} (n : Nat) (maxL : α) (m : Nat) (law : α → β) : List (α × β) :=
  (List.range m).map fun k => (edge n maxL (k + 1), law (edge n maxL (k + 1)))

/-- Class selection `searchsorted(|x|)` (side = left) followed by "the next higher class": the first row whose
load is `≥ a`; `none` when there is none (the code raises `ValueError`). -/
def lookupAbs {β : Type} : List (α × β) → α → Option β
  | [], _ => none
  | (e, v) :: rest, a => if a ≤ e then some v else lookupAbs rest a

/-- Position form of the same search (`np.searchsorted`, 0-based; `= length` when out of range). -/
def searchsorted : List α → α → Nat
  | [], _ => 0
  | e :: rest, a => if a ≤ e then 0 else searchsorted rest a + 1

/-- `Binned.stress / strain / stress_secondary_branch / strain_secondary_branch` for one value on a single table:
`sign(x) · value of the selected class`. -/
def lookup (tbl : List (α × α)) (x : α) : Option α :=
  (lookupAbs tbl (absM x)).map fun v => signM x * v

/-- The binned law built from `law`: table construction + look-up. -/
def binned (n : Nat) (maxL : α) (m : Nat) (law : α → α) (x : α) : Option α :=
  lookup (table n maxL m law) x

/-- Per-point table (MultiIndex `class_index × node_id`): row of class `i` = (loads of all points, values of all points),
point `j` has its own maximum `maxLs[j]`. -/
def tableMulti (n : Nat) (maxLs : List α) (m : Nat) (law : α → α) : List (List α × List α) :=
  (List.range m).map fun k =>
    (maxLs.map fun M => edge n M (k + 1), maxLs.map fun M => law (edge n M (k + 1)))

/-- `Series.fillna(0)` of the Series look-up on a single table: NaN (the only value with `¬ x ≤ x`) becomes `0`
(so does its sign); the identity on every number. -/
def fillna0 (x : α) : α := if x ≤ x then x else 0

/-- One entry of a Series look-up on a single table (`load.fillna(0)`, then as the scalar look-up). -/
def lookupSeries (tbl : List (α × α)) (x : α) : Option α := lookup tbl (fillna0 x)

/-- Column `j` of a per-point table: the rows `(load, value)` of point `j`, i.e. the table the point reads. -/
def column (tbl : List (List α × List α)) (j : Nat) : List (α × α) :=
  tbl.map fun r => (r.1.getD j 0, r.2.getD j 0)

/-- Per-point look-ups for the points `j, j+1, …` with the loads `xs` (paired by position): every point is looked up
in its own column; one point outside its range makes the whole look-up fail. -/
def lookupFrom (tbl : List (List α × List α)) : Nat → List α → Option (List α)
  | _, [] => some []
  | j, x :: xs =>
    match lookup (column tbl j) x, lookupFrom tbl (j + 1) xs with
    | some v, some vs => some (v :: vs)
    | _, _ => none

/-- Look-up on a per-point table of `p` points, REPAIRED behaviour (/repo commit 3047e0d):
the loads are paired with the points by position (the index labels of the Series are not used); every point
selects the class in its own load column and is checked against its own range; `none` (`ValueError`) when a point
is out of its range or when the Series does not hold exactly one load per point. -/
def lookupMulti (p : Nat) (tbl : List (List α × List α)) (xs : List α) : Option (List α) :=
  if xs.length = p then lookupFrom tbl 0 xs else none

/-- Look-up on a per-point table as coded BEFORE the repair (kept for the refutation theorem and for recognising
the recorded defect): the class is selected with the FIRST point's load column and the first entry of the load
Series; every point gets `sign(x_j) · value_j` of that class; only the first point is checked against its range.
An empty Series is not modelled (the code raises `IndexError`). -/
def lookupMultiFirst (tbl : List (List α × List α)) (xs : List α) : Option (List α) :=
  match xs with
  | [] => none
  | x0 :: _ =>
    (lookupAbs (tbl.map fun r => (r.1.headD 0, r.2)) (absM x0)).map fun vals =>
      List.zipWith (fun x v => signM x * v) xs vals

end binned

end PylifeVerif.Notch
