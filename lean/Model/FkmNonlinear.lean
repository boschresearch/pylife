/-
Model of the FKM-nonlinear damage curves, the P_RAM damage parameter, the P_RAM damage
accumulation / lifetime logic, the safety index and the load safety factors (property C09).

  * `woehler_fkm_nonlinear.py`     WoehlerCurvePRAM.calc_N / calc_P_RAM / fatigue_life_limit,
                                    WoehlerCurvePRAJ.calc_N / calc_P_RAJ / fatigue_life_limit
  * `damage_parameter.py`           P_RAM._compute_values (row function)
  * `fkm_nonlinear/damage_calculator.py`  DamageCalculatorPRAM (N, D, cumsum / searchsorted,
                                    lifetime_n_times_load_sequence, lifetime_n_cycles, P_RAM_max,
                                    is_life_infinite) for one assessment point
  * `fkm_nonlinear/parameter_calculations.py`  compute_beta (the part after the quantile `scipy.stats.norm.ppf`)
  * `fkm_load_distribution.py`      _get_beta and the three gamma_L bodies
  * `fkm_nonlinear/constants.py`    all_constants (the literal table)

Every numeric function is written once, generic in the carrier (see `Model/Num.lean`): the driver
runs it at `Float`, the proofs at `ℝ`.  No Mathlib import.
-/
import Model.Num

namespace PylifeVerif.FkmNl

variable {α : Type} [Add α] [Sub α] [Mul α] [Div α] [Neg α] [OfScientific α]
  [LT α] [LE α] [DecidableLT α] [DecidableLE α] [Transc α]

/-- A number of cycles: finite, or `np.inf`. -/
inductive Life (α : Type) where
  | finite (n : α)
  | inf
  deriving Repr

/-! ### P_RAM component Wöhler curve -/

/-- The four mandatory keys of `woehler_P_RAM`. -/
structure PramCurve (α : Type) where
  d1 : α
  d2 : α
  PZ : α
  PD : α

/-- What `_validate` accepts (`P_RAM_Z > P_RAM_D`, `d_1 < 0`, `d_2 < 0`; NaN handling not modelled). -/
def PramCurve.accepted (c : PramCurve α) : Prop := c.PD < c.PZ ∧ c.d1 < 0.0 ∧ c.d2 < 0.0

/-- The power-law part of `calc_N` (also the `N` column of `DamageCalculatorPRAM.__init__`, which has
no endurance cut-off): slope `d_1` at and above `P_RAM_Z`, slope `d_2` below. -/
def pramN (c : PramCurve α) (P : α) : α :=
  if c.PZ ≤ P then 1.0e3 * Transc.pow (P / c.PZ) (1.0 / c.d1)
  else 1.0e3 * Transc.pow (P / c.PZ) (1.0 / c.d2)

/-- `WoehlerCurvePRAM.calc_N`: infinite at and below `fatigue_strength_limit = P_RAM_D`. -/
def pramCalcN (c : PramCurve α) (P : α) : Life α :=
  if c.PD < P then .finite (pramN c P) else .inf

/-- `WoehlerCurvePRAM.fatigue_life_limit`. -/
def pramLifeLimit (c : PramCurve α) : α := 1.0e3 * Transc.pow (c.PD / c.PZ) (1.0 / c.d2)

/-- `WoehlerCurvePRAM.calc_P_RAM` for a finite `N`. -/
def pramCalcP (c : PramCurve α) (N : α) : α :=
  if N < 1.0e3 then c.PZ * Transc.pow (N * 1.0e-3) c.d1
  else if N < pramLifeLimit c then c.PZ * Transc.pow (N * 1.0e-3) c.d2
  else c.PD

/-- `calc_P_RAM` on a `Life` (`np.inf < x` is false twice, so the endurance value results). -/
def pramCalcPLife (c : PramCurve α) : Life α → α
  | .finite n => pramCalcP c n
  | .inf => c.PD

/-! ### P_RAJ component Wöhler curve -/

/-- `woehler_P_RAJ`: keys `d_RAJ`, `P_RAJ_Z`, `P_RAJ_D_0`, and the mutable `_P_RAJ_D`
(initialised with `P_RAJ_D_0`, changed by `update_P_RAJ_D`). -/
structure PrajCurve (α : Type) where
  d : α
  PZ : α
  PD0 : α
  PD : α

def PrajCurve.accepted (c : PrajCurve α) : Prop := c.PD0 < c.PZ ∧ c.d < 0.0

def prajN (c : PrajCurve α) (P : α) : α := Transc.pow (P / c.PZ) (1.0 / c.d)

/-- `WoehlerCurvePRAJ.calc_N(P_RAJ)` (uses the current `_P_RAJ_D`). -/
def prajCalcN (c : PrajCurve α) (P : α) : Life α :=
  if c.PD < P then .finite (prajN c P) else .inf

/-- `fatigue_life_limit` (from `P_RAJ_D_0`). -/
def prajLifeLimit (c : PrajCurve α) : α := Transc.pow (c.PD0 / c.PZ) (1.0 / c.d)

/-- `fatigue_life_limit_final` (from the current `_P_RAJ_D`). -/
def prajLifeLimitFinal (c : PrajCurve α) : α := Transc.pow (c.PD / c.PZ) (1.0 / c.d)

/-- `WoehlerCurvePRAJ.calc_P_RAJ`. -/
def prajCalcP (c : PrajCurve α) (N : α) : α :=
  if N < prajLifeLimit c then c.PZ * Transc.pow N c.d else c.PD0

def prajCalcPLife (c : PrajCurve α) : Life α → α
  | .finite n => prajCalcP c n
  | .inf => c.PD0

/-! ### the P_RAM damage parameter (row function of `P_RAM._compute_values`) -/

/-- `M_sigma = a_M * 1e-3 * R_m + b_M`, eq. (2.6-84). -/
def mSigma (aM bM Rm : α) : α := aM * 1.0e-3 * Rm + bM

/-- the mean stress factor `k`, eq. (2.6-83): `M (M + 2)` for `S_m ≥ 0`, `M/3 (M/3 + 2)` for `S_m < 0`. -/
def kFactor (M Sm : α) : α :=
  if 0.0 ≤ Sm then M * (M + 2.0) else M / 3.0 * (M / 3.0 + 2.0)

/-- `S_a + k S_m` (the column the code calls "discriminant"). -/
def pramDisc (M Sa Sm : α) : α := Sa + kFactor M Sm * Sm

/-- `P_RAM` of one hysteresis, eq. (2.6-82): the code tests the FACTOR `S_a + k S_m`, not the product. -/
def pRAM (M E Sa Sm ea : α) : α :=
  if 0.0 ≤ pramDisc M Sa Sm then Transc.sqrt (pramDisc M Sa Sm * ea * E) else 0.0

/-! ### `DamageCalculatorPRAM` for one assessment point -/

/-- One hysteresis of the collective: `P_RAM`, `is_closed_hysteresis`, `run_index`. -/
structure Row (α : Type) where
  P : α
  closed : Bool
  run : Nat

/-- column `D`: `1/N` for a closed hysteresis, `0.5/N` for a half one. -/
def rowD (c : PramCurve α) (r : Row α) : α :=
  if r.closed then 1.0 / pramN c r.P else 0.5 / pramN c r.P

/-- `cumsum` (running sums, first entry `acc + x₀`). -/
def cumsumFrom (acc : α) : List α → List α
  | [] => []
  | x :: xs => (acc + x) :: cumsumFrom (acc + x) xs

/-- `np.searchsorted(a, v)` (side = left) on a non-decreasing array: the number of leading entries `< v`,
i.e. the first index with `a[i] ≥ v`, `len(a)` if there is none. -/
def firstGe (v : α) : List α → Nat
  | [] => 0
  | x :: xs => if x < v then firstGe v xs + 1 else 0

/-- the same count as an element of the carrier (`np.where` turns the integer index into a double). -/
def firstGeNum (v : α) : List α → α
  | [] => 0.0
  | x :: xs => if x < v then firstGeNum v xs + 1.0 else 0.0

/-- sum of the damages of one run (`.loc[run_index == r, "D"].sum()`, default 0 when there is none). -/
def sumRun (run : Nat) : List (α × Nat) → α
  | [] => 0.0
  | (d, r) :: rest => if r = run then d + sumRun run rest else sumRun run rest

/-- number of rows of one run, as an element of the carrier. -/
def countRun (run : Nat) : List (α × Nat) → α
  | [] => 0.0
  | (_, r) :: rest => if r = run then countRun run rest + 1.0 else countRun run rest

/-- What the lifetime properties return. -/
structure LifeResult (α : Type) where
  /-- `_n_cycles_until_damage < _n_hystereses`: the damage sum reaches one within the two recorded passes -/
  early : Bool
  /-- `_n_cycles_until_damage` -/
  idx : Nat
  /-- `_x`, eq. (2.6-90) -/
  x : α
  /-- `lifetime_n_times_load_sequence` -/
  nSeq : α
  /-- `lifetime_n_cycles` -/
  nCycles : α

/-- eq. (2.6-90) as coded: `np.where(D_1 == 0, 1 / D_2, (1 - D_1) / D_2)`. -/
def xOf (D1 D2 : α) : α :=
  if D1 ≤ 0.0 ∧ 0.0 ≤ D1 then 1.0 / D2 else (1.0 - D1) / D2

/-- The lifetime logic as a function of the damage column and the run indices (table order). -/
def lifetimeOfDamages (ds : List (α × Nat)) : LifeResult α :=
  let cum := cumsumFrom 0.0 (ds.map (·.1))
  let idx := firstGe 1.0 cum
  let early := decide (idx < ds.length)
  let x := xOf (sumRun 1 ds) (sumRun 2 ds)
  { early := early
    idx := idx
    x := x
    nSeq := if early then 0.0 else x + 1.0
    nCycles := if early then firstGeNum 1.0 cum else (x + 1.0) * countRun 2 ds }

/-- `DamageCalculatorPRAM`: damages from the curve, then the lifetime logic. -/
def damagePRAM (c : PramCurve α) (rows : List (Row α)) : LifeResult α :=
  lifetimeOfDamages (rows.map fun r => (rowD c r, r.run))

/-- `is_life_infinite`: the largest `P_RAM` of the second run is `≤ P_RAM_D`. -/
def isLifeInfinite (c : PramCurve α) (rows : List (Row α)) : Bool :=
  rows.all fun r => r.run != 2 || decide (r.P ≤ c.PD)

/-! ### several assessment points at once (the `groupby("assessment_point_index")` glue)

The recorder delivers the collective hysteresis-major: for every hysteresis one row per assessment point
(`MultiIndex.from_product([range(n_hystereses), range(n_points)])`).  A table is therefore the flat row list in
that order; `chunk` cuts it into the hysteresis blocks, `pointRows k` takes the `k`-th row of every block (what
`groupby("assessment_point_index")` hands to `cumsum` / `sum` / `searchsorted` for point `k`), and a curve given
per point (`P_RAM_Z`, `P_RAM_D` Series; `_initialize_P_RAM_Z_index` tiles it block by block) is used for its
own point. -/

/-- cut a flat list into consecutive blocks of length `n` (`fuel` = an upper bound of the number of blocks) -/
def chunk {β : Type} (n : Nat) : Nat → List β → List (List β)
  | 0, _ => []
  | _, [] => []
  | fuel+1, l => l.take n :: chunk n fuel (l.drop n)

/-- the rows of assessment point `k`: the `k`-th row of every hysteresis block -/
def pointRows {β : Type} (k : Nat) (blocks : List (List β)) : List β :=
  blocks.filterMap (fun b => b[k]?)

/-- `DamageCalculatorPRAM` on a table with `curves.length` assessment points: lifetime result and
`is_life_infinite` per point, in the order of the points. -/
def damagePRAMBatch (curves : List (PramCurve α)) (flat : List (Row α)) : List (LifeResult α × Bool) :=
  let blocks := chunk curves.length flat.length flat
  curves.zipIdx.map fun ck =>
    (damagePRAM ck.1 (pointRows ck.2 blocks), isLifeInfinite ck.1 (pointRows ck.2 blocks))

/-! ### safety index and load safety factors -/

/-- `compute_beta` after the quantile `x = scipy.stats.norm.ppf(P_A, 0, sigma)`: `-x / sigma` with `sigma = 1`. -/
def betaOfRoot (x : α) : α := -x / 1.0

/-- `np.isclose(a, b)` with the default tolerances `rtol = 1e-5`, `atol = 1e-8`. -/
def isclose (a b : α) : Prop := Transc.abs (a - b) ≤ 1.0e-8 + 1.0e-5 * Transc.abs b

instance (a b : α) : Decidable (isclose a b) := by unfold isclose; infer_instance

/-- `P_A_beta_list` of `FKMLoadSequence._get_beta`. -/
def betaTable : List (α × α) :=
  [(1.0e-7, 5.20), (1.0e-6, 4.75), (1.0e-5, 4.27), (7.2e-5, 3.8), (1.0e-3, 3.09), (2.3e-1, 0.739), (0.5, 0.0)]

/-- `_get_beta`: the first tabulated `P_A` the argument is close to; `none` = `ValueError`. -/
def getBetaIn (PA : α) : List (α × α) → Option α
  | [] => none
  | (p, b) :: rest => if isclose PA p then some b else getBetaIn PA rest

def getBeta (PA : α) : Option α := getBetaIn PA betaTable

/-- eq. (2.3-4) / (2.3-6): `(0.7 β − 2) s` for `P_L = 2.5 %`, else `0.7 β s`. -/
def alphaL (beta PL s : α) : α :=
  if isclose PL 2.5 then (0.7 * beta - 2.0) * s else 0.7 * beta * s

/-- `max(abs(load))` of `maximum_absolute_load` for a plain Series (Python's `max`: keeps the
current maximum unless the next value is greater). -/
def maxAbsFrom (m : α) : List α → α
  | [] => m
  | x :: xs => maxAbsFrom (if m < Transc.abs x then Transc.abs x else m) xs

def maxAbs : List α → α
  | [] => 0.0
  | x :: xs => maxAbsFrom (Transc.abs x) xs

/-- `maximum_absolute_load` of a mesh (`abs().groupby("node_id").max()`): one value per node; `cols[k]` is the
load history of node `k`. -/
def maxAbsPerNode (cols : List (List α)) : List α := cols.map maxAbs

/-- … and without `max_load_independently_for_nodes`: `L_max.max()` of the per-node values. -/
def maxAbsMesh (cols : List (List α)) : α := maxAbs (maxAbsPerNode cols)

/-- `fkm_safety_normal_from_stddev.gamma_L`, eq. (2.3-5), given `L_max`. -/
def gammaLNormal (PA PL sL Lmax : α) : Option α :=
  (getBeta PA).map fun beta => (Lmax + alphaL beta PL sL) / Lmax

/-- `fkm_safety_lognormal_from_stddev.gamma_L`, eq. (2.3-7): Python `max(1, 10 ** alpha)`. -/
def gammaLLognormal (PA PL LSDs : α) : Option α :=
  (getBeta PA).map fun beta =>
    let g := Transc.pow 10.0 (alphaL beta PL LSDs)
    if 1.0 < g then g else 1.0

/-- `fkm_safety_blanket.gamma_L`, eq. (2.3-8); `none` = `ValueError`. -/
def gammaLBlanket (PL : α) : Option α :=
  if isclose PL 2.5 then some 1.1 else if isclose PL 50.0 then some 1.0 else none

/-! ### the constants table -/

inductive Group where
  | Steel | SteelCast | AlWrought
  deriving DecidableEq, Repr

/-- The entries of `all_constants` (order = `Consts.toList`).  `epsilon_grenz` is `np.inf` for two
groups and is carried as an `Option` (`none` = `np.inf`); `f_25percent_material_woehler_FKM_roughness_*`
exists for steel only (`none` = NaN in the DataFrame). -/
structure Consts (α : Type) where
  E : α
  n_prime : α
  a_sigma : α
  a_epsilon : α
  b_sigma : α
  b_epsilon : α
  epsilon_grenz : Option α
  f25_damage : α
  a_PZ_RAM : α
  b_PZ_RAM : α
  a_PD_RAM : α
  b_PD_RAM : α
  d_1 : α
  d_2 : α
  f25_RAM : α
  f25_rough_RAM : Option α
  k_st : α
  a_RP : α
  b_RP : α
  R_m_N_min : α
  a_M : α
  b_M : α
  R_m_bm : α
  d_RAJ : α
  f25_RAJ : α
  f25_rough_RAJ : Option α
  a_PZ_RAJ : α
  b_PZ_RAJ : α
  a_PD_RAJ : α
  b_PD_RAJ : α

/-- `all_constants[group]` as written in `constants.py`. -/
def consts : Group → Consts α
  | .Steel =>
    { E := 206.0e3, n_prime := 0.187, a_sigma := 3.1148, a_epsilon := 1033.0, b_sigma := 0.897,
      b_epsilon := -1.235, epsilon_grenz := some 0.338, f25_damage := 0.86,
      a_PZ_RAM := 20.0, b_PZ_RAM := 0.587, a_PD_RAM := 0.82, b_PD_RAM := 0.92,
      d_1 := -0.302, d_2 := -0.197, f25_RAM := 0.71, f25_rough_RAM := some 0.73,
      k_st := 30.0, a_RP := 0.27, b_RP := 0.43, R_m_N_min := 400.0,
      a_M := 0.35, b_M := -0.1, R_m_bm := 680.0,
      d_RAJ := -0.63, f25_RAJ := 0.39, f25_rough_RAJ := some 0.25,
      a_PZ_RAJ := 10.0, b_PZ_RAJ := 0.826, a_PD_RAJ := 3.33e-5, b_PD_RAJ := 1.55 }
  | .SteelCast =>
    { E := 206.0e3, n_prime := 0.176, a_sigma := 1.732, a_epsilon := 0.847, b_sigma := 0.982,
      b_epsilon := -0.181, epsilon_grenz := none, f25_damage := 0.68,
      a_PZ_RAM := 25.56, b_PZ_RAM := 0.519, a_PD_RAM := 0.46, b_PD_RAM := 0.96,
      d_1 := -0.289, d_2 := -0.189, f25_RAM := 0.51, f25_rough_RAM := none,
      k_st := 15.0, a_RP := 0.25, b_RP := 0.42, R_m_N_min := 400.0,
      a_M := 0.35, b_M := 0.05, R_m_bm := 680.0,
      d_RAJ := -0.66, f25_RAJ := 0.40, f25_rough_RAJ := none,
      a_PZ_RAJ := 10.03, b_PZ_RAJ := 0.695, a_PD_RAJ := 5.15e-6, b_PD_RAJ := 1.63 }
  | .AlWrought =>
    { E := 70.0e3, n_prime := 0.128, a_sigma := 9.12, a_epsilon := 895.9, b_sigma := 0.742,
      b_epsilon := -1.183, epsilon_grenz := none, f25_damage := 0.88,
      a_PZ_RAM := 16.71, b_PZ_RAM := 0.537, a_PD_RAM := 0.30, b_PD_RAM := 1.00,
      d_1 := -0.238, d_2 := -0.167, f25_RAM := 0.61, f25_rough_RAM := none,
      k_st := 20.0, a_RP := 0.27, b_RP := 0.43, R_m_N_min := 133.0,
      a_M := 1.0, b_M := -0.04, R_m_bm := 270.0,
      d_RAJ := -0.61, f25_RAJ := 0.36, f25_rough_RAJ := none,
      a_PZ_RAJ := 101.7, b_PZ_RAJ := 0.26, a_PD_RAJ := 5.18e-7, b_PD_RAJ := 2.04 }

/-- the table row in the key order of the structure (`none` for `np.inf` / missing). -/
def Consts.toList (k : Consts α) : List (Option α) :=
  [some k.E, some k.n_prime, some k.a_sigma, some k.a_epsilon, some k.b_sigma, some k.b_epsilon,
   k.epsilon_grenz, some k.f25_damage, some k.a_PZ_RAM, some k.b_PZ_RAM, some k.a_PD_RAM,
   some k.b_PD_RAM, some k.d_1, some k.d_2, some k.f25_RAM, k.f25_rough_RAM, some k.k_st,
   some k.a_RP, some k.b_RP, some k.R_m_N_min, some k.a_M, some k.b_M, some k.R_m_bm,
   some k.d_RAJ, some k.f25_RAJ, k.f25_rough_RAJ, some k.a_PZ_RAJ, some k.b_PZ_RAJ,
   some k.a_PD_RAJ, some k.b_PD_RAJ]

/-- `M_sigma` of a material group and tensile strength. -/
def mSigmaOf (g : Group) (Rm : α) : α := mSigma (consts g).a_M (consts g).b_M Rm

/-- `P_RAM(collective, assessment_parameters)` for one row, with the constants of the group. -/
def pRAMOf (g : Group) (Rm E Sa Sm ea : α) : α := pRAM (mSigmaOf g Rm) E Sa Sm ea

end PylifeVerif.FkmNl
