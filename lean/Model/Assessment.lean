/-
Model of the FKM-nonlinear assessment with the damage parameter P_RAM, end to end (property C10):

  * `fkm_nonlinear/parameter_calculations.py`   calculate_nonlocal_parameters (n_st, n_bm, n_P),
        calculate_roughness_parameter (K_R,P), calculate_failure_probability_factor_P_RAM (gamma_M),
        calculate_material_woehler_parameters_P_RAM (P_RAM_Z_WS, P_RAM_D_WS with the f_2.5% factor),
        calculate_component_woehler_parameters_P_RAM (f_RAM, P_RAM_Z, P_RAM_D)
  * `materiallaws/notch_approximation_law.py`    Binned: look-up of the class whose upper edge is the first
        one `>= |load|`, value of that class with the sign of the load.  With per-point tables the code
        before repo commit 3047e0d chose the class from the FIRST point's load; since 3047e0d every point
        is looked up with its own load in its own table column.  The model keeps the first-point structure
        (`lawBatch`); for the proportional loads of an assessment `classQ_first_eq_own`
        (Proofs/Lemmas/Assessment.lean) proves that class equal to the own-column class of the repaired code
  * `stress/rainflow/fkm_nonlinear.py`           the HCM detector = `Model/HCM.lean` (imported, law = the look-up)
  * `stress/rainflow/recorders.py`               S_a, S_m, epsilon_a of a recorded hysteresis
  * `strength/damage_parameter.py`               P_RAM row function = `Model/FkmNonlinear.lean` (imported)
  * `fkm_nonlinear/damage_calculator.py`         DamageCalculatorPRAM = `Model/FkmNonlinear.lean` (imported),
        get_lifetime_functions / N_max_bearable (curve shifted by f_2.5% / gamma_M(P_A))
  * `fkm_nonlinear/assessment_nonlinear_standard.py`  the composition

Loads are integers (first point: `c₀·l`, point k: `c_k·l` – the code requires the points' load
sequences to be multiples of each other); look-up table VALUES are integers too (multiples of a
unit that is mapped into the numeric carrier by `conv`), because `Model/HCM.lean` works on
integers; sums of table values are therefore exact in the model and rounded in the code.
Class selection compares exact rationals.  No Mathlib import.
-/
import Model.HCM
import Model.FkmNonlinear

namespace PylifeVerif.Assess
open PylifeVerif.HCM PylifeVerif.FkmNl

/-! ### the binned look-up -/

/-- first `i ≥ start` (at most `fuel` candidates) with `p i`; `start + fuel` if there is none -/
def firstFrom (p : Nat → Bool) : Nat → Nat → Nat
  | i, 0 => i
  | i, fuel+1 => if p i then i else firstFrom p (i+1) fuel

/-- Number (1-based) of the first of `cnt` classes whose upper edge `i/n · maxL` is `≥ |num/den|`
(`searchsorted(|x|) + 1` on the `load` column of the look-up table); `cnt + 1` if `|x|` exceeds the last
edge (the code raises `ValueError`).  `den > 0`. -/
def classQ (n : Nat) (maxL num den : Int) (cnt : Nat) : Nat :=
  firstFrom (fun i => decide ((n : Int) * num.natAbs ≤ (i : Int) * maxL * den)) 1 cnt

/-- The four look-up columns of ONE assessment point: `stress`, `strain` (`n` classes) and `delta_stress`,
`delta_strain` (`2n` classes), as integer multiples of the value unit. -/
structure Tables where
  sig : List Int
  eps : List Int
  dsig : List Int
  deps : List Int
deriving Repr

/-- table value of class `cls` (1-based) with the sign of `x`.  Beyond the last edge (`cls = cnt + 1`) the
code raises `ValueError`; the model then returns the last class's value.  In an assessment this is never
reached for the point's own loads (the grid is sized by the maximum absolute load of the sequence). -/
def tval (tab : List Int) (cls : Nat) (x : Int) : Int := x.sign * tab.getD (min cls tab.length - 1) 0

/-- `Binned.stress / strain / stress_secondary_branch / strain_secondary_branch` for the point whose
own load (range) is `x`, when the tables are per point and the FIRST point's load is `c0/ck · x`
(points with proportional loads `c0·l`, `ck·l`): the class is found with the first point's load in
the first point's class grid (maximum absolute load `M0`), the value is taken from the point's own table.
This is the structure of the code before repo commit 3047e0d; the repaired code looks every point up with its own
load in its own column, which is the same class by `classQ_first_eq_own` (Proofs/Lemmas/Assessment.lean). -/
def lawBatch (n : Nat) (M0 c0 ck : Int) (t : Tables) : Law :=
  { sigma := fun x => tval t.sig (classQ n M0 (c0 * x) ck n) x
    eps := fun _ x => tval t.eps (classQ n M0 (c0 * x) ck n) x
    dsigma := fun d => tval t.dsig (classQ n M0 (c0 * d) ck (2 * n)) d
    deps := fun _ d => tval t.deps (classQ n M0 (c0 * d) ck (2 * n)) d }

/-- the same look-up for a point assessed alone: class from its own load in its own grid (maximum `M`) -/
def lawOwn (n : Nat) (M : Int) (t : Tables) : Law := lawBatch n M 1 1 t

/-- `max(abs(load))` of an integer load sequence -/
def maxAbsI (l : List Int) : Int := l.foldl (fun m x => max m (x.natAbs : Int)) 0

/-! ### parameter formulas (generic carrier) -/

variable {α : Type} [Add α] [Sub α] [Mul α] [Div α] [Neg α] [OfScientific α]
  [LT α] [LE α] [DecidableLT α] [DecidableLE α] [Transc α]

/-- `n_st`, eq. (2.5-28) -/
def nSt (k : Consts α) (Aref Asigma : α) : α := Transc.pow (Aref / Asigma) (1.0 / k.k_st)

/-- `n_bm`, eqs. (2.5-30 … 32): `max(n_bm_, 1)` -/
def nBm (k : Consts α) (nst Rm G : α) : α :=
  let k_ := 5.0 * nst + Rm / k.R_m_bm * Transc.sqrt ((7.5 + Transc.sqrt G) / (1.0 + 0.2 * Transc.sqrt G))
  let x := (5.0 + Transc.sqrt G) / k_
  if x < 1.0 then 1.0 else x

/-- `n_P = n_bm · n_st`, eq. (2.5-27) -/
def nP (k : Consts α) (Aref Asigma Rm G : α) : α :=
  nBm k (nSt k Aref Asigma) Rm G * nSt k Aref Asigma

/-- `K_R,P` from the roughness `R_z`, eq. (2.5-37) -/
def kRP (k : Consts α) (Rz Rm : α) : α :=
  if 1.0 < Rz then
    Transc.pow (1.0 - k.a_RP * Transc.log10 Rz * Transc.log10 (2.0 * Rm / k.R_m_N_min)) k.b_RP
  else 1.0

/-- `gamma_M_RAM`, eq. (2.5-38): `max(10^((0.8 β − 2)·0.08), 1.1)`, and `1` when `P_A` is (close to) 0.5 -/
def gammaM (beta : α) (pa05 : Bool) : α :=
  if pa05 then 1.0 else
    let g := Transc.pow 10.0 ((0.8 * beta - 2.0) * 0.08)
    if g < 1.1 then 1.1 else g

/-- `f_RAM`, eq. (2.5-24) -/
def fRAM (gM np krp : α) : α := gM / (np * krp)

/-- material curve points, eqs. (2.5-22/23): scaled by `f_2.5%` unless `P_A` is 0.5 -/
def pzWS (k : Consts α) (Rm : α) (pa05 : Bool) : α :=
  if pa05 then k.a_PZ_RAM * Transc.pow Rm k.b_PZ_RAM else k.f25_RAM * (k.a_PZ_RAM * Transc.pow Rm k.b_PZ_RAM)

def pdWS (k : Consts α) (Rm : α) (pa05 : Bool) : α :=
  if pa05 then k.a_PD_RAM * Transc.pow Rm k.b_PD_RAM else k.f25_RAM * (k.a_PD_RAM * Transc.pow Rm k.b_PD_RAM)

/-- the component curve from the material curve and `f_RAM`, eq. (2.5-25), rhs of (2.6-88) -/
def curveOf (k : Consts α) (f zws dws : α) : PramCurve α :=
  { d1 := k.d_1, d2 := k.d_2, PZ := 1.0 / f * zws, PD := 1.0 / f * dws }

/-- What the assessment is given for one point besides loads and tables. `krp` is the roughness factor
(given directly, or `kRP` of `R_z`). -/
structure Params (α : Type) where
  g : Group
  Rm : α
  krp : α
  beta : α
  pa05 : Bool
  Aref : α
  Asigma : α
  G : α

/-- `_calculate_local_parameters` + `_compute_component_woehler_curves` (P_RAM part) -/
def componentCurve (p : Params α) : PramCurve α :=
  let k : Consts α := consts p.g
  curveOf k (fRAM (gammaM p.beta p.pa05) (nP k p.Aref p.Asigma p.Rm p.G) p.krp) (pzWS k p.Rm p.pa05) (pdWS k p.Rm p.pa05)

/-! ### recorder columns and damage parameter of one point -/

/-- the columns of point `k` of one recorded hysteresis that the P_RAM assessment reads -/
def projK (k : Nat) (h : Hyst) : List Int × Bool × Bool × Nat :=
  ([h.loadMin.getD k 0, h.loadMax.getD k 0, h.sMin.getD k 0, h.sMax.getD k 0, h.eMin.getD k 0, h.eMax.getD k 0],
   h.closed, h.zeroMean, h.run)

/-- `S_a`, `S_m` (zero for a Memory-3 hysteresis), `epsilon_a` of the recorder and `P_RAM` of `damage_parameter.P_RAM` -/
def rowOfProj (conv : Int → α) (M E : α) (q : List Int × Bool × Bool × Nat) : Row α :=
  let sMin := conv (q.1.getD 2 0)
  let sMax := conv (q.1.getD 3 0)
  let eMin := conv (q.1.getD 4 0)
  let eMax := conv (q.1.getD 5 0)
  let Sa := 0.5 * (sMax - sMin)
  let Sm := if q.2.2.1 then 0.0 else 0.5 * (sMin + sMax)
  let ea := 0.5 * (eMax - eMin)
  { P := pRAM M E Sa Sm ea, closed := q.2.1, run := q.2.2.2 }

def rowsOf (conv : Int → α) (M E : α) (k : Nat) (recs : List Hyst) : List (Row α) :=
  (recs.map (projK k)).map (rowOfProj conv M E)

/-- result of the P_RAM assessment of one point -/
structure Result (α : Type) where
  infinite : Bool
  life : LifeResult α

/-- `_compute_damage_and_lifetimes_RAM` for point `k` of the recorded collective -/
def assessRecs (conv : Int → α) (p : Params α) (k : Nat) (recs : List Hyst) : Result α :=
  let c := componentCurve p
  let rows := rowsOf conv (mSigmaOf p.g p.Rm) (consts p.g : Consts α).E k recs
  { infinite := isLifeInfinite c rows, life := damagePRAM c rows }

/-- `N_max_bearable(P_A)` of `get_lifetime_functions` (no clipping): the curve's `P_RAM_Z` is replaced
by `P_RAM_Z · 10^(log10 f_2.5% − (0.8 β − 2)·0.08)` and the damages are recomputed. -/
def reducedCurve (c : PramCurve α) (f25 beta : α) : PramCurve α :=
  { c with PZ := c.PZ * Transc.pow 10.0 (Transc.log10 f25 - (0.8 * beta - 2.0) * 0.08) }

/-- lifetime with the early-failure test of the ORIGINAL curve (`_n_cycles_until_damage` is computed once in
`__init__` and not updated by `N_max_bearable`) and the damages `ds` of the reduced curve -/
def lifeReduced (base : LifeResult α) (ds : List (α × Nat)) : α :=
  if base.early then base.nCycles else (xOf (sumRun 1 ds) (sumRun 2 ds) + 1.0) * countRun 2 ds

def nMaxBearable (conv : Int → α) (p : Params α) (k : Nat) (recs : List Hyst) (beta : α) : α :=
  let c0 := componentCurve p
  let rows := rowsOf conv (mSigmaOf p.g p.Rm) (consts p.g : Consts α).E k recs
  let c := reducedCurve c0 (consts p.g : Consts α).f25_RAM beta
  lifeReduced (damagePRAM c0 rows) (rows.map fun r => (rowD c r, r.run))

/-! ### the composition -/

/-- load vectors of points with proportional load sequences `c·l` -/
def batchLoads (L : List Int) (cs : List Int) : List Vec := L.map fun l => cs.map (· * l)

/-- `fkm_load_sequence.maximum_absolute_load(max_load_independently_for_nodes=True)` for the point at POSITION `k` of the
rows of a multi-point load sequence: the maximum absolute value of column `k`.  (The maxima are matched to the points by
position - the look-up tables are built from them in this order and `Binned` / the HCM detector use them by position; the
code up to the repair /repo commit 64dfe3b returned them sorted by node label instead: finding
`batch-node-order`.) -/
def colMaxAbs (rows : List Vec) (k : Nat) : Int := maxAbsI (rows.map (·.getD k 0))

/-- The assessment of point `k` in a call for all points `cs` (per-point load maxima requested):
per-point look-up tables, class selection and every HCM decision on the first point.  (Class selection on the first point
is the structure of the code before repo commit 3047e0d; the repaired code selects the same class, see `lawBatch`.) -/
def assessBatch (conv : Int → α) (n : Nat) (p : Params α) (t : Tables) (L cs : List Int) (k : Nat) : Result α :=
  let law := lawBatch n (maxAbsI (L.map (cs.headD 1 * ·))) (cs.headD 1) (cs.getD k 1) t
  assessRecs conv p k (twoPass law (batchLoads L cs)).recs

/-- The assessment of one point alone (load sequence `c·l`). -/
def assessSingle (conv : Int → α) (n : Nat) (p : Params α) (t : Tables) (L : List Int) (c : Int) : Result α :=
  let Lc := L.map (c * ·)
  assessRecs conv p 0 (twoPass (lawOwn n (maxAbsI Lc) t) (Lc.map fun l => [l])).recs

/-- `N_max_bearable` for a point assessed alone -/
def nMaxSingle (conv : Int → α) (n : Nat) (p : Params α) (t : Tables) (L : List Int) (c : Int) (beta : α) : α :=
  let Lc := L.map (c * ·)
  nMaxBearable conv p 0 (twoPass (lawOwn n (maxAbsI Lc) t) (Lc.map fun l => [l])).recs beta

end PylifeVerif.Assess
