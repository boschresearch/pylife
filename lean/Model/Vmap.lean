/-
Model of `pylife.vmap.VMAPExport` / `VMAPImport` (property C20).  No Mathlib.

HDF5 / h5py is "a store that returns what was written": a file is the record `File` below, a group that
was created is there until it is deleted, a dataset holds exactly the rows written.  Values (`V`) are
opaque cells (binary64 in the real file, written and read back bit for bit); the code applies two operations
to a value: the comparison `z[0] == z` that decides the dimension of a mesh, and the "is it missing"
test inside `groupby('node_id').first()` (first NON-NULL cell per column) - hence the class `Cell`.

The model follows the code step by step, including the order of the checks, the groups that are created
before a check fails and the roll-back (`del group[name]`) in the `except` branches - with one exception, in
`add_variable`: the code selects the columns and runs `_element_nodal_positions` BEFORE it creates the state / geometry
groups and before it looks whether the variable exists; the model (`addVariable`, `addVariableCore`) creates the groups,
looks for the variable, and only then selects and checks.  So after a refused call the model can hold an empty
(state, geometry) group that the file does not have, and a call that is wrong on two counts can raise another class
than the model's `Err`; neither is compared (see `buildVariable`).  It models the code WITH
the repairs committed in /repo: mixed element types are written (5bedc75); element nodal values are written
grouped by element (c3a1079); the importer reads set names written by the exporter (810bb8c) and two-column
coordinates (6fd00f9); the dimension of a geometry is decided from its own frame, no `_dimension` carried from call
to call (ba72c38); identifiers that do not fit the 32 bit integers of the format are refused (0e66e4b);
and with the follow-up repairs, committed as well: 1c1257e (sets accept any iterable of ids again; `add_variable` validates its
arguments before it creates anything) and 57828f0: element nodal values are written in the order of the connectivity stored by `add_geometry`,
whatever the row order of the variable's frame is (a frame whose rows are not the (element, node) pairs of whole
elements of the geometry is refused).
-/
namespace PylifeVerif.Vmap

inductive Err where
  | key | exportErr | value | apiUse | typeErr | overflow
  deriving DecidableEq, Repr

/-- What the code does with a cell: IEEE comparison and the missing-value test of pandas (`NaN`). -/
class Cell (V : Type) extends BEq V where
  isNull : V → Bool

/-- One row of a mesh frame: the `(element_id, node_id)` index entry and the cells of all columns. -/
structure Row (V : Type) where
  eid : Int
  nid : Int
  vals : List V

/-- A pandas mesh frame: column labels, the labels of the columns whose dtype HDF5 cannot store
(`object`), and the rows in frame order. -/
structure Frame (V : Type) where
  cols : List String
  objCols : List String
  rows : List (Row V)

def Row.key {V} (r : Row V) : Int × Int := (r.eid, r.nid)

/-- The identifiers of the VMAP format are 32 bit integers. -/
def fits32 (i : Int) : Bool := decide (-2147483648 ≤ i) && decide (i ≤ 2147483647)

/-- Positions of the requested column labels (`mesh[column_names]`); `none` = a label is missing (KeyError). -/
def colIdx (cols : List String) (names : List String) : Option (List Nat) :=
  if names.all (fun n => cols.contains n) then some (names.map (fun n => cols.idxOf n)) else none

/-- The selected cells of a row. -/
def selRow {V} (idx : List Nat) (r : Row V) : List V := idx.filterMap (fun i => r.vals[i]?)

/-- Insertion into a strictly ascending list (no duplicates). -/
def insertU (a : Int) : List Int → List Int
  | [] => [a]
  | b :: l => if a < b then a :: b :: l else if a = b then b :: l else b :: insertU a l

/-- Sorted distinct keys: the group keys of `DataFrame.groupby`. -/
def sortU (l : List Int) : List Int := l.foldr insertU []

/-- The rows of node `n`, in frame order (one `groupby('node_id')` group). -/
def nodeRows {V} (rows : List (Row V)) (n : Int) : List (Row V) := rows.filter (fun r => r.nid == n)

/-- `GroupBy.first()` on one column of one group: the first cell that is not missing; when all are
missing the result is missing (the group's first cell stands for it). -/
def firstValid {V} [Cell V] (cells : List V) : Option V :=
  match cells.find? (fun v => !Cell.isNull v) with
  | some v => some v
  | none => cells.head?

/-- Column `i` of `groupby('node_id').first()` at node `n`. -/
def nodeCell {V} [Cell V] (rows : List (Row V)) (n : Int) (i : Nat) : Option V :=
  firstValid ((nodeRows rows n).filterMap (fun r => r.vals[i]?))

/-- One row of `groupby('node_id').first()[names]`. -/
def nodeValue {V} [Cell V] (rows : List (Row V)) (idx : List Nat) (n : Int) : List V :=
  idx.filterMap (nodeCell rows n)

/-- The rows of element `e`, in frame order (one `groupby('element_id')` group). -/
def elemRows {V} (rows : List (Row V)) (e : Int) : List (Row V) := rows.filter (fun r => r.eid == e)

/-- The frame sorted stably by element id: elements ascending, frame order inside an element.  A specification notion
(the row order of the frame read back, `Proofs/C20.lean`): no function of the model calls it, and the code has no such line. -/
def byElement {V} (rows : List (Row V)) : List (Row V) :=
  (sortU (rows.map (·.eid))).flatMap (elemRows rows)

structure GSet where
  kind : Nat          -- MYSETTYPE: 0 node set, 1 element set
  name : String
  ids : List Int

structure Geometry (V : Type) where
  pointIds : List Int
  ncoord : Nat                          -- number of coordinate columns (2 or 3)
  coords : List (List V)                -- aligned with pointIds
  elements : List (Int × Nat × List Int)  -- myIdentifier, myElementType, myConnectivity
  sets : List GSet                      -- in creation order (group names 000000, 000001, …)

structure Variable (V : Type) where
  loc : Nat                             -- MYLOCATION: 2 node, 6 element nodal
  ncols : Nat                           -- MYDIMENSION
  ids : List Int                        -- MYGEOMETRYIDS
  values : List (List V)                -- MYVALUES

/-- The content of a VMAP file that the property speaks about.  `groups` are the (state, geometry) groups
under /VMAP/VARIABLES that exist, `vars` the variable groups keyed by (state, geometry, variable). -/
structure File (V : Type) where
  geoms : List (String × Geometry V)
  groups : List (String × String)
  vars : List ((String × String × String) × Variable V)

def File.empty {V} : File V := ⟨[], [], []⟩

def emptyGeom {V} : Geometry V := ⟨[], 3, [], [], []⟩

def eraseKey {α β} [BEq α] (k : α) (l : List (α × β)) : List (α × β) := l.filter (fun p => !(p.1 == k))

def setKey {α β} [BEq α] (k : α) (v : β) (l : List (α × β)) : List (α × β) :=
  l.map (fun p => if p.1 == k then (k, v) else p)

/-- `VMAPExport._element_types`: (dimension, number of nodes) ↦ myElementType. -/
def elemType : Nat → Nat → Option Nat
  | 2, 3 => some 0 | 2, 6 => some 1 | 2, 4 => some 2 | 2, 8 => some 3
  | 3, 4 => some 4 | 3, 10 => some 5 | 3, 6 => some 6 | 3, 15 => some 7 | 3, 8 => some 8 | 3, 20 => some 9
  | _, _ => none

/-- The coordinate columns the exporter writes for a frame. -/
def coordNames {V} (fr : Frame V) : List String :=
  if fr.cols.contains "z" then ["x", "y", "z"] else ["x", "y"]

/-- The node ids of a frame, ascending and distinct (the index of `groupby('node_id').first()`). -/
def nodeIds {V} (fr : Frame V) : List Int := sortU (fr.rows.map (·.nid))

/-- The element ids of a frame, ascending and distinct. -/
def elemIds {V} (fr : Frame V) : List Int := sortU (fr.rows.map (·.eid))

/-- The dimension of a mesh frame, decided from the frame alone: 3 when there is a `z` column whose values
(one per node) are not all equal (`(z[0] == z).all()`, IEEE comparison), else 2. -/
def ownDim {V} [Cell V] (fr : Frame V) : Nat :=
  if fr.cols.contains "z" then
    let iz := fr.cols.idxOf "z"
    let zs := (nodeIds fr).filterMap (fun n => nodeCell fr.rows n iz)
    match zs with
    | [] => 2
    | z0 :: _ => if zs.all (fun z => z0 == z) then 2 else 3
  else 2

/-- `_create_points_datasets`: the point ids, the number of coordinate columns and the coordinates, or an
error: a node id outside int32, `z[0]` of an empty `z` column (IndexError), a missing coordinate column
(KeyError), a coordinate column HDF5 cannot store (TypeError). -/
def buildPoints {V} [Cell V] (fr : Frame V) : Except Err (List Int × Nat × List (List V)) :=
  let ids := nodeIds fr
  if !(ids.all fits32) then .error .overflow else
  if fr.cols.contains "z" && ids.isEmpty then .error .exportErr else
  match colIdx fr.cols (coordNames fr) with
  | none => .error .key
  | some idx =>
    if (coordNames fr).any (fun c => fr.objCols.contains c) then .error .typeErr
    else .ok (ids, (coordNames fr).length, ids.map (nodeValue fr.rows idx))

/-- Connectivity per element id ascending, nodes in frame order. -/
def connectivity {V} (rows : List (Row V)) : List (Int × List Int) :=
  (sortU (rows.map (·.eid))).map (fun e => (e, (elemRows rows e).map (·.nid)))

/-- `_create_elements_dataset`: an element id outside int32 is refused; an element whose
(dimension, node count) is not in the table is a KeyError. -/
def buildElements {V} (dim : Nat) (fr : Frame V) : Except Err (List (Int × Nat × List Int)) :=
  let cs := connectivity fr.rows
  if !((elemIds fr).all fits32) then .error .overflow else
  if cs.all (fun c => (elemType dim c.2.length).isSome) then
    .ok (cs.map (fun c => (c.1, (elemType dim c.2.length).getD 0, c.2)))
  else .error .key

/-- `add_geometry`.  Result: file after the call, error raised (if any). -/
def addGeometry {V} [Cell V] (f : File V) (name : String) (fr : Frame V) : File V × Option Err :=
  if (f.geoms.lookup name).isSome then (f, some .key) else
  -- `_create_geometry_groups`: the (still empty) geometry group exists from here on
  let f1 : File V := { f with geoms := f.geoms ++ [(name, emptyGeom)] }
  -- the `except` branch: `del geometry_group[geometry_name]`
  let rollback : File V := { f1 with geoms := eraseKey name f1.geoms }
  match buildPoints fr with
  | .error _ => (rollback, some .exportErr)
  | .ok (ids, nc, coords) =>
    match buildElements (ownDim fr) fr with
    | .error _ => (rollback, some .exportErr)
    | .ok els => ({ f1 with geoms := setKey name ⟨ids, nc, coords, els, []⟩ f1.geoms }, none)

/-- `vmap_structures.column_names`. -/
def defaultCols : String → Option (List String × Nat)
  | "DISPLACEMENT" => some (["dx", "dy", "dz"], 2)
  | "STRESS_CAUCHY" => some (["S11", "S22", "S33", "S12", "S13", "S23"], 6)
  | "E" => some (["E11", "E22", "E33", "E12", "E13", "E23"], 6)
  | _ => none

/-- The optional `column_names` argument, defaulted from the table. -/
def resolveCols (var : String) : Option (List String) → Option (List String)
  | some c => some c
  | none => match defaultCols var with
    | some d => some d.1
    | none => none

/-- The optional `location` argument, defaulted from the table. -/
def resolveLoc (var : String) : Option Nat → Option Nat
  | some l => some l
  | none => match defaultCols var with
    | some d => some d.2
    | none => none

/-- Pairwise distinct keys (`Index.is_unique`). -/
def allDistinct : List (Int × Int) → Bool
  | [] => true
  | a :: l => !(l.contains a) && allDistinct l

/-- The stored elements of the geometry that occur in the variable's frame, in stored order. -/
def enElements {V} (g : Geometry V) (fr : Frame V) : List (Int × Nat × List Int) :=
  g.elements.filter (fun el => (fr.rows.map (·.eid)).contains el.1)

/-- The (element, node) pairs of those elements in the order of the stored connectivity: the order in which a
reader assigns the values of an element nodal variable. -/
def enTarget {V} (g : Geometry V) (fr : Frame V) : List (Int × Int) :=
  (enElements g fr).flatMap (fun el => el.2.2.map (fun n => (el.1, n)))

/-- The frame row with a given (element, node) key. -/
def rowAt {V} (rows : List (Row V)) (k : Int × Int) : Option (Row V) := rows.find? (fun r => r.key == k)

/-- The two datasets of a variable group for a frame whose columns `idx` are exported.  NODE: first
non-missing cell per node.  ELEMENT_NODAL (`_element_nodal_positions`): the frame's rows looked up by the stored
(element, node) pairs; `none` (KeyError / InvalidIndexError) when the frame's keys are not distinct, a stored pair has no
row, or the frame has other rows than those.
Scope: the model asks for distinct keys.  The code (/repo commit a06569b) also accepts the geometry's OWN repeated pairs - a
collapsed element such as 1 2 4 4 - by numbering the occurrences on both sides; frames with repeated (element, node) pairs are
outside this model and its theorems (pyLife's importer multiplies such rows in its joins); that case is judged on the file by the
harness (scenario `collapsed`).  The code collects the values and runs these checks before it creates the state / geometry
groups; the model creates the groups first - groups that hold no variable are not content and are not compared. -/
def buildVariable {V} [Cell V] (loc : Nat) (g : Geometry V) (fr : Frame V) (idx : List Nat) : Option (Variable V) :=
  if loc = 2 then
    some ⟨2, idx.length, nodeIds fr, (nodeIds fr).map (nodeValue fr.rows idx)⟩
  else
    let keys := fr.rows.map Row.key
    let tgt := enTarget g fr
    if allDistinct keys && tgt.all (fun k => keys.contains k) && (keys.length == tgt.length) then
      some ⟨loc, idx.length, (enElements g fr).map (·.1),
        tgt.filterMap (fun k => (rowAt fr.rows k).map (selRow idx))⟩
    else none

/-- The identifiers a variable of location `loc` writes fit the format. -/
def varIdsFit {V} (loc : Nat) (fr : Frame V) : Bool :=
  if loc = 2 then (nodeIds fr).all fits32 else (elemIds fr).all fits32

/-- The state group and the geometry group below it are created on demand (and stay). -/
def ensureGroup {V} (f : File V) (state geom : String) : File V :=
  if f.groups.contains (state, geom) then f else { f with groups := f.groups ++ [(state, geom)] }

/-- `add_variable` from the point where the arguments are resolved and the groups exist: the variable group is
created, filled, and deleted again if filling raises. -/
def addVariableCore {V} [Cell V] (f1 : File V) (g : Geometry V) (state geom var : String) (fr : Frame V)
    (names : List String) (l : Nat) : File V × Option Err :=
  if (f1.vars.lookup (state, geom, var)).isSome then (f1, some .key) else
  let f2 : File V := { f1 with vars := f1.vars ++ [((state, geom, var), (⟨l, names.length, [], []⟩ : Variable V))] }
  let rollback : File V := { f2 with vars := eraseKey (state, geom, var) f2.vars }
  match colIdx fr.cols names with
  | none => (rollback, some .exportErr)
  | some idx =>
    if names.any (fun c => fr.objCols.contains c) then (rollback, some .exportErr) else
    match buildVariable l g fr idx with
    | none => (rollback, some .exportErr)
    | some v => ({ f2 with vars := setKey (state, geom, var) v f2.vars }, none)

/-- `add_variable`.  `cols = none` / `loc = none`: the optional arguments are not given; `loc = some k` with
`k ∉ {2, 6}` stands for a `location` that is not a `VariableLocations` member. -/
def addVariable {V} [Cell V] (f : File V) (state geom var : String) (fr : Frame V)
    (cols : Option (List String)) (loc : Option Nat) : File V × Option Err :=
  match f.geoms.lookup geom with
  | none => (f, some .key)
  | some g =>
    -- the arguments are validated before anything is created in the file
    match resolveCols var cols with
    | none => (f, some .key)
    | some names =>
      match resolveLoc var loc with
      | none => (f, some .apiUse)
      | some l =>
        if l ≠ 2 ∧ l ≠ 6 then (f, some .apiUse) else
        if !(varIdsFit l fr) then (f, some .exportErr) else
        addVariableCore (ensureGroup f state geom) g state geom var fr names l

/-- The node ids (`kind = 0`) or element ids (`kind = 1`) of a frame. -/
def idsOf {V} (kind : Nat) (fr : Frame V) : List Int := fr.rows.map (fun r => if kind = 0 then r.nid else r.eid)

/-- `add_node_set` (`kind = 0`) / `add_element_set` (`kind = 1`); `nameOk = false`: `name` is not a `str`.
(The code looks the geometry up before it checks that the members fit int32; both refusals leave the file as it is, so their
order does not show.) -/
def addSet {V} (f : File V) (kind : Nat) (geom : String) (ids : List Int) (fr : Frame V)
    (nameOk : Bool) (name : String) : File V × Option Err :=
  if !(ids.all (fun i => (idsOf kind fr).contains i)) then (f, some .key) else
  if !nameOk then (f, some .typeErr) else
  if !(ids.all fits32) then (f, some .overflow) else
  match f.geoms.lookup geom with
  | none => (f, some .key)
  | some g => ({ f with geoms := setKey geom { g with sets := g.sets ++ [⟨kind, name, ids⟩] } f.geoms }, none)

/-! ### Importer -/

/-- `_mesh_index`: one (element, node) entry per connectivity entry, elements in file order. -/
def meshIndex {V} (g : Geometry V) : List (Int × Int) :=
  g.elements.flatMap (fun el => el.2.2.map (fun n => (el.1, n)))

/-- What a joined block contributes to one mesh row: the partner's cells, one per column; `none` = the row has no partner
(`width` NaN cells). -/
def cellsOf {V} (width : Nat) : Option (List V) → List (Option V)
  | some c => c.map some
  | none => List.replicate width none

/-- `nodes(geometry)` looked up at a node id. -/
def coordAt {V} (g : Geometry V) (n : Int) : Option (List V) := (g.pointIds.zip g.coords).lookup n

/-- `_var_element_nodal_index` (the location-6 case of `_make_index`): the mesh index entries of the listed elements. -/
def varIndex {V} (g : Geometry V) (v : Variable V) : List (Int × Int) :=
  v.ids.flatMap (fun e => (meshIndex g).filter (fun k => k.1 == e))

/-- The variable's value at a mesh row. -/
def varAt {V} (g : Geometry V) (v : Variable V) (k : Int × Int) : Option (List V) :=
  if v.loc = 2 then (v.ids.zip v.values).lookup k.2 else ((varIndex g v).zip v.values).lookup k

abbrev MeshRows (V : Type) := List ((Int × Int) × List (Option V))

/-- The importer object's state between calls. -/
structure Session (V : Type) where
  mesh : Option (List String × MeshRows V)   -- column labels, rows
  geometry : String
  state : Option String

def Session.init {V} : Session V := ⟨none, "", none⟩

inductive ImpOp where
  | makeMesh (geom : String) (state : Option String)
  | joinCoords
  | joinVar (var : String) (state : Option String) (cols : Option (List String))
  | filterNodes (set : String)
  | filterElems (set : String)

/-- Names of the sets of one kind, as the keys of the dict `_geometry_sets` builds. -/
def setNames {V} (g : Geometry V) (kind : Nat) : List String :=
  ((g.sets.filter (fun s => s.kind == kind)).map (·.name)).eraseDups

/-- The dict lookup: the last set stored under that name wins. -/
def setIds {V} (g : Geometry V) (kind : Nat) (name : String) : Option (List Int) :=
  (g.sets.reverse.find? (fun s => s.kind == kind && s.name == name)).map (·.ids)

def joinBlock {V} (labels : List String) (rows : MeshRows V) (newLabels : List String)
    (cells : (Int × Int) → List (Option V)) : Except Err (List String × MeshRows V) :=
  if newLabels.any (fun l => labels.contains l) then .error .value
  else .ok (labels ++ newLabels, rows.map (fun r => (r.1, r.2 ++ cells r.1)))

/-- The state a `join_variable` call uses: its own argument, else the one remembered by the object. -/
def pickState (st cur : Option String) : Option String :=
  match st with
  | some x => some x
  | none => cur

/-- One importer call.  Returns the session afterwards and the exception raised, if any. -/
def impStep {V} (f : File V) (s : Session V) : ImpOp → Session V × Option Err
  | .makeMesh geom st =>
    match f.geoms.lookup geom with
    | none => (s, some .key)
    | some g => (⟨some ([], (meshIndex g).map (fun k => (k, []))), geom, st⟩, none)
  | .joinCoords =>
    match s.mesh with
    | none => (s, some .apiUse)
    | some (labels, rows) =>
      match f.geoms.lookup s.geometry with
      | none => (s, some .key)
      | some g =>
        match joinBlock labels rows (["x", "y", "z"].take g.ncoord) (fun k => cellsOf g.ncoord (coordAt g k.2)) with
        | .error e => (s, some e)
        | .ok m => ({ s with mesh := some m }, none)
  | .joinVar var st cols =>
    match s.mesh with
    | none => (s, some .apiUse)
    | some (labels, rows) =>
      match pickState st s.state with
      | none => (s, some .apiUse)
      | some state =>
        match f.geoms.lookup s.geometry with
        | none => (s, some .key)
        | some g =>
          if !(f.groups.contains (state, s.geometry)) then (s, some .key) else
          let s1 : Session V := { s with state := some state }     -- `self._state = state` precedes the look-up
          match resolveCols var cols with
          | none => (s1, some .key)
          | some names =>
            match f.vars.lookup (state, s.geometry, var) with
            | none => (s1, some .key)
            | some v =>
              if names.length ≠ v.ncols then (s1, some .value) else
              let index := if v.loc = 2 then v.ids.map (fun n => ((0 : Int), n)) else varIndex g v
              if index.length ≠ v.values.length then (s1, some .value) else
              match joinBlock labels rows names (fun k => cellsOf v.ncols (varAt g v k)) with
              | .error e => (s1, some e)
              | .ok m => ({ s1 with mesh := some m }, none)
  | .filterNodes set =>
    match s.mesh with
    | none => (s, some .apiUse)
    | some (labels, rows) =>
      match (f.geoms.lookup s.geometry).bind (fun g => setIds g 0 set) with
      | none => (s, some .key)
      | some ids => ({ s with mesh := some (labels, rows.filter (fun r => ids.contains r.1.2)) }, none)
  | .filterElems set =>
    match s.mesh with
    | none => (s, some .apiUse)
    | some (labels, rows) =>
      match (f.geoms.lookup s.geometry).bind (fun g => setIds g 1 set) with
      | none => (s, some .key)
      | some ids => ({ s with mesh := some (labels, rows.filter (fun r => ids.contains r.1.1)) }, none)

/-- A call chain `make_mesh(…).join…(…)…`; stops at the first exception (position reported). -/
def runChain {V} (f : File V) : Session V → List ImpOp → Nat → Session V × Option (Err × Nat)
  | s, [], _ => (s, none)
  | s, op :: ops, i =>
    match impStep f s op with
    | (s', some e) => (s', some (e, i))
    | (s', none) => runChain f s' ops (i + 1)

/-- `to_frame()`: hands out the mesh and resets it. -/
def toFrame {V} (s : Session V) : Session V × Except Err (List String × MeshRows V) :=
  match s.mesh with
  | none => (s, .error .apiUse)
  | some m => ({ s with mesh := none }, .ok m)

/-- A whole read: chain, then `to_frame()`. -/
def readFrame {V} (f : File V) (s : Session V) (ops : List ImpOp) :
    Session V × Except (Err × Nat) (List String × MeshRows V) :=
  match runChain f s ops 0 with
  | (s', some e) => (s', .error e)
  | (s', none) =>
    match toFrame s' with
    | (s'', .error e) => (s'', .error (e, ops.length))
    | (s'', .ok m) => (s'', .ok m)

end PylifeVerif.Vmap
