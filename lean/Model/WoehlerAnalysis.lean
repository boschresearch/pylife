/-
Model of the Wöhler test-data analysis (property C18).

  * `materialdata/woehler/fatigue_data.py`   FatigueData: fractures / runouts, `_calc_finite_zone*`,
                                              `finite_infinite_transition`, `irrelevant_runouts_dropped`
  * `materialdata/woehler/elementary.py`     Elementary: `_fit_slope`, `_transition_cycles`, `_pearl_chain_method`
  * `materialdata/woehler/pearl_chain.py`    PearlChainProbability (shift to the mean load, sort, Rossow)
  * `utils/probability_data.py`              ProbabilityFit (regression of Φ⁻¹(p) on log10 of the occurrences)
  * `materialdata/woehler/probit.py`         Probit (`__probit_rossow_estimation`, `__probit_analysis`)
  * `materialdata/woehler/likelihood.py`     Likelihood (`likelihood_finite`, `likelihood_infinite`, `likelihood_total`)
  * `scipy.stats.linregress`                 modelled by the OLS closed form (slope = Sxy / Sxx, intercept = ȳ − slope·x̄)

  * `materialdata/woehler/maxlike.py`        MaxLikeInf / MaxLikeFull: start point, objective handed to the optimiser, fixed
                                              parameters (no run-outs: SD = 0, TS = 1; fewer than two mixed levels: TS of the
                                              pearl chain), post-processing of the optimiser's answer

`scipy.stats.norm.ppf` / `cdf` are PARAMETERS `Q`, `Φ` of the model.  `scipy.optimize.fmin` is a PARAMETER `opt` of the
maximum-likelihood pipelines `maxLikeInf` / `maxLikeFull`: `opt f` is the point (in parameters RELATIVE to the start
values, as the code optimises since fc45e06) that the optimiser returns for the objective `f`; nothing is assumed of it.
For `maxLikeFull` it is `opt f x₀`: there the start vector `start / scale` depends on the data (0 where a start value is 0)
and is handed over as well.

Generic in the carrier (see `Model/Num.lean`).  No Mathlib import.
-/
import Model.Num

namespace PylifeVerif.WoehlerAnalysis

variable {α : Type} [Add α] [Sub α] [Mul α] [Div α] [Neg α] [OfScientific α]
  [LT α] [LE α] [DecidableLT α] [DecidableLE α] [Transc α]

/-- one fatigue test: load level, cycles (to failure or at run-out), fracture flag -/
structure Test (α : Type) where
  load : α
  cycles : α
  fracture : Bool

/-! ### list arithmetic -/

def sum : List α → α
  | [] => 0.0
  | x :: xs => x + sum xs

/-- the length of a list as an element of the carrier -/
def lenα {β : Type} : List β → α
  | [] => 0.0
  | _ :: xs => lenα xs + 1.0

def mean (l : List α) : α := sum l / lenα l

/-- maximum of a non-empty list (first element for the empty tail) -/
def maxOf (x : α) : List α → α
  | [] => x
  | y :: ys => maxOf (if x < y then y else x) ys

def minOf (x : α) : List α → α
  | [] => x
  | y :: ys => minOf (if y < x then y else x) ys

/-- equality of carrier elements through the order (`Float` has no decidable equality) -/
def eqα (a b : α) : Bool := decide (a ≤ b) && decide (b ≤ a)

/-! ### ordinary least squares (`scipy.stats.linregress`) -/

/-- `(slope, intercept)` of the regression of the second on the first coordinate -/
def ols (pts : List (α × α)) : α × α :=
  let xm := mean (pts.map (·.1))
  let ym := mean (pts.map (·.2))
  let sxy := sum (pts.map fun p => (p.1 - xm) * (p.2 - ym))
  let sxx := sum (pts.map fun p => (p.1 - xm) * (p.1 - xm))
  let slope := sxy / sxx
  (slope, ym - slope * xm)

/-! ### zones (`fatigue_data.py`) -/

def fractures (d : List (Test α)) : List (Test α) := d.filter (·.fracture)
def runouts (d : List (Test α)) : List (Test α) := d.filter (!·.fracture)

/-- `max_runout_load` (only used when there are run-outs) -/
def maxRunoutLoad (d : List (Test α)) : α :=
  match (runouts d).map (·.load) with
  | [] => 0.0
  | x :: xs => maxOf x xs

/-- `_calc_finite_zone`: fractures strictly above the highest run-out level; everything when there is no run-out -/
def finiteZone (d : List (Test α)) : List (Test α) :=
  if (runouts d).isEmpty then d
  else (fractures d).filter fun t => decide (maxRunoutLoad d < t.load)

/-- `_calc_finite_zone`: all tests at or below the highest run-out level -/
def infiniteZone (d : List (Test α)) : List (Test α) :=
  if (runouts d).isEmpty then []
  else d.filter fun t => decide (t.load ≤ maxRunoutLoad d)

/-- `_guess_from_second_highest_runout`: `m₁ + (m₁ − m₀)/2` with the two highest distinct load levels -/
def guessTransition (d : List (Test α)) : α :=
  match d.map (·.load) with
  | [] => 0.0
  | x :: xs =>
    let m1 := maxOf x xs
    match (x :: xs).filter (fun l => decide (l < m1)) with
    | [] => m1                       -- the code raises IndexError (a single load level); never reached by the analyzers
    | y :: ys => m1 + (m1 - maxOf y ys) / 2.0

/-- `finite_infinite_transition` (automatic) -/
def transition (d : List (Test α)) : α :=
  if (runouts d).isEmpty then 0.0
  else match (finiteZone d).map (·.load) with
    | [] => guessTransition d
    | x :: xs => (minOf x xs + maxRunoutLoad d) / 2.0

/-- `irrelevant_runouts_dropped`: pure run-out levels below the highest pure run-out level are dropped when that level
lies below every fractured level (and there are at least two pure run-out levels). -/
def irrelevantRunoutsDropped (d : List (Test α)) : List (Test α) :=
  let fl := (fractures d).map (·.load)
  let pure := ((runouts d).map (·.load)).filter fun l => !(fl.any (eqα l))
  match pure, fl with
  | p :: ps, f :: fs =>
    if ps.all (eqα p) then d                       -- at most one pure run-out level
    else
      let pmax := maxOf p ps
      if pmax < minOf f fs then d.filter (fun t => !(decide (t.load < pmax))) else d
  | _, _ => d

/-! ### Elementary -/

structure Curve (α : Type) where
  k1 : α
  ND : α
  SD : α
  TN : α
  TS : α

/-- `_fit_slope`: regression of log10 cycles on log10 load over the fractures of the finite zone -/
def fitSlope (d : List (Test α)) : α × α :=
  ols (((finiteZone d).filter (·.fracture)).map fun t => (Transc.log10 t.load, Transc.log10 t.cycles))

/-- `_transition_cycles` (with the code's substitution of 0.1 for a zero endurance limit) -/
def transitionCycles (slope icpt fit : α) : α :=
  let f := if eqα fit 0.0 then 0.1 else fit
  Transc.pow 10.0 (icpt + slope * Transc.log10 f)

def insertSorted (a : α) : List α → List α
  | [] => [a]
  | b :: bs => if a ≤ b then a :: b :: bs else b :: insertSorted a bs

/-- `np.sort` -/
def sort : List α → List α
  | [] => []
  | a :: as => insertSorted a (sort as)

/-- `rossow_cumfreqs(N)`: `(3 i − 1)/(3 N + 1)`, `i = 1 … N`; `i` runs in the carrier -/
def rossowFrom (i N : α) : Nat → List α
  | 0 => []
  | n + 1 => (3.0 * i - 1.0) / (3.0 * N + 1.0) :: rossowFrom (i + 1.0) N n

def rossow {β : Type} (l : List β) : List α := rossowFrom 1.0 (lenα l) l.length

/-- `std_to_scattering_range(1/slope)` -/
def scatterOfSlope (s : α) : α := Transc.pow 10.0 (2.5631031310892007 * (1.0 / s))

/-- the cycles shifted along the slope to the mean load, sorted (`PearlChainProbability.normed_cycles`) -/
def normedCycles (ff : List (Test α)) (slope : α) : List α :=
  let nl := mean (ff.map (·.load))
  sort (ff.map fun t => t.cycles * Transc.pow (nl / t.load) slope)

/-- slope of the probability-net regression of the pearl chain (`ProbabilityFit.slope`) -/
def pearlChainSlope (Q : α → α) (ff : List (Test α)) (slope : α) : α :=
  let nc := normedCycles ff slope
  (ols ((nc.map Transc.log10).zip ((rossow nc).map Q))).1

/-- `Elementary._common_analysis` on already reduced data -/
def elementaryCore (Q : α → α) (d : List (Test α)) : Curve α :=
  let ff := (finiteZone d).filter (·.fracture)
  let (slope, icpt) := fitSlope d
  let TN := scatterOfSlope (pearlChainSlope Q ff slope)
  { k1 := -slope, ND := transitionCycles slope icpt (transition d), SD := transition d,
    TN := TN, TS := Transc.pow TN (1.0 / -slope) }

/-- `Elementary(df).analyze()` in the regular case (two fractured load levels with spread of cycles in the finite zone) -/
def elementary (Q : α → α) (d : List (Test α)) : Curve α := elementaryCore Q (irrelevantRunoutsDropped d)

/-! ### Probit -/

/-- consecutive duplicates removed (input sorted) -/
def dedup : List α → List α
  | [] => []
  | [a] => [a]
  | a :: b :: rest => if eqα a b then dedup (b :: rest) else a :: dedup (b :: rest)

/-- the load levels of a list of tests, ascending (`groupby('load')`) -/
def levels (d : List (Test α)) : List α := dedup (sort (d.map (·.load)))

/-- Rossow estimate of the failure probability of one level (`__probit_rossow_estimation`) -/
def probitProb (g : List (Test α)) : α :=
  let frac : α := lenα (fractures g)
  let tot : α := lenα g
  if (fractures g).isEmpty then 1.0 - Transc.pow 0.5 (1.0 / tot)
  else if (runouts g).isEmpty then Transc.pow 0.5 (1.0 / tot)
  else (3.0 * frac - 1.0) / (3.0 * tot + 1.0)

/-- the points of the probit regression: `(log10 level, Φ⁻¹(estimated failure probability))` -/
def probitPoints (Q : α → α) (inf : List (Test α)) : List (α × α) :=
  (levels inf).map fun L =>
    let g := inf.filter fun t => eqα t.load L
    (Transc.log10 (mean (g.map (·.load))), Q (probitProb g))

/-- `Probit(df).analyze()` in the regular case -/
def probit (Q : α → α) (d0 : List (Test α)) : Curve α :=
  let d := irrelevantRunoutsDropped d0
  let wc := elementaryCore Q d
  let (slope, icpt) := fitSlope d
  let inf := infiniteZone d
  match levels inf with
  | _ :: _ :: _ =>
    let (ps, pi) := ols (probitPoints Q inf)
    let SD := Transc.pow 10.0 (-pi / ps)
    { wc with TS := scatterOfSlope ps, SD := SD, ND := transitionCycles slope icpt SD }
  | _ => wc        -- fewer than two levels in the infinite zone: falls back to Elementary (with a warning)

/-! ### likelihood (`likelihood.py`); `none` = the code's `-inf` -/

/-- `scattering_range_to_std` -/
def stdOfScatter (T : α) : α := 0.39015207303618954 * Transc.log10 T

/-- log of `norm.pdf(x, mu, std)` -/
def logNormPdf (x mu std : α) : α :=
  let z := (x - mu) / std
  Transc.log (Transc.exp (-(z * z) / 2.0) / (Transc.sqrt (2.0 * 3.141592653589793) * std))

/-- `likelihood_finite(SD, k_1, ND, TN)`: over ALL fractures -/
def likFinite (d : List (Test α)) (SD k1 ND TN : α) : Option α :=
  if 0.0 < SD then
    some (sum ((fractures d).map fun t =>
      logNormPdf (Transc.log10 (t.cycles * Transc.pow (t.load / SD) k1)) (Transc.log10 ND) (stdOfScatter TN)))
  else none

/-- one factor of the infinite-zone likelihood: `Φ` for a fracture, `1 − Φ` for a run-out -/
def infFactor (Φ : α → α) (SD TS : α) (t : Test α) : α :=
  let p := Φ (Transc.log10 (t.load / SD) / Transc.abs (stdOfScatter TS))
  if t.fracture then 0.0 + (1.0 - 2.0 * 0.0) * p else 1.0 + (1.0 - 2.0 * 1.0) * p

/-- `likelihood_infinite(SD, TS)` over the infinite zone -/
def likInfinite (Φ : α → α) (d : List (Test α)) (SD TS : α) : Option α :=
  let fs := (infiniteZone d).map (infFactor Φ SD TS)
  if fs.any (eqα 0.0) then none else some (sum (fs.map Transc.log))

def likTotal (Φ : α → α) (d : List (Test α)) (c : Curve α) : Option α :=
  match likFinite d c.SD c.k1 c.ND c.TN, likInfinite Φ d c.SD c.TS with
  | some a, some b => some (a + b)
  | _, _ => none

/-! ### maximum likelihood (`maxlike.py`); the optimiser is a parameter -/

/-- the objective `MaxLikeInf.__max_likelihood_inf_limit` hands to `fmin` (negated there): the infinite-zone likelihood in
parameters relative to the start values `SD_start = finite_infinite_transition`, `TS_start = 1.2`; `d` = reduced data -/
def maxLikeInfObjective (Φ : α → α) (d : List (Test α)) (p : α × α) : Option α :=
  likInfinite Φ d (p.1 * transition d) (p.2 * 1.2)

/-- `MaxLikeInf(df).analyze()` in the regular case; `opt f` = the relative parameters the optimiser returns for objective `f`
(started at `(1, 1)`).  `SD`, `TS` come from the optimiser, `ND` is re-evaluated at the new `SD`, `k_1`, `TN` stay. -/
def maxLikeInf (Q Φ : α → α) (opt : (α × α → Option α) → α × α) (d0 : List (Test α)) : Curve α :=
  let d := irrelevantRunoutsDropped d0
  let wc := elementaryCore Q d
  let (slope, icpt) := fitSlope d
  let r := opt (maxLikeInfObjective Φ d)
  let SD := r.1 * transition d
  { wc with SD := SD, TS := r.2 * 1.2, ND := transitionCycles slope icpt SD }

/-- `L` is a mixed load level: a fracture and a run-out were observed on it (`FatigueData.mixed_loads`) -/
def isMixedLoad (d : List (Test α)) (L : α) : Bool :=
  (fractures d).any (fun t => eqα t.load L) && (runouts d).any (fun t => eqα t.load L)

/-- `len(mixed_loads) < 2`: any two mixed load levels coincide -/
def fewMixedLevels (d : List (Test α)) : Bool :=
  d.all fun t => d.all fun u => !(isMixedLoad d t.load && isMixedLoad d u.load) || eqα t.load u.load

/-- the scale of one optimisation variable of `MaxLikeFull`: its start value, or 1 when the start value is 0 (the optimiser
must be able to leave a zero start: /repo commit d747c6e) -/
def relScale (s : α) : α := if eqα s 0.0 then 1.0 else s

/-- the start vector of `MaxLikeFull`'s search in scaled variables: `start / scale` = 1, or 0 for a zero start value -/
def fullStart (wc : Curve α) : Curve α :=
  { k1 := wc.k1 / relScale wc.k1, ND := wc.ND / relScale wc.ND, SD := wc.SD / relScale wc.SD,
    TN := wc.TN / relScale wc.TN, TS := wc.TS / relScale wc.TS }

/-- The curve `MaxLikeFull.__likelihood_wrapper` / `__make_parameters` build from the optimiser's vector `rel` (in units
of `relScale` of the start curve `wc`; components of fixed parameters are ignored) - without user-fixed parameters:
no run-outs: `SD = 0`, `TS = 1` fixed; run-outs but fewer than two mixed levels: `TS` fixed to the pearl-chain value
(which is `wc.TS`); every component passes through `np.abs`. -/
def fullParams (d : List (Test α)) (wc rel : Curve α) : Curve α :=
  let noRun := (runouts d).isEmpty
  { k1 := Transc.abs (rel.k1 * relScale wc.k1), ND := Transc.abs (rel.ND * relScale wc.ND),
    TN := Transc.abs (rel.TN * relScale wc.TN),
    SD := if noRun then Transc.abs 0.0 else Transc.abs (rel.SD * relScale wc.SD),
    TS := if noRun then Transc.abs 1.0 else if fewMixedLevels d then Transc.abs wc.TS
          else Transc.abs (rel.TS * relScale wc.TS) }

/-- the objective `MaxLikeFull.__max_likelihood_full` hands to `fmin` (negated there).  `ND = 0`: the code computes
`log10 ND = -inf`, the likelihood is `-inf` (`none`); `SD = 0` (always so without run-outs) is `-inf` by `likFinite`. -/
def maxLikeFullObjective (Φ : α → α) (d : List (Test α)) (wc rel : Curve α) : Option α :=
  let c := fullParams d wc rel
  if 0.0 < c.ND then likTotal Φ d c else none

/-- `MaxLikeFull(df).analyze()` (no user-fixed parameters) in the regular case; `opt f x₀` = the vector the optimiser
returns for objective `f` started at `x₀` (`fullStart`: ones, zero where the elementary start value is zero) -/
def maxLikeFull (Q Φ : α → α) (opt : (Curve α → Option α) → Curve α → Curve α) (d0 : List (Test α)) : Curve α :=
  let d := irrelevantRunoutsDropped d0
  let wc := elementaryCore Q d
  fullParams d wc (opt (maxLikeFullObjective Φ d wc) (fullStart wc))

/-! ### the transformations of the property (used by the theorems and the driver) -/

/-- all loads multiplied by `c` -/
def scaleLoad (c : α) (d : List (Test α)) : List (Test α) := d.map fun t => { t with load := c * t.load }

/-- all cycle numbers multiplied by `c` -/
def scaleCycles (c : α) (d : List (Test α)) : List (Test α) := d.map fun t => { t with cycles := c * t.cycles }

end PylifeVerif.WoehlerAnalysis
